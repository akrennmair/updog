/-
C01 (32-bit row counter) — `count_correct` and its companions for the index opened from the file the CODE persists
(`uint32` counter, 4 bytes under `'I'`; `Model/Counter32.lean`), for both writers, under `FitsCounter rows`
(fewer than 2^32 rows). `C01.count_correct` / `C01.count_correct_big` are true as stated, on the unbounded counter of
`Model/Index.lean`; for the code's counter the property should cite `count_correct_fits`.
The bound is sharp: `C05.counter32_wraps`, `C05.not_ignored_when_wrapped`.
-/
import Updog.Props.C05Counter
import Updog.Props.C01Writers
namespace Updog.C01
open Updog

variable (H : Bytes → UInt64)

/-- **Transfer of every query.** With fewer than 2^32 rows, `Execute` on the index opened from the persisted file of
either 32-bit writer returns exactly what it returns on `(Writer.addRows H {} rows).toIndex` — for EVERY query. -/
theorem execute32_eq_fits (rows : List Row) (hfit : FitsCounter rows) (q : Query) :
    execute H (Writer32.image H rows).open q = execute H (Writer.addRows H {} rows).toIndex q ∧
    execute H (BigWriter32.image H rows).open q = execute H (Writer.addRows H {} rows).toIndex q := by
  obtain ⟨h1, h2⟩ := C05.open32_eq_fits H rows hfit
  rw [h1, h2]
  exact ⟨rfl, same_answer_both_writers H rows (Nat.le_of_lt hfit) q⟩

/-- **Total count, code's counter.** For every dataset of fewer than 2^32 rows, every well-formed expression over
columns of the data and every hash without a collision between a data pair and a different tested pair: `Execute` on
the index opened from the file written by the in-memory writer, and on the one written by the big writer, returns
exactly the number of rows satisfying the expression. -/
theorem count_correct_fits (rows : List Row) (e : Expr) (hfit : FitsCounter rows)
    (hcols : ∀ c ∈ e.columns, c ∈ columnsOf rows) (hwf : e.arityPos = true)
    (hinj : NoCollision H rows e.pairs) :
    execute H (Writer32.image H rows).open ⟨e, []⟩ = some ⟨specCount rows e, []⟩ ∧
    execute H (BigWriter32.image H rows).open ⟨e, []⟩ = some ⟨specCount rows e, []⟩ := by
  obtain ⟨h1, h2⟩ := execute32_eq_fits H rows hfit ⟨e, []⟩
  rw [h1, h2]
  exact ⟨count_correct H rows e hcols hwf hinj, count_correct H rows e hcols hwf hinj⟩

/-- a query testing a column that occurs in no row is an error on both files -/
theorem unknown_column_errors_fits (rows : List Row) (hfit : FitsCounter rows) (q : Query) (c : Bytes)
    (hc : c ∈ q.expr.columns) (hno : c ∉ columnsOf rows) :
    execute H (Writer32.image H rows).open q = none ∧ execute H (BigWriter32.image H rows).open q = none := by
  obtain ⟨h1, h2⟩ := execute32_eq_fits H rows hfit q
  rw [h1, h2]
  exact ⟨unknown_column_errors H rows q c hc hno, unknown_column_errors H rows q c hc hno⟩

/-! ### non-vacuity -/

/-- the hypotheses of `count_correct_fits` hold for the dataset and expression of `C01.lean` -/
example : FitsCounter exRows ∧ (∀ c ∈ exExpr.columns, c ∈ columnsOf exRows) ∧ exExpr.arityPos = true ∧
    NoCollision toyH exRows exExpr.pairs :=
  ⟨by decide +kernel, by decide +kernel, by decide +kernel, by unfold NoCollision; decide +kernel⟩

example : execute toyH (Writer32.image toyH exRows).open ⟨exExpr, []⟩ = some ⟨2, []⟩ ∧
    execute toyH (BigWriter32.image toyH exRows).open ⟨exExpr, []⟩ = some ⟨2, []⟩ := by
  have := count_correct_fits toyH exRows exExpr (by decide +kernel) (by decide +kernel) (by decide +kernel)
    (by unfold NoCollision; decide +kernel)
  simpa [specCount, exRows, exExpr, sat, satAny] using this

end Updog.C01
