/-
C19 — `updog create` ingests a CSV faithfully in both modes: header normalisation and record → row mapping.
(That both writers give the same index from the same rows is C05 `writers_agree`; that an existing output is not
touched is C16.)
-/
import Updog.Model.Create
namespace Updog.C19

def isLowerOrUnderscore (b : UInt8) : Bool := (97 ≤ b && b ≤ 122) || b == 95

theorem lower_toUInt8 (n : Nat) (h : 97 ≤ n ∧ n ≤ 122) : isLowerOrUnderscore n.toUInt8 = true := by
  have e : n.toUInt8.toNat = n := UInt8.toNat_ofNat_of_lt' (by omega : n < 256)
  have h1 : (97 : UInt8) ≤ n.toUInt8 := UInt8.le_iff_toNat_le.mpr (by rw [e]; exact h.1)
  have h2 : n.toUInt8 ≤ (122 : UInt8) := UInt8.le_iff_toNat_le.mpr (by rw [e]; exact h.2)
  simp [isLowerOrUnderscore, h1, h2]

theorem normRune_alphabet (r : Nat) : isLowerOrUnderscore (normRune r) = true := by
  unfold normRune
  by_cases h1 : 97 ≤ r ∧ r ≤ 122
  · rw [if_pos h1]; exact lower_toUInt8 r h1
  by_cases h2 : 65 ≤ r ∧ r ≤ 90
  · rw [if_neg h1, if_pos h2]; exact lower_toUInt8 _ (by omega)
  rw [if_neg h1, if_neg h2]
  by_cases h3 : r = 0x130
  · rw [if_pos h3]; rfl
  by_cases h4 : r = 0x212A
  · rw [if_neg h3, if_pos h4]; rfl
  rw [if_neg h3, if_neg h4]; rfl

theorem normalizeAux_alphabet (fuel : Nat) (h : Bytes) : ∀ b ∈ normalizeAux fuel h, isLowerOrUnderscore b = true := by
  induction fuel generalizing h with
  | zero => intro b hb; simp [normalizeAux] at hb
  | succ n ih =>
    cases h with
    | nil => intro b hb; simp [normalizeAux] at hb
    | cons c rest =>
      intro b hb
      simp only [normalizeAux, List.mem_cons] at hb
      rcases hb with rfl | hb
      · exact normRune_alphabet _
      · exact ih _ b hb

/-- every byte of a normalised header is a–z or `_` -/
theorem normalizeHeader_alphabet (h : Bytes) : ∀ b ∈ normalizeHeader h, isLowerOrUnderscore b = true :=
  normalizeAux_alphabet _ h

/-- on one ASCII byte: lower-case letters kept, upper-case lowered, everything else `_` -/
def asciiNorm (c : UInt8) : UInt8 :=
  if 97 ≤ c ∧ c ≤ 122 then c else if 65 ≤ c ∧ c ≤ 90 then c + 32 else 95

theorem decodeRune_ascii (c : UInt8) (rest : Bytes) (hc : c < 128) : decodeRune (c :: rest) = (c.toNat, 1) := by
  unfold decodeRune
  exact if_pos (UInt8.lt_iff_toNat_lt.mp hc)

theorem normRune_ascii (c : UInt8) (hc : c < 128) : normRune c.toNat = asciiNorm c := by
  have hlt : c.toNat < 128 := UInt8.lt_iff_toNat_lt.mp hc
  have rng (a b : UInt8) : (a ≤ c ∧ c ≤ b) ↔ (a.toNat ≤ c.toNat ∧ c.toNat ≤ b.toNat) :=
    and_congr UInt8.le_iff_toNat_le UInt8.le_iff_toNat_le
  unfold normRune asciiNorm
  by_cases h1 : 97 ≤ c.toNat ∧ c.toNat ≤ 122
  · rw [if_pos h1, if_pos ((rng 97 122).mpr h1)]; exact UInt8.ofNat_toNat
  rw [if_neg h1, if_neg (mt (rng 97 122).mp h1)]
  by_cases h2 : 65 ≤ c.toNat ∧ c.toNat ≤ 90
  · rw [if_pos h2, if_pos ((rng 65 90).mpr h2)]
    exact UInt8.toNat_inj.mp (by rw [UInt8.toNat_ofNat_of_lt' (by omega : c.toNat + 32 < 256), UInt8.toNat_add]; simp; omega)
  rw [if_neg h2, if_neg (mt (rng 65 90).mp h2), if_neg (by omega), if_neg (by omega)]

theorem normalizeAux_ascii (fuel : Nat) (h : Bytes) (hf : h.length ≤ fuel) (hascii : ∀ b ∈ h, b < 128) :
    normalizeAux fuel h = h.map asciiNorm := by
  induction fuel generalizing h with
  | zero =>
    have : h = [] := List.length_eq_zero_iff.mp (by omega)
    subst this; simp [normalizeAux]
  | succ n ih =>
    cases h with
    | nil => simp [normalizeAux]
    | cons c rest =>
      have hc : c < 128 := hascii c (by simp)
      simp only [normalizeAux, decodeRune_ascii c rest hc, List.map_cons, List.drop_succ_cons, List.drop_zero]
      rw [normRune_ascii c hc, ih rest (by simpa using hf) (fun b hb => hascii b (by simp [hb]))]

/-- an ASCII header is normalised byte by byte -/
theorem normalizeHeader_ascii (h : Bytes) (hascii : ∀ b ∈ h, b < 128) : normalizeHeader h = h.map asciiNorm :=
  normalizeAux_ascii _ h (Nat.le_refl _) hascii

theorem asciiNorm_fixed (b : UInt8) (hb : isLowerOrUnderscore b = true) : asciiNorm b = b := by
  unfold isLowerOrUnderscore at hb
  unfold asciiNorm
  simp only [Bool.or_eq_true, Bool.and_eq_true, decide_eq_true_eq, beq_iff_eq] at hb
  rcases hb with h | h
  · simp [h]
  · subst h; decide

/-- normalising twice changes nothing -/
theorem normalizeHeader_idempotent (h : Bytes) : normalizeHeader (normalizeHeader h) = normalizeHeader h := by
  have halpha := normalizeHeader_alphabet h
  have hascii : ∀ b ∈ normalizeHeader h, b < 128 := by
    intro b hb
    have := halpha b hb
    unfold isLowerOrUnderscore at this
    simp only [Bool.or_eq_true, Bool.and_eq_true, decide_eq_true_eq, beq_iff_eq] at this
    rcases this with h | h
    · exact Nat.lt_of_le_of_lt (UInt8.le_iff_toNat_le.mp h.2) (by decide)
    · subst h; decide
  rw [normalizeHeader_ascii _ hascii]
  conv => rhs; rw [← List.map_id (normalizeHeader h)]
  apply List.map_congr_left
  intro b hb
  exact asciiNorm_fixed b (halpha b hb)

theorem createRows_length (header : List Bytes) (records : List (List Bytes)) :
    (createRows header records).length = records.length := by simp [createRows]

/-- the i-th record after the header is row i -/
theorem createRows_get (header : List Bytes) (records : List (List Bytes)) (i : Nat) (hi : i < records.length) :
    (createRows header records)[i]? = some (recordRow (header.map normalizeHeader) records[i]) := by
  simp [createRows, hi]

theorem foldl_record_distinct (kvs : List (Bytes × Bytes)) (acc : Row)
    (hnd : (kvs.map (·.1)).Nodup) (hdisj : ∀ kv ∈ kvs, ∀ a ∈ acc, a.1 ≠ kv.1) :
    kvs.foldl (fun row kv => (row.filter (·.1 != kv.1)) ++ [kv]) acc = acc ++ kvs := by
  induction kvs generalizing acc with
  | nil => simp
  | cons kv rest ih =>
    simp only [List.foldl_cons]
    have hfil : acc.filter (·.1 != kv.1) = acc := by
      apply List.filter_eq_self.mpr
      intro a ha
      simpa using hdisj kv (by simp) a ha
    rw [hfil]
    simp only [List.map_cons, List.nodup_cons] at hnd
    rw [ih (acc ++ [kv]) hnd.2 ?_]
    · simp
    · intro kv' hkv' a ha
      simp only [List.mem_append, List.mem_singleton] at ha
      rcases ha with ha | rfl
      · exact hdisj kv' (by simp [hkv']) a ha
      · intro e
        exact hnd.1 (e ▸ List.mem_map.mpr ⟨kv', hkv', rfl⟩)

/-- with header columns that stay distinct after normalisation, a record becomes the row
    {normalised header[j] ↦ field j}: one value per header column, field contents untouched -/
theorem recordRow_distinct (header record : List Bytes) (hnd : header.Nodup) (hlen : record.length = header.length) :
    recordRow header record = header.zip record := by
  unfold recordRow
  have := foldl_record_distinct (header.zip record) [] ?_ (by simp)
  · simpa using this
  · rw [List.map_fst_zip (by omega)]
    exact hnd

example : normalizeHeader [78, 97, 32, 109, 101] = [110, 97, 95, 109, 101] := by  -- "Na me" ↦ "na_me"
  rw [normalizeHeader_ascii _ (by decide)]; decide
example : normalizeHeader [75, 50, 0xC3, 0x84, 98, 0xFF] = [107, 95, 95, 98, 95] := by  -- "K2Äb\xff" ↦ "k__b_"
  decide
example : recordRow [[97], [98]] [[49], [50]] = [([97], [49]), ([98], [50])] := by decide

end Updog.C19
