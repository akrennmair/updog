/-
C15 — opening fails cleanly on non-index files and always releases the file.
-/
import Updog.Proofs.OpenLock
namespace Updog.C15
open Updog Updog.OpenLock

/-- for every file state and every option set: never a panic, never a hang -/
theorem open_never_panics (fs : FileState) (o : OpenOpts) :
    (openIndex fs o).1 ≠ .panic ∧ (openIndex fs o).1 ≠ .hang := by
  rcases openIndex_cases fs o with h | h <;> rw [h] <;> exact ⟨nofun, nofun⟩

/-- whenever opening fails the file lock is released -/
theorem failed_open_releases (fs : FileState) (o : OpenOpts) (h : (openIndex fs o).1 = .error) :
    (openIndex fs o).2 = false := by
  rcases openIndex_cases fs o with h' | h' <;> rw [h'] at h ⊢
  cases h

/-- opening succeeds exactly on complete indexes (and, when preloading, only if every bitmap decodes) -/
theorem open_ok_iff (fs : FileState) (o : OpenOpts) :
    (openIndex fs o).1 = .ok () ↔ ∃ v, fs = .bolt true .good .good v ∧ (o.preload = true → v = true) := by
  rw [← opens_iff, openIndex_eq]
  cases opens fs o <;> simp

/-- the listed damage kinds are all rejected -/
theorem rejects_incomplete (o : OpenOpts) :
    (openIndex .absent o).1 = .error ∧ (openIndex .notBolt o).1 = .error ∧
    (∀ s i v, (openIndex (.bolt false s i v) o).1 = .error) ∧
    (∀ i v, (openIndex (.bolt true .missing i v) o).1 = .error) ∧
    (∀ i v, (openIndex (.bolt true .bad i v) o).1 = .error) ∧
    (∀ v, (openIndex (.bolt true .good .missing v) o).1 = .error) ∧
    (∀ v, (openIndex (.bolt true .good .malformed v) o).1 = .error) ∧
    (openIndex (.bolt true .good .good false) ⟨true⟩).1 = .error :=
  ⟨rfl, rfl, fun _ _ _ => rfl, fun _ _ => rfl, fun _ _ => rfl, fun _ => rfl, fun _ => rfl, rfl⟩

/-- Close releases the lock, and Close may be called more than once -/
theorem close_releases (held : Bool) : closeIndex held = false ∧ closeIndex (closeIndex held) = closeIndex held := ⟨rfl, rfl⟩

/-- open / fail / open and open / close / open: the second attempt behaves like the first, on an unlocked file -/
theorem reopen_same (fs : FileState) (o : OpenOpts) :
    let r := openIndex fs o
    closeIndex r.2 = false ∧ openIndex fs o = r := ⟨rfl, rfl⟩

example : (openIndex (.bolt true .good .good true) ⟨true⟩) = (.ok (), true) := rfl

end Updog.C15
