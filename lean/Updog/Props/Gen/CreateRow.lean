/-
cmd/updog/create.go, regenerated (`Gen.normalizeHeader`, `Gen.recordRow`) = the hand-written model
(`normalizeHeader`, `recordRow` of `Updog/Model/Create.lean`).
-/
import Updog.GeneratedFns
import Updog.Proofs.GoPreludeT5
import Updog.Props.Gen.Header
import Updog.Model.Create

namespace Updog.GeneratedEq
open Updog.Go

/-! ### the record → row construction -/

theorem indexL_nat {α : Type} [Inhabited α] (xs : List α) (i : Nat) (h : i < xs.length) : indexL xs (i : Int) = xs[i] := by
  have : ¬ ((i : Int) < 0) := by omega
  simp [indexL, this, List.getD, List.getElem?_eq_getElem h]

theorem recordRow_loop (header record : List Bytes) (i : Nat) (m : Map Bytes) (h : i + record.length ≤ header.length) :
    List.foldl (fun (values : Map Bytes) (p : Int × Bytes) => Map.set values (indexL header p.1) p.2) m (enumFrom (i : Int) record)
      = ((header.drop i).zip record).foldl (fun row kv => (row.filter (·.1 != kv.1)) ++ [kv]) m := by
  induction record generalizing i m with
  | nil => simp [enumFrom]
  | cons v vs ih =>
    have hi : i < header.length := by simp at h; omega
    rw [List.drop_eq_getElem_cons hi]
    simp only [enumFrom, List.foldl_cons, List.zip_cons_cons, indexL_nat header i hi]
    rw [show ((i : Int) + 1) = ((i + 1 : Nat) : Int) by simp]
    rw [ih (i + 1) _ (by simp at h ⊢; omega)]
    rfl

/-- regenerated record → row construction = the model's `recordRow`: field `i` of the record is stored under header
    `i` (later duplicates of a column name overwrite earlier ones), for every record that is not longer than the
    header (`encoding/csv` rejects records of another length than the header before this code runs; a longer record
    would make `header[idx]` panic) -/
theorem recordRow_eq (header record : List Bytes) (h : record.length ≤ header.length) :
    Gen.recordRow header record = Updog.recordRow header record := by
  have := recordRow_loop header record 0 [] (by omega)
  simpa [Gen.recordRow, Updog.recordRow, enum, Map.empty] using this

/-! ### UTF-8: decoding an encoded rune -/

theorem toUInt8_toNat (n : Nat) (h : n < 256) : n.toUInt8.toNat = n :=
  UInt8.toNat_ofNat_of_lt' h

theorem ite_prop {α : Type} (P : α → Prop) {c : Prop} [Decidable c] {a b : α} (ha : P a) (hb : P b) :
    P (if c then a else b) := by
  split <;> assumption

/-! `decodeRune` on a lead byte and continuation bytes given by their payload bits, one equation per form of UTF-8
    (`a = 0` would be an overlong form unless the next payload is large enough; `0xED`, `0xF4` bound it from above to
    exclude surrogates and values above U+10FFFF) -/
section
variable (a c1 c2 c3 : Nat) (t : Bytes)

theorem decodeRune_one (h : a < 0x80) : decodeRune (a.toUInt8 :: t) = (a, 1) := by
  unfold decodeRune
  dsimp only
  rw [toUInt8_toNat a (by omega)]
  exact if_pos h

theorem decodeRune_two (l : 2 ≤ a) (u : a < 32) (h1 : c1 < 64) :
    decodeRune ((0xC0 + a).toUInt8 :: (0x80 + c1).toUInt8 :: t) = (a * 64 + c1, 2) := by
  unfold decodeRune
  dsimp only
  rw [toUInt8_toNat _ (by omega : 0xC0 + a < 256), toUInt8_toNat _ (by omega : 0x80 + c1 < 256)]
  rw [if_neg (by omega), if_neg (by omega), if_pos (by omega), if_pos (by omega)]
  simp only [Nat.add_sub_cancel_left]

theorem decodeRune_three (u : a < 16) (h1 : c1 < 64) (h2 : c2 < 64) (lo : a = 0 → 32 ≤ c1) (hi : a = 13 → c1 < 32) :
    decodeRune ((0xE0 + a).toUInt8 :: (0x80 + c1).toUInt8 :: (0x80 + c2).toUInt8 :: t) = (a * 4096 + c1 * 64 + c2, 3) := by
  unfold decodeRune
  dsimp only
  rw [toUInt8_toNat _ (by omega : 0xE0 + a < 256), toUInt8_toNat _ (by omega : 0x80 + c1 < 256),
    toUInt8_toNat _ (by omega : 0x80 + c2 < 256)]
  rw [if_neg (by omega), if_neg (by omega), if_neg (by omega), if_pos (by omega), if_pos]
  · simp only [Nat.add_sub_cancel_left]
  · refine ⟨?_, ?_, by omega, by omega⟩ <;> split <;> omega

theorem decodeRune_four (u : a < 5) (h1 : c1 < 64) (h2 : c2 < 64) (h3 : c3 < 64) (lo : a = 0 → 16 ≤ c1) (hi : a = 4 → c1 < 16) :
    decodeRune ((0xF0 + a).toUInt8 :: (0x80 + c1).toUInt8 :: (0x80 + c2).toUInt8 :: (0x80 + c3).toUInt8 :: t) =
      (a * 262144 + c1 * 4096 + c2 * 64 + c3, 4) := by
  unfold decodeRune
  dsimp only
  rw [toUInt8_toNat _ (by omega : 0xF0 + a < 256), toUInt8_toNat _ (by omega : 0x80 + c1 < 256),
    toUInt8_toNat _ (by omega : 0x80 + c2 < 256), toUInt8_toNat _ (by omega : 0x80 + c3 < 256)]
  rw [if_neg (by omega), if_neg (by omega), if_neg (by omega), if_neg (by omega), if_pos (by omega), if_pos]
  · simp only [Nat.add_sub_cancel_left]
  · refine ⟨?_, ?_, by omega, by omega, by omega, by omega⟩ <;> split <;> omega

end

/-! `x` from its digits in base 64, most significant digit not reduced -/

theorem base64_step (y m : Nat) : y / 64 * (64 * m) + y % 64 * m = y * m := by
  rw [← Nat.mul_assoc, ← Nat.add_mul, Nat.div_add_mod']

theorem base64_three (x : Nat) : x / 4096 * 4096 + x / 64 % 64 * 64 + x % 64 = x := by
  have h := base64_step (x / 64) 64
  rw [Nat.div_div_eq_div_mul] at h
  exact (congrArg (· + x % 64) h).trans (Nat.div_add_mod' x 64)

theorem base64_four (x : Nat) : x / 262144 * 262144 + x / 4096 % 64 * 4096 + x / 64 % 64 * 64 + x % 64 = x := by
  have h := base64_step (x / 4096) 4096
  rw [Nat.div_div_eq_div_mul] at h
  exact (congrArg (· + x / 64 % 64 * 64 + x % 64) h).trans (base64_three x)

/-- what a code point reads back as after `encodeRune`: itself if it is a Unicode scalar value, else U+FFFD -/
def canonRune (r : Nat) : Nat := if 0x10FFFF < r ∨ (0xD800 ≤ r ∧ r ≤ 0xDFFF) then 0xFFFD else r

theorem decode_encode (x : Nat) (t : Bytes) :
    decodeRune (encodeRune x ++ t) = (canonRune x, (encodeRune x).length) := by
  have m (y : Nat) : y % 64 < 64 := Nat.mod_lt y (by decide)
  unfold encodeRune canonRune
  by_cases h1 : x < 0x80
  · rw [if_pos h1, if_neg (by omega)]
    exact decodeRune_one x t h1
  rw [if_neg h1]
  by_cases h2 : x < 0x800
  · rw [if_pos h2, if_neg (by omega)]
    exact (decodeRune_two _ _ t (by omega) (by omega) (m x)).trans (congrArg (·, 2) (Nat.div_add_mod' x 64))
  rw [if_neg h2]
  by_cases h3 : 0x10FFFF < x ∨ (0xD800 ≤ x ∧ x ≤ 0xDFFF)
  · rw [if_pos h3, if_pos h3]
    rfl
  rw [if_neg h3, if_neg h3]
  by_cases h4 : x < 0x10000
  · rw [if_pos h4]
    exact (decodeRune_three _ _ _ t (by omega) (m _) (m x) (by omega) (by omega)).trans
      (congrArg (·, 3) (base64_three x))
  · rw [if_neg h4]
    exact (decodeRune_four _ _ _ _ t (by omega) (m _) (m _) (m x) (by omega) (by omega)).trans
      (congrArg (·, 4) (base64_four x))

theorem encodeRune_ascii {r : Nat} (h : r < 0x80) : encodeRune r = [r.toUInt8] := if_pos h

theorem encodeRune_ne_nil (x : Nat) : encodeRune x ≠ [] :=
  have c {b : UInt8} {l : Bytes} : b :: l ≠ [] := List.cons_ne_nil b l
  have ite {p : Prop} [Decidable p] {a b : Bytes} := @ite_prop Bytes (· ≠ []) p _ a b
  ite c (ite c (ite c (ite c c)))

/-! ### strings.Map, unfolded -/

/-- every branch of `decodeRune` on a non-empty string is a pair with a literal width of 1 to 4 -/
theorem decodeRune_width_pos (b : UInt8) (rest : Bytes) : 1 ≤ (decodeRune (b :: rest)).2 := by
  have one {r : Nat} : 1 ≤ (r, 1).2 := Nat.le_refl 1
  have more {r k : Nat} : 1 ≤ (r, k + 1).2 := Nat.le_add_left 1 k
  have ite {p : Prop} [Decidable p] {a b : Nat × Nat} := @ite_prop (Nat × Nat) (1 ≤ ·.2) p _ a b
  unfold decodeRune
  refine ite one (ite one (ite ?_ (ite ?_ (ite ?_ one))))
  · cases rest with
    | nil => exact one
    | cons b1 _ => exact ite more one
  · rcases rest with _ | ⟨b1, _ | ⟨b2, _⟩⟩
    · exact one
    · exact one
    · exact ite more one
  · rcases rest with _ | ⟨b1, _ | ⟨b2, _ | ⟨b3, _⟩⟩⟩
    · exact one
    · exact one
    · exact one
    · exact ite more one

theorem stringsMapAux_fuel (f : Nat → Nat) (n m : Nat) (s : Bytes) (hn : s.length ≤ n) (hm : s.length ≤ m) :
    stringsMapAux f n s = stringsMapAux f m s := by
  induction n generalizing m s with
  | zero =>
    have : s = [] := List.eq_nil_of_length_eq_zero (by omega)
    subst this; cases m <;> simp [stringsMapAux]
  | succ n ih =>
    cases s with
    | nil => cases m <;> simp [stringsMapAux]
    | cons b rest =>
      cases m with
      | zero => simp at hm
      | succ m =>
        simp only [stringsMapAux]
        have hw := decodeRune_width_pos b rest
        have hl : (List.drop (decodeRune (b :: rest)).2 (b :: rest)).length ≤ rest.length := by
          simp only [List.length_drop, List.length_cons]; omega
        rw [ih m _ (by simp at hn; omega) (by simp at hm; omega)]

theorem stringsMap_cons (f : Nat → Nat) (b : UInt8) (rest : Bytes) :
    stringsMap f (b :: rest) =
      encodeRune (f (decodeRune (b :: rest)).1) ++ stringsMap f ((b :: rest).drop (decodeRune (b :: rest)).2) := by
  simp only [stringsMap, List.length_cons, stringsMapAux]
  have hw := decodeRune_width_pos b rest
  rw [stringsMapAux_fuel f rest.length _ _ (by simp only [List.length_drop, List.length_cons]; omega) (Nat.le_refl _)]

theorem stringsMap_encode (g : Nat → Nat) (x : Nat) (t : Bytes) :
    stringsMap g (encodeRune x ++ t) = encodeRune (g (canonRune x)) ++ stringsMap g t := by
  cases he : encodeRune x with
  | nil => exact absurd he (encodeRune_ne_nil x)
  | cons b rest =>
    have hd := decode_encode x t
    rw [he] at hd
    simp only [List.cons_append] at hd ⊢
    rw [stringsMap_cons, hd]
    simp only [List.length_cons]
    congr 1
    rw [← List.cons_append, List.drop_append]
    simp

/-! ### normalizeHeader -/

theorem headerRune_canon (y : Nat) : Gen.headerRune (canonRune y) = Gen.headerRune y := by
  rw [headerRune_eq, headerRune_eq]
  unfold canonRune
  split
  · rename_i h
    have : ¬ (97 ≤ y ∧ y ≤ 122) := by omega
    simp [this]
  · rfl

theorem encode_headerRune (y : Nat) : encodeRune (Gen.headerRune y) = [(Gen.headerRune y).toUInt8] := by
  apply encodeRune_ascii
  rw [headerRune_eq]
  split <;> omega

/-- one header field: lower-casing then the rune map = the model's `normalizeHeader` (by induction on the latter's fuel) -/
theorem normalizeField_eq (toLower : Nat → Nat) (hs : LowerSpec toLower) (s : Bytes) :
    stringsMap Gen.headerRune (stringsToLower toLower s) = Updog.normalizeHeader s := by
  unfold stringsToLower Updog.normalizeHeader
  generalize hn : s.length = n
  replace hn : s.length ≤ n := Nat.le_of_eq hn
  induction n generalizing s with
  | zero =>
    obtain rfl : s = [] := List.eq_nil_of_length_eq_zero (Nat.le_zero.mp hn)
    rfl
  | succ n ih =>
    cases s with
    | nil => rfl
    | cons b rest =>
      have hw := decodeRune_width_pos b rest
      rw [stringsMap_cons, stringsMap_encode, headerRune_canon, encode_headerRune, ← normRune_eq toLower hs,
        ih _ (by simp only [List.length_drop, List.length_cons] at hn ⊢; omega)]
      rfl

/-- regenerated `normalizeHeader` = the model's `normalizeHeader` on every field, in order, for every `toLower`
    meeting `LowerSpec` (which contains the explicit hypothesis about Go's Unicode tables, see Props/Gen/Header.lean) -/
theorem normalizeHeader_eq (toLower : Nat → Nat) (hs : LowerSpec toLower) (header : List Bytes) :
    Gen.normalizeHeader toLower header = header.map Updog.normalizeHeader := by
  have hl : (fun (r : Nat) => if (r == (32 : Nat)) = true then (95 : Nat)
      else if (decide (r ≥ (97 : Nat)) && decide (r ≤ (122 : Nat))) = true then r else (95 : Nat)) = Gen.headerRune := by
    funext r; rfl
  simp only [Gen.normalizeHeader, makeL, hl]
  rw [foldl_append_map (fun hdr => stringsMap Gen.headerRune (stringsToLower toLower hdr))]
  simp [normalizeField_eq toLower hs]

/-- header normalisation followed by the row construction = the model's `createRows` on one record -/
theorem createRow_eq (toLower : Nat → Nat) (hs : LowerSpec toLower) (header record : List Bytes)
    (h : record.length ≤ header.length) :
    Gen.recordRow (Gen.normalizeHeader toLower header) record = Updog.recordRow (header.map Updog.normalizeHeader) record := by
  rw [normalizeHeader_eq toLower hs, recordRow_eq _ _ (by simpa using h)]

/-! ### examples -/

example : Gen.normalizeHeader lowerASCIIorSpecial [[70, 111, 111, 32, 66], [195, 132, 120], [226, 132, 170, 255]] =
    [[102, 111, 111, 95, 98], [95, 120], [107, 95]] := by decide
example : Gen.recordRow [[97], [98], [97]] [[49], [50], [51]] = [([98], [50]), ([97], [51])] := by decide

end Updog.GeneratedEq
