/-
Shared vocabulary of the equivalence theorems for the REGENERATED lexer and parser of internal/queryparser
(`Updog/GeneratedFns.lean`, written by extract/translate_t4.go): how a Go `item` (generated structure `Gen.Item`)
corresponds to a token `Tok` of the hand-written model, and what the type tests of the generated parser say about
the token.
-/
import Updog.GeneratedFns
import Updog.Model.RuneLexer
import Updog.Proofs.GoPrelude

/-- pointwise relation of two lists (core Lean has no `List.Forall₂`; this is the definition of Batteries / Mathlib) -/
inductive List.Forall₂ {α β : Type} (R : α → β → Prop) : List α → List β → Prop
  | nil : List.Forall₂ R [] []
  | cons {a b l₁ l₂} : R a b → List.Forall₂ R l₁ l₂ → List.Forall₂ R (a :: l₁) (b :: l₂)

theorem List.Forall₂.length_eq {α β : Type} {R : α → β → Prop} {l₁ : List α} {l₂ : List β} (h : List.Forall₂ R l₁ l₂) :
    l₁.length = l₂.length := by
  induction h with
  | nil => rfl
  | cons _ _ ih => simp [ih]

theorem List.Forall₂.append {α β : Type} {R : α → β → Prop} {l₁ l₁' : List α} {l₂ l₂' : List β}
    (h : List.Forall₂ R l₁ l₂) (h' : List.Forall₂ R l₁' l₂') : List.Forall₂ R (l₁ ++ l₁') (l₂ ++ l₂') := by
  induction h with
  | nil => exact h'
  | cons hab _ ih => exact .cons hab ih

namespace Updog.GeneratedEq
open Updog.Go (allDigits)

/-- the `itemType` constant the Go lexer emits for a model token -/
def tokCode : Tok → Int
  | .error => Gen.itemError
  | .eof => Gen.itemEOF
  | .lparen => Gen.itemOpenParen
  | .rparen => Gen.itemCloseParen
  | .and => Gen.itemAnd
  | .or => Gen.itemOr
  | .not => Gen.itemNot
  | .eq => Gen.itemEqual
  | .comma => Gen.itemComma
  | .semi => Gen.itemSemicolon
  | .field _ => Gen.itemField
  | .value _ => Gen.itemValue
  | .placeholder _ => Gen.itemPlaceholder

/-- a Go item `i` IS the model token `t`: same kind, and for the three kinds that carry text the item's `val`
    (the lexeme `input[start:pos]`) is the lexeme of the token: the field name, `"` body `"`, `$` digits.
    (`pos` is only used in error messages; the `val` of the other kinds is never read by the parser.) -/
def ItemTok (i : Gen.Item) (t : Tok) : Prop :=
  i.typ = tokCode t ∧
  match t with
  | .field c => i.val = c
  | .value body => i.val = 34 :: body ++ [34]
  | .placeholder ds => i.val = 36 :: ds
  | _ => True

/-- what the lexer guarantees about the payload of a token: the text of a placeholder consists of digits -/
def TokOK : Tok → Prop
  | .placeholder ds => allDigits ds
  | _ => True

def tokText : Tok → Bytes
  | .field c => c
  | .value body => body
  | .placeholder ds => ds
  | _ => []

/-- the token with type code `k` and text `v`: `tokCode` read backwards -/
def tokOf (k : Int) (v : Bytes) : Tok :=
  match k with
  | 1 => .eof | 2 => .lparen | 3 => .rparen | 4 => .and | 5 => .or | 6 => .not | 7 => .eq | 8 => .comma | 9 => .semi
  | 10 => .field v | 11 => .value v | 12 => .placeholder v | _ => .error

theorem tokOf_tokCode (t : Tok) : tokOf (tokCode t) (tokText t) = t := by cases t <;> rfl

/-- the type code determines the token up to its text -/
theorem tokCode_injective_kind {t u : Tok} (h : tokCode t = tokCode u) :
    (∀ c, t = .field c → ∃ c', u = .field c') ∧ (∀ b, t = .value b → ∃ b', u = .value b') ∧
    (∀ d, t = .placeholder d → ∃ d', u = .placeholder d') ∧
    ((∀ c, t ≠ .field c) → (∀ b, t ≠ .value b) → (∀ d, t ≠ .placeholder d) → u = t) := by
  have hu : u = tokOf (tokCode t) (tokText u) := by rw [h, tokOf_tokCode]
  cases t with
  | field c => exact ⟨fun _ _ => ⟨_, hu⟩, nofun, nofun, fun h => absurd rfl (h c)⟩
  | value b => exact ⟨nofun, fun _ _ => ⟨_, hu⟩, nofun, fun _ h => absurd rfl (h b)⟩
  | placeholder d => exact ⟨nofun, nofun, fun _ _ => ⟨_, hu⟩, fun _ _ h => absurd rfl (h d)⟩
  | _ => exact ⟨nofun, nofun, nofun, fun _ _ _ => hu⟩

/-! ### the type tests of the generated parser, on tokens -/

/-- comparison with the code of a token without text -/
theorem tokCode_beq (t u : Tok) (h1 : ∀ c, u ≠ .field c) (h2 : ∀ b, u ≠ .value b) (h3 : ∀ d, u ≠ .placeholder d) :
    (tokCode t == tokCode u) = decide (t = u) := by
  rw [Bool.eq_iff_iff, beq_iff_eq, decide_eq_true_iff]
  exact ⟨fun h => (tokCode_injective_kind h.symm).2.2.2 h1 h2 h3, fun h => h ▸ rfl⟩

theorem code_lparen (t : Tok) : (tokCode t == Gen.itemOpenParen) = decide (t = .lparen) := tokCode_beq t .lparen nofun nofun nofun
theorem code_rparen (t : Tok) : (tokCode t == Gen.itemCloseParen) = decide (t = .rparen) := tokCode_beq t .rparen nofun nofun nofun
theorem code_and (t : Tok) : (tokCode t == Gen.itemAnd) = decide (t = .and) := tokCode_beq t .and nofun nofun nofun
theorem code_or (t : Tok) : (tokCode t == Gen.itemOr) = decide (t = .or) := tokCode_beq t .or nofun nofun nofun
theorem code_not (t : Tok) : (tokCode t == Gen.itemNot) = decide (t = .not) := tokCode_beq t .not nofun nofun nofun
theorem code_eq (t : Tok) : (tokCode t == Gen.itemEqual) = decide (t = .eq) := tokCode_beq t .eq nofun nofun nofun
theorem code_comma (t : Tok) : (tokCode t == Gen.itemComma) = decide (t = .comma) := tokCode_beq t .comma nofun nofun nofun
theorem code_semi (t : Tok) : (tokCode t == Gen.itemSemicolon) = decide (t = .semi) := tokCode_beq t .semi nofun nofun nofun
theorem code_eof (t : Tok) : (tokCode t == Gen.itemEOF) = decide (t = .eof) := tokCode_beq t .eof nofun nofun nofun

def isField (t : Tok) : Bool := tokCode t == Gen.itemField
def isValue (t : Tok) : Bool := tokCode t == Gen.itemValue
def isPlaceholder (t : Tok) : Bool := tokCode t == Gen.itemPlaceholder

theorem code_field (t : Tok) : (tokCode t == Gen.itemField) = isField t := rfl
theorem code_value (t : Tok) : (tokCode t == Gen.itemValue) = isValue t := rfl
theorem code_placeholder (t : Tok) : (tokCode t == Gen.itemPlaceholder) = isPlaceholder t := rfl

theorem isField_iff {t : Tok} : isField t = true ↔ ∃ c, t = .field c :=
  ⟨fun h => (tokCode_injective_kind (t := .field []) (beq_iff_eq.mp h).symm).1 _ rfl, fun ⟨_, h⟩ => h ▸ rfl⟩
theorem isValue_iff {t : Tok} : isValue t = true ↔ ∃ b, t = .value b :=
  ⟨fun h => (tokCode_injective_kind (t := .value []) (beq_iff_eq.mp h).symm).2.1 _ rfl, fun ⟨_, h⟩ => h ▸ rfl⟩
theorem isPlaceholder_iff {t : Tok} : isPlaceholder t = true ↔ ∃ d, t = .placeholder d :=
  ⟨fun h => (tokCode_injective_kind (t := .placeholder []) (beq_iff_eq.mp h).symm).2.2.1 _ rfl, fun ⟨_, h⟩ => h ▸ rfl⟩

/-- the zero item (what a receive from the closed, empty channel yields) is an `error` item -/
theorem itemTok_zero : ItemTok Gen.Item.zero .error := by
  simp [ItemTok, tokCode, Gen.Item.zero, Gen.itemError]

end Updog.GeneratedEq
