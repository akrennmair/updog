/-
Equivalence of the definitions REGENERATED from the Go source (`Updog/GeneratedFns.lean`, written by
extract/translate.go on every run) with the hand-written models. If a translated Go function changes its meaning,
the generated text changes and the corresponding theorem below stops checking; if the function leaves the
translator's subset, its definition is missing and the theorem fails to elaborate.
-/
import Updog.GeneratedFns
import Updog.Proofs.GoPrelude
import Updog.Model.Create
import Updog.Model.Server

namespace Updog.GeneratedEq

/-! ### create.go: the rune map of normalizeHeader -/

theorem headerRune_eq (r : Nat) : Gen.headerRune r = if 97 ≤ r ∧ r ≤ 122 then r else 95 := by
  unfold Gen.headerRune
  by_cases h32 : r = 32
  · subst h32; simp
  · by_cases h : 97 ≤ r ∧ r ≤ 122
    · simp [h32, h]
    · simp only [beq_iff_eq, h32, if_false, ge_iff_le, Bool.and_eq_true, decide_eq_true_eq, h]

/-- what `normRune` needs to know about `unicode.ToLower` -/
structure LowerSpec (toLower : Nat → Nat) : Prop where
  upper : ∀ r, 65 ≤ r → r ≤ 90 → toLower r = r + 32
  ascii : ∀ r, r < 128 → ¬ (65 ≤ r ∧ r ≤ 90) → toLower r = r
  dotI : toLower 0x130 = 105
  kelvin : toLower 0x212A = 107
  /-- EXPLICIT HYPOTHESIS about Go's Unicode tables (not derived from the Go source): no other non-ASCII code
      point lower-cases to an ASCII letter -/
  hlow : ∀ r, 128 ≤ r → r ≠ 0x130 → r ≠ 0x212A → ¬ (97 ≤ toLower r ∧ toLower r ≤ 122)

/-- the model's `normRune` is the generated rune map after `unicode.ToLower`, for every `toLower` meeting
    `LowerSpec` (which contains the hypothesis `hlow`) -/
theorem normRune_eq (toLower : Nat → Nat) (hs : LowerSpec toLower) (r : Nat) :
    normRune r = (Gen.headerRune (toLower r)).toUInt8 := by
  rw [headerRune_eq]
  unfold normRune
  by_cases h1 : 97 ≤ r ∧ r ≤ 122
  · have := hs.ascii r (by omega) (by omega)
    simp [h1, this]
  · by_cases h2 : 65 ≤ r ∧ r ≤ 90
    · have := hs.upper r h2.1 h2.2
      have h3 : 97 ≤ r + 32 ∧ r + 32 ≤ 122 := by omega
      simp [h1, h2, this, h3]
    · by_cases h3 : r = 0x130
      · subst h3; simp [hs.dotI]
      · by_cases h4 : r = 0x212A
        · subst h4; simp [hs.kelvin]
        · by_cases h5 : r < 128
          · have := hs.ascii r h5 h2
            simp [h1, h2, h3, h4, this]
          · have := hs.hlow r (by omega) h3 h4
            simp [h1, h2, h3, h4, this]

/-- a concrete `toLower` meeting the specification (non-vacuity of `normRune_eq`) -/
def lowerASCIIorSpecial (r : Nat) : Nat :=
  if 65 ≤ r ∧ r ≤ 90 then r + 32 else if r = 0x130 then 105 else if r = 0x212A then 107 else r

theorem lowerASCIIorSpecial_spec : LowerSpec lowerASCIIorSpecial where
  upper r h1 h2 := by simp [lowerASCIIorSpecial, h1, h2]
  ascii r h1 h2 := by
    have h3 : r ≠ 0x130 := by omega
    have h4 : r ≠ 0x212A := by omega
    simp [lowerASCIIorSpecial, h2, h3, h4]
  dotI := by decide
  kelvin := by decide
  hlow r h1 h2 h3 := by
    have h4 : ¬ (65 ≤ r ∧ r ≤ 90) := by omega
    simp only [lowerASCIIorSpecial, h4, h2, h3, if_false]; omega

theorem normRune_eq_concrete (r : Nat) : normRune r = (Gen.headerRune (lowerASCIIorSpecial r)).toUInt8 :=
  normRune_eq _ lowerASCIIorSpecial_spec r

example : Gen.headerRune 65 = 95 ∧ Gen.headerRune 107 = 107 ∧ normRune 0x212A = 107 := by decide

end Updog.GeneratedEq
