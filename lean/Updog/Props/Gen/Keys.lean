/-
Equivalence of the definitions REGENERATED from the Go source (`Updog/GeneratedFns.lean`, written by
extract/translate.go on every run) with the hand-written models. If a translated Go function changes its meaning,
the generated text changes and the corresponding theorem below stops checking; if the function leaves the
translator's subset, its definition is missing and the theorem fails to elaborate.
-/
import Updog.GeneratedFns
import Updog.Proofs.GoPrelude
import Updog.Model.Create
import Updog.Model.Server

namespace Updog.GeneratedEq

/-! ### writer.go / query.go: what is hashed -/

theorem valueIndexInput_eq (k v : Bytes) : Gen.valueIndexInput k v = encodePair k v := by
  simp [Gen.valueIndexInput, encodePair]

theorem mixInput_bytes (tag : UInt8) (keys : List UInt64) :
    Gen.mixInput tag keys = tag :: keys.flatMap (fun k => be64 k.toNat) := by
  simp [Gen.mixInput, Go.makeBytes, Go.setIndex, Go.foldl_beAppend]

section
variable (H : Bytes → UInt64)

theorem mixInput_eq (tag : UInt8) (keys : List UInt64) : H (Gen.mixInput tag keys) = mixKey H tag keys := by
  rw [mixInput_bytes]; rfl

theorem mixCacheKey_eq (tag : UInt8) (keys : List UInt64) : Gen.mixCacheKey H tag keys = mixKey H tag keys :=
  mixInput_eq H tag keys

theorem getValueIndex_eq (k v : Bytes) : Gen.getValueIndex H k v = H (encodePair k v) := by
  simp [Gen.getValueIndex, valueIndexInput_eq]

theorem cacheKeyEqual_eq (c v : Bytes) : Gen.cacheKeyEqual H c v = cacheKey H (.eq c v) := by
  simp [Gen.cacheKeyEqual, mixCacheKey_eq, getValueIndex_eq, cacheKey, tagEqual]

theorem cacheKeyNot_eq (e : Expr) : Gen.cacheKeyNot H (cacheKey H e) = cacheKey H (.not e) := by
  simp [Gen.cacheKeyNot, mixCacheKey_eq, cacheKey, tagNot]

theorem cacheKeyAnd_eq (es : List Expr) : Gen.cacheKeyAnd H (cacheKeys H es) = cacheKey H (.and es) := by
  simp only [Gen.cacheKeyAnd, Go.foldl_snoc, mixCacheKey_eq]
  simp [Go.makeU64s, cacheKey, tagAnd]

theorem cacheKeyOr_eq (es : List Expr) : Gen.cacheKeyOr H (cacheKeys H es) = cacheKey H (.or es) := by
  simp only [Gen.cacheKeyOr, Go.foldl_snoc, mixCacheKey_eq]
  simp [Go.makeU64s, cacheKey, tagOr]

end

example : Gen.mixInput 65 [258] = [65, 0, 0, 0, 0, 0, 0, 1, 2] := by decide

end Updog.GeneratedEq
