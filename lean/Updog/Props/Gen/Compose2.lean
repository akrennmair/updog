/-
COMPOSITION, continued: two compositions `Updog/Props/Gen/Compose.lean` does not make.

1. **The generated LRU inside the generated `Execute`.** `Compose.lean` threads the MODEL LRU (`lruCacheImpl`) through
   `Gen.execute`. Here the cache is `genLruImpl`: its state is the GENERATED `Gen.LRUCache` (a `container/list` with
   element identities, a Go map, `uint64` wrap-around sizes, four optional counters), its `Get` / `Put` are the
   generated `Gen.lruGet` / `Gen.lruPut`. It simulates `lruCacheImpl` along `abs` (`LruRel`) from `Gen.newLRUCache`
   with ANY `WithCacheMetrics` options, and `genExecute_eq_executeC` / `genExecute_history_eq_sql` are lifted to it,
   together with the byte bound of C07 after every query.

2. **The driver's connection cache with the generated open.** T5's `Drv.World` has an abstract `openIndex` over a
   predicate `valid`. Here `valid` is "the generated `OpenIndexFromBoltDatabase` succeeds on this file's state"
   (`genValid`), every index handle carries what the generated open returned and the generated LRU the DSN asked for
   (`GWorld`), and a run-level theorem is proved for ALL histories of `Open` / statement / `Close` over several DSNs:
   (a) a statement on an open connection returns the SQL rows of ITS file, (b) failed opens (file missing, not an
   index, options unparsable) are part of the histories and change nothing, (c) the last `Close` of a key closes the
   key's index handle, and a file nobody holds a connection on has no handle open (no flock holder of
   `Model/OpenLock.lean` is left). The run refines `Drv.run` of `Model/Driver.lean`.

Helper lemmas: `Updog/Proofs/GenCompose2.lean` (part 1), `Updog/Proofs/GenCompose2Conn.lean` (part 2).
-/
import Updog.Proofs.GenCompose2Conn

namespace Updog.GenCompose2
open Updog.Go Updog.GeneratedEq Updog.Go.T3 Updog.GenConn

/-! ## 1. the generated LRU inside the generated `Execute` -/

/-- **the generated `Get` / `Put` simulate the model's `lruCacheImpl` along `abs`**: states related by `LruRel`
    (Proofs/GenCompose2.lean: `abs g = m` up to the counters that are nil in `g`) answer `Get` alike, and `Get` / `Put`
    lead to related states. -/
theorem genLru_simulates (sz : Ref → UInt64) (max : UInt64) :
    CacheSim (genLruImpl sz) (lruCacheImpl fun b => (sz b).toNat) (LruRel sz max) :=
  genLru_sim sz max

/-- **`NewLRUCache(max, opts…)` is related to an empty model cache**, whatever `WithCacheMetrics` options are given
    (none: no counters, as the driver does; all four counters, as the server does; anything in between), and hence so is
    every state reachable from it by generated `Get`s and `Put`s (`genRun`), with the same `Get` answers as the model. -/
theorem genLru_reachable_related (sz : Ref → UInt64) (max : UInt64) (ms : List Gen.CacheMetrics)
    (hfit : ∀ bm, max.toNat + (sz bm).toNat + ovh < 2 ^ 64) (ops : List GOp) :
    let g0 := Gen.newLRUCache max (ms.map Gen.withCacheMetrics)
    (abs g0).items = [] ∧
    LruRel sz max (genRun sz g0 ops).1 ((abs g0).run (ops.map (absOp sz))).1 ∧
    (genRun sz g0 ops).2 = ((abs g0).run (ops.map (absOp sz))).2 ∧
    ByteBound max (genRun sz g0 ops).1 := by
  intro g0
  obtain ⟨hrel, hitems⟩ := newLRUCache_rel sz max ms hfit
  obtain ⟨h1, h2⟩ := genRun_rel sz max ops _ _ hrel
  exact ⟨hitems, h1, h2, h1.byteBound⟩

/-- **`genExecute_eq_executeC` through the generated LRU**: the all-generated `Execute` on the index the generated open
    returned, with the generated LRU in state `g`, answers exactly like `executeC` with the model LRU in any related
    state `m`, and the states after are related again. A tree with a nil operand is rejected before the cache is
    touched. -/
theorem genLruExecute_eq_executeC (H : Bytes → UInt64) (X : Ext) (bolt : Bolt) (hp : Heap)
    (i : Nat) (d : BucketData) (s : SchemaVal) (next : UInt32) (vals : ColGetter)
    (hg : GetColRefines (genGetCol X bolt hp vals) (fileIndex X d s next))
    (sz : Ref → UInt64) (max : UInt64) (g : Gen.LRUCache) (m : Lru) (hrel : LruRel sz max g m)
    (q : Go.Lib.Query) (stale : List Gen.groupBy)
    (hcard : ∀ e, libComplete q.Expr = some e → ∀ bm,
      (evalC H (lruCacheImpl fun b => (sz b).toNat) (fileIndex X d s next) m e).2 = some bm → popcount bm < 2 ^ 64) :
    match libComplete q.Expr with
    | none => execView (genExecute H (genLruImpl sz) X bolt hp (openedIndex i s next vals) q stale g) = (g, none)
    | some e =>
      (execView (genExecute H (genLruImpl sz) X bolt hp (openedIndex i s next vals) q stale g)).2
        = (executeC H (lruCacheImpl fun b => (sz b).toNat) (fileIndex X d s next) m ⟨e, q.GroupBy⟩).2 ∧
      LruRel sz max (execView (genExecute H (genLruImpl sz) X bolt hp (openedIndex i s next vals) q stale g)).1
        (executeC H (lruCacheImpl fun b => (sz b).toNat) (fileIndex X d s next) m ⟨e, q.GroupBy⟩).1 := by
  have hx := GenCompose.genExecute_eq_executeC H (genLruImpl sz) X bolt hp i d s next vals hg q stale g (by
    intro e he bm hbm
    rw [(evalC_sim H _ (genLru_sim sz max) e g m hrel).2] at hbm
    exact hcard e he bm hbm)
  cases hc : libComplete q.Expr with
  | none => rw [hc] at hx; exact hx
  | some e =>
    rw [hc] at hx
    simp only at hx ⊢
    rw [hx]
    have := executeC_sim H (fileIndex X d s next) (genLru_sim sz max) ⟨e, q.GroupBy⟩ g m hrel
    exact ⟨this.2, this.1⟩

/-- **every query of every history, executed by the generated `Execute` through the generated LRU of any capacity with
    any subset of counters configured, returns the SQL answer; and the byte bound of C07 holds after every query.**
    The cache is `NewLRUCache(max, WithCacheMetrics(m₁), …)`; `genExecuteAll` threads its state through the queries.
    The state after the whole history is related (`LruRel`: equal under `abs`, up to nil counters) to the state of the
    model LRU after the same history. `hw` / `hg` come from `GenCompose.written_file_holds` /
    `GenCompose.opened_index_refines`; `hfit`: no `Put` can overflow the `uint64` account. -/
theorem genLru_history_eq_sql (H : Bytes → UInt64) (X : Ext) (rows : List Row) (bolt : Bolt) (hp : Heap) (i : Nat)
    (d : BucketData) (next : UInt32) (vals : ColGetter)
    (hw : HoldsWriter X d (Writer.addRows H {} rows) next)
    (hg : GetColRefines (genGetCol X bolt hp vals) (fileIndex X d (Writer.addRows H {} rows).schema next))
    (hlen : rows.length < 2 ^ 64)
    (qs : List (Query × List Gen.groupBy)) (sz : Ref → UInt64) (max : UInt64) (ms : List Gen.CacheMetrics)
    (hfit : ∀ bm, max.toNat + (sz bm).toNat + ovh < 2 ^ 64)
    (hinj : InjOn H (((qs.map (·.1)).map (·.expr)).flatMap (preimages H)))
    (hagree : KnownAgree H (Writer.addRows H {} rows).toIndex (((qs.map (·.1)).map (·.expr)).flatMap Expr.pairs))
    (hD : DataNoCollision H rows) (hq : ∀ q ∈ qs.map (·.1), EndToEnd.QueryOK H rows q) :
    let g0 := Gen.newLRUCache max (ms.map Gen.withCacheMetrics)
    let run := fun (l : List (Query × List Gen.groupBy)) =>
      genExecuteAll H (genLruImpl sz) X bolt hp (openedIndex i (Writer.addRows H {} rows).schema next vals)
        (l.map fun p => (⟨toLib p.1.expr, p.1.groupBy⟩, p.2)) g0
    (run qs).2 = (qs.map (·.1)).map (fun q => specExecute rows q) ∧
    (∀ n, ByteBound max (run (qs.take n)).1) ∧
    LruRel sz max (run qs).1
      (executeAllC H (lruCacheImpl fun b => (sz b).toNat) (Writer.addRows H {} rows).toIndex (abs g0) (qs.map (·.1))).1 := by
  intro g0 run
  obtain ⟨hrel, hitems⟩ := newLRUCache_rel sz max ms hfit
  have hkey : KeyOK H (Writer.addRows H {} rows).toIndex (subsOf ((qs.map (·.1)).map (·.expr))) :=
    C03.keyOK_of_no_collision H _ _ hinj hagree
  have hsound := (C03.lru_empty (fun b => (sz b).toNat) _ hitems).sound H (Writer.addRows H {} rows).toIndex
    (subsOf ((qs.map (·.1)).map (·.expr)))
  have hmem : ∀ p ∈ qs, p.1.expr ∈ subsOf ((qs.map (·.1)).map (·.expr)) := fun p hp =>
    subsOf_mem _ p.1.expr (List.mem_map_of_mem (List.mem_map_of_mem hp))
  have hsim := fun l => genLruExecuteAll_sim H X bolt hp i d next vals hw hg (written_fits H rows hlen) sz max (subsOf_closed _) hkey l
    _ _ hrel hsound
  obtain ⟨h1, h2⟩ := hsim qs hmem
  refine ⟨?_, fun n => (hsim (qs.take n) fun p hp => hmem p (List.mem_of_mem_take hp)).2.byteBound, h2⟩
  show (genExecuteAll _ _ _ _ _ _ _ _).2 = _
  rw [h1]
  exact EndToEnd.cached_history_equals_sql H rows _ _ _ hitems hinj hagree hD hq

/-- with all four counters configured the final generated state IS the model's final state under `abs` (so every C07
    statement about the model — exact counters, recency order, last `Put` wins — transfers to it) -/
theorem genLru_history_state_exact (H : Bytes → UInt64) (X : Ext) (rows : List Row) (bolt : Bolt) (hp : Heap) (i : Nat)
    (d : BucketData) (next : UInt32) (vals : ColGetter)
    (hw : HoldsWriter X d (Writer.addRows H {} rows) next)
    (hg : GetColRefines (genGetCol X bolt hp vals) (fileIndex X d (Writer.addRows H {} rows).schema next))
    (hlen : rows.length < 2 ^ 64)
    (qs : List (Query × List Gen.groupBy)) (sz : Ref → UInt64) (max : UInt64)
    (hfit : ∀ bm, max.toNat + (sz bm).toNat + ovh < 2 ^ 64)
    (hinj : InjOn H (((qs.map (·.1)).map (·.expr)).flatMap (preimages H)))
    (hagree : KnownAgree H (Writer.addRows H {} rows).toIndex (((qs.map (·.1)).map (·.expr)).flatMap Expr.pairs))
    (hD : DataNoCollision H rows) (hq : ∀ q ∈ qs.map (·.1), EndToEnd.QueryOK H rows q)
    (hall : AllSet (genExecuteAll H (genLruImpl sz) X bolt hp (openedIndex i (Writer.addRows H {} rows).schema next vals)
        (qs.map fun p => (⟨toLib p.1.expr, p.1.groupBy⟩, p.2)) (newCache max)).1) :
    abs (genExecuteAll H (genLruImpl sz) X bolt hp (openedIndex i (Writer.addRows H {} rows).schema next vals)
        (qs.map fun p => (⟨toLib p.1.expr, p.1.groupBy⟩, p.2)) (newCache max)).1
      = (executeAllC H (lruCacheImpl fun b => (sz b).toNat) (Writer.addRows H {} rows).toIndex
          (Lru.empty max.toNat ovh) (qs.map (·.1))).1 := by
  have h := (genLru_history_eq_sql H X rows bolt hp i d next vals hw hg hlen qs sz max [zeroMetrics] hfit hinj hagree hD hq).2.2
  simp only [List.map_cons, List.map_nil] at h
  have habs : abs (Gen.newLRUCache max [Gen.withCacheMetrics zeroMetrics]) = Lru.empty max.toNat ovh :=
    (newLRUCache_abs max).2.2.2.2
  rw [habs] at h
  exact h.exact hall

/-! ## 2. the driver's connection cache with the generated open

Setting (`Setting X H fs U`): `fs` maps a path to the committed content of the bbolt file there (`none`: no such
file); `genValid X fs file` = the generated `OpenIndexFromBoltDatabase` returns a non-nil index and no error on it;
`OptionBlind`: that does not depend on `WithPreloadedData()`; `U` is a universe of expressions closed under
sub-expressions on which cache keys separate meanings for every file (`GoodFile X H fs f rows`: the file holds what the
writer made of `rows`). The composed driver is `gstep` / `grun` (Proofs/GenCompose2Conn.lean): `Open` = the generated
`openFileOpts` + `openFileLocked` over T5's world with `valid := genValid`, recording for a new handle what the generated
open returned and `NewLRUCache(size)`; a statement = generated `ParseQuery` + `stmtQuery` over the all-generated
`Execute` on that recorded index, through `nullCache` or the handle's generated LRU; `Close` = the generated
`fileConn.Close`. -/

section driver
variable (X : Ext) (H : Bytes → UInt64) (sz : Ref → UInt64) (fs : Bytes → Option Buckets)

/-- **every history refines the reference-count model** — histories with failed opens included. For every history of
    `Open` (any DSN: valid, missing file, not an index, unparsable options), statements and `Close`s on several DSNs
    that respects the handle discipline (`Disciplined`: a connection is used or closed only while the client holds one
    of that DSN), from the unused driver: the invariant holds at the end, the reference counts are those of the model's
    run (`runO`; its steps are `Drv.step` over the driver's key type), the outcomes are the model's, and no
    call dereferences nil. -/
theorem driver_history_refines_model {U : List Expr} (S : Setting X H fs U) (ops : List DOp)
    (hdisc : Disciplined (validK X fs) (fun _ => 0) ops) (hok : ∀ op ∈ ops, op.ok sz U) :
    GInv X H sz fs U (grun X H sz fs g0 ops).1 ∧
    refsOf (grun X H sz fs g0 ops).1.w = (runO (validK X fs) (fun _ => 0) (ops.map DOp.abs)).1 ∧
    (grun X H sz fs g0 ops).2.map DRes.outcome = (runO (validK X fs) (fun _ => 0) (ops.map DOp.abs)).2 ∧
    ∀ r ∈ (grun X H sz fs g0 ops).2, r ≠ .panic := by
  obtain ⟨h1, h2, h3⟩ := grun_sim X H sz fs S ops g0 (g0_inv X H sz fs U) hdisc hok
  refine ⟨h1, h2, h3, ?_⟩
  intro r hr hp
  subst hp
  have : DRes.panic.outcome ∈ (grun X H sz fs g0 ops).2.map DRes.outcome := List.mem_map_of_mem hr
  rw [h3] at this
  rcases runO_ok_or_error (validK X fs) ops _ hdisc _ this with h | h <;> cases h

/-- **… and the literal `Drv.run` of `Model/Driver.lean`** (keys encoded as pairs of numbers by any injective `enc`;
    `valid'` is `genValid` read through `enc`; operations whose DSN has no key — they do nothing — are dropped):
    reference counts and outcomes agree. Hence the C17 theorems hold of the composed driver with
    `valid` = "the generated open succeeds". -/
theorem driver_history_refines_Drv_run {U : List Expr} (S : Setting X H fs U) (enc : Bytes → Nat)
    (hinj : Function.Injective enc) (valid' : Nat → Bool) (hv : ∀ f, valid' (enc f) = genValid X fs f) (ops : List DOp)
    (hdisc : Disciplined (validK X fs) (fun _ => 0) ops) (hok : ∀ op ∈ ops, op.ok sz U) :
    (∀ k, (Drv.run valid' Drv.empty (modelOps enc ops)).1.refs (encK enc k) = refsOf (grun X H sz fs g0 ops).1.w k) ∧
    (Drv.run valid' Drv.empty (modelOps enc ops)).2 =
      keyed (ops.map DOp.abs) ((grun X H sz fs g0 ops).2.map DRes.outcome) := by
  obtain ⟨_, h2, h3⟩ := grun_sim X H sz fs S ops g0 (g0_inv X H sz fs U) hdisc hok
  obtain ⟨f1, f2⟩ := runO_filterMap (validK X fs) (ops.map DOp.abs) (refsOf g0.w)
  obtain ⟨r1, r2⟩ := Drv_run_rekey (encK enc) (encK_inj enc hinj) (validK X fs) valid' (fun k => hv k.file)
    ((ops.map DOp.abs).filterMap id) (refsOf g0.w) Drv.empty (fun _ => rfl)
  unfold modelOps
  exact ⟨fun k => by rw [r1 k, ← f1, ← h2], by rw [r2, ← f2, ← h3]⟩

/-- **(a) a statement on an open connection returns the SQL rows of ITS file.** At any position of any disciplined
    history: if the DSN's file holds the index of `rows`, the statement text is accepted by the generated parser, the
    arguments bind, and the bound query meets the collision hypotheses of C01 / C02, then the result at that position is
    `.rows (.ok r)` with `r` the specification's rows for `rows` (`sqlRows`: header `groupBy ++ ["count"]`, one row per
    SQL group, or the single count row) — whichever options the DSN carries (preload or not, `nullCache` or the
    generated LRU of the DSN's size in whatever state the earlier statements on that connection left it), whatever
    other DSNs on the same or other files were opened, queried, closed or failed to open before. -/
theorem driver_query_returns_sql {U : List Expr} (S : Setting X H fs U) (pre post : List DOp)
    (file : Bytes) (v : Url.Values) (text : Bytes) (values : List Bytes)
    (hdisc : Disciplined (validK X fs) (fun _ => 0) (pre ++ .query file v text values :: post))
    (hok : ∀ op ∈ pre ++ .query file v text values :: post, op.ok sz U)
    (rows : List Row) (hgood : GoodFile X H fs file rows) (pq : PQuery)
    (hparse : Gen.ParseQuery (3 * text.length + 5) text = .ok pq) (q' : PQuery) (hb : bind pq values = .ok q')
    (ok : EndToEnd.QueryOK H rows (toQuery q')) (hD : DataNoCollision H rows) :
    ∃ r, sqlRows rows q' = some r ∧
      (grun X H sz fs g0 (pre ++ .query file v text values :: post)).2[pre.length]? = some (.rows (.ok r)) := by
  obtain ⟨hinv, ⟨k, hk, hheld⟩, hres⟩ := grun_at X H sz fs S pre _ post g0 (g0_inv X H sz fs U)
    hdisc hok
  obtain ⟨_, _, _, h4⟩ := gQuery_spec X H sz fs S.closed S.keys _ hinv file v text values k hk hheld
    (hok _ (List.mem_append_right _ List.mem_cons_self))
  obtain ⟨r, hr1, hr2⟩ := h4 rows pq q' hgood hparse hb ok hD
  exact ⟨r, hr1, by rw [hres]; exact congrArg some hr2⟩

/-- what `sqlRows` is: the header is the group-by list and `count`; with a GROUP BY clause one row per group of the
    specification (`SELECT cols, COUNT(*) … GROUP BY cols HAVING COUNT(*) > 0 ORDER BY cols`), without it the single
    row holding the number of rows that satisfy the expression -/
theorem sqlRows_eq (rows : List Row) (q' : PQuery) (r : List Bytes × List (List Cell)) (h : sqlRows rows q' = some r) :
    ∃ groups, specGroups rows (toExpr q'.expr) q'.groupBy = some groups ∧
      r = (q'.groupBy ++ [countCol],
           if q'.groupBy = [] then [[Cell.int (specCount rows (toExpr q'.expr))]] else groups.map C12.groupRow) := by
  obtain ⟨res, hse, rfl⟩ := Option.map_eq_some_iff.mp h
  unfold specExecute at hse
  split at hse
  · cases hse
  · split at hse
    · cases hse
    · rename_i groups hs
      cases hse
      refine ⟨groups, hs, ?_⟩
      by_cases hg : q'.groupBy = []
      · rw [if_pos hg, hg]; rfl
      · rw [if_neg hg]
        exact congrArg _ (C12.rows_grouped _ _ hg)

/-- **(b) a failed `Open` leaves everything unchanged, and the history goes on as if it had not happened.** In every
    reachable state: `Open` fails exactly when the options do not parse, or no connection of the key is cached and the
    generated open does not succeed on the file (missing, or not a complete index); then the cache map, the
    connections, the index handles and the per-handle state are ALL unchanged, so the rest of any history — in
    particular later opens of the same DSN — runs exactly as without the failed attempt. -/
theorem failed_open_changes_nothing {U : List Expr} (g : GWorld) (hinv : GInv X H sz fs U g)
    (file : Bytes) (v : Url.Values) :
    ((gOpen X fs g file v).2 = .failed ↔
      (keyOf file v = none ∨ ∃ k, keyOf file v = some k ∧ refsOf g.w k = 0 ∧ genValid X fs file = false)) ∧
    ((gOpen X fs g file v).2 = .failed →
      (gOpen X fs g file v).1 = g ∧
      ∀ ops, grun X H sz fs g (.open file v :: ops) = ((grun X H sz fs g ops).1, .failed :: (grun X H sz fs g ops).2)) := by
  rcases gOpen_cases X fs g hinv.conn file v with
    ⟨he, hbad⟩ | ⟨k, c, hk, hc, he⟩ | ⟨cfg, content, hd, hk, hc, hfs, hv, he⟩
  · refine ⟨⟨fun _ => ?_, fun _ => by rw [he]⟩,
      fun _ => ⟨by rw [he], fun ops => by simp only [grun, gstep, he]⟩⟩
    rcases hbad with hk | ⟨k, hk, hc, hv⟩
    · exact Or.inl hk
    · exact Or.inr ⟨k, hk, refsOf_not_cached hc, hv⟩
  · rw [he]
    refine ⟨⟨fun h => (by cases h), ?_⟩, fun h => (by cases h)⟩
    rintro (h | ⟨k', hk', h0, _⟩)
    · rw [hk] at h; cases h
    · rw [hk] at hk'; cases hk'
      exact absurd h0 (Nat.ne_of_gt (refsOf_cached hinv.conn hc).2)
  · rw [he]
    refine ⟨⟨fun h => (by cases h), ?_⟩, fun h => (by cases h)⟩
    rintro (h | ⟨k', _, _, hv'⟩)
    · rw [hk] at h; cases h
    · rw [hv] at hv'; cases hv'

set_option linter.unusedVariables false in
/-- on the unused driver: a DSN whose file is missing or not an index, or whose options do not parse, fails to open,
    and the history after it is the history on a fresh driver -/
theorem failed_open_then_fresh {U : List Expr} (S : Setting X H fs U) (file : Bytes) (v : Url.Values)
    (hok : (DOp.open file v).ok sz U) (hbad : keyOf file v = none ∨ genValid X fs file = false) (ops : List DOp) :
    grun X H sz fs g0 (.open file v :: ops) = ((grun X H sz fs g0 ops).1, .failed :: (grun X H sz fs g0 ops).2) := by
  obtain ⟨h1, h2⟩ := failed_open_changes_nothing X H sz fs g0 (g0_inv X H sz fs U) file v
  refine (h2 (h1.2 ?_)).2 ops
  rcases hbad with h | h
  · exact Or.inl h
  · cases hk : keyOf file v with
    | none => exact Or.inl rfl
    | some k => exact Or.inr ⟨k, rfl, rfl, h⟩

theorem genValid_missing (file : Bytes) (h : fs file = none) : genValid X fs file = false := by
  simp [genValid, h]

/-- **(c) the last `Close` of a key closes the key's index handle** (and nothing else): at any position of any
    disciplined history, if the client holds exactly one connection of the DSN's key before the `Close`, then afterwards
    the cache has no entry for the key, and the index handle the key's connection owned — open on the key's file until
    then — is closed; the flock holders (`Model/OpenLock.lean`) of every file are the old ones with that handle
    `release`d. -/
theorem last_close_releases {U : List Expr} (S : Setting X H fs U) (pre post : List DOp) (file : Bytes) (v : Url.Values)
    (hdisc : Disciplined (validK X fs) (fun _ => 0) (pre ++ .close file v :: post))
    (hok : ∀ op ∈ pre ++ .close file v :: post, op.ok sz U)
    (k : Drv.fileCacheKey) (hk : keyOf file v = some k) (hlast : refsOf (grun X H sz fs g0 pre).1.w k = 1) :
    let g1 := (grun X H sz fs g0 pre).1
    let g2 := (gstep X H sz fs g1 (.close file v)).1
    (grun X H sz fs g0 (pre ++ .close file v :: post)).2[pre.length]? = some .closed ∧
    g2.w.cache k = none ∧ refsOf g2.w k = 0 ∧
    ∃ c i, g1.w.cache k = some c ∧ (g1.w.conns c).idx = some i ∧ g1.w.openIdx i = some k.file ∧
      g2.w.openIdx i = none ∧ ∀ f, holders g2.w f = release (holders g1.w f) i := by
  intro g1 g2
  obtain ⟨hinv, _, hres⟩ := grun_at X H sz fs S pre _ post g0 (g0_inv X H sz fs U) hdisc hok
  obtain ⟨c, hc⟩ := cached_of_held (show refsOf g1.w k > 0 by rw [hlast]; exact Nat.one_pos)
  have hrefs := (refsOf_cached hinv.conn hc).1
  rcases gClose_cases g1 hinv.conn hinv.handle file v k hk c hc with ⟨_, i, hi, hoi, he⟩ | ⟨h2, _⟩
  · have hg2 : g2.w = dropEntry g1.w k c i := congrArg (fun r => r.1.w) he
    refine ⟨by rw [hres]; exact congrArg (fun r => some r.2) he, ?_, ?_, c, i, hc, hi, hoi, ?_,
      fun f => holders_release _ _ i (by rw [hg2]; rfl) ?_ (fun j hj => ?_) f⟩
    · rw [hg2, dropEntry_cache, if_pos rfl]
    · rw [hg2, dropEntry_refsOf hinv.conn k c i hc, upd_same]
    · rw [hg2, dropEntry_openIdx, if_pos rfl]
    · rw [hg2, dropEntry_openIdx, if_pos rfl]
    · rw [hg2, dropEntry_openIdx, if_neg hj]
  · have hl : refsOf g1.w k = 1 := hlast
    rw [hrefs] at hl
    simp only [g1] at h2
    omega

/-- **no connection held on a file ⇒ no index handle open on it ⇒ no flock holder**: after any disciplined history
    the holders of file `f` (the open index handles on it, all shared) are empty exactly when the client holds no
    connection of any key of `f`; the driver never blocks itself (shared locks are compatible); and a read-write
    `bbolt.Open` of the file (`openRW` of `Model/OpenLock.lean`, e.g. the writer) hangs exactly while some connection
    on the file is held. -/
theorem file_unlocked_iff {U : List Expr} (S : Setting X H fs U) (ops : List DOp)
    (hdisc : Disciplined (validK X fs) (fun _ => 0) ops) (hok : ∀ op ∈ ops, op.ok sz U) (f : Bytes) :
    let w := (grun X H sz fs g0 ops).1.w
    (holders w f = [] ↔ ∀ k : Drv.fileCacheKey, k.file = f → refsOf w k = 0) ∧
    compatible .shared (holders w f) = true ∧
    ∀ (st : LockState) (q : ProcId), st.holders = holders w f →
      ((openRW st q).1 = .hang ↔ ∃ k : Drv.fileCacheKey, k.file = f ∧ refsOf w k > 0) := by
  intro w
  obtain ⟨hinv, _⟩ := driver_history_refines_model X H sz fs S ops hdisc hok
  have hiff := holders_eq_nil_iff hinv.conn hinv.handle f
  refine ⟨hiff, by simp [compatible, holders], ?_⟩
  intro st q hst
  rw [C15.rw_open_blocks_iff_holders, hst]
  constructor
  · intro hne
    apply Classical.byContradiction
    intro hno
    apply hne
    rw [hiff]
    intro k hkf
    exact Nat.eq_zero_of_not_pos (fun h => hno ⟨k, hkf, h⟩)
  · rintro ⟨k, hkf, hpos⟩ hnil
    exact absurd (hiff.1 hnil k hkf) (Nat.ne_of_gt hpos)

/-- **`Open` takes exactly one shared lock, and only when it opens the file**: in every reachable state, an `Open` that
    creates the cache entry of its key (no connection of the key held, the generated open succeeds) turns the flock
    holders of its file into `acquire … .shared` of `Model/OpenLock.lean` (the new handle appended, with the driver's
    next handle id) and leaves the holders of all other files alone; an `Open` that shares a cached connection, and
    every failed `Open`, changes no file's holders. -/
theorem open_acquires_shared_lock {U : List Expr} (g : GWorld) (hinv : GInv X H sz fs U g) (file : Bytes) (v : Url.Values)
    (f : Bytes) (st : LockState) (hst : st.holders = holders g.w f) (hnext : st.next = g.w.nextIdx) :
    holders (gOpen X fs g file v).1.w f =
      match keyOf file v with
      | some k =>
        if refsOf g.w k = 0 ∧ genValid X fs file = true ∧ f = file then (st.acquire 0 .shared).holders
        else holders g.w f
      | none => holders g.w f := by
  rcases gOpen_cases X fs g hinv.conn file v with
    ⟨he, hbad⟩ | ⟨k, c, hk, hc, he⟩ | ⟨cfg, content, hd, hk, hc, hfs, hv, he⟩
  · rcases hbad with hk | ⟨k, hk, hc, hv⟩
    · simp only [he, hk]
    · simp only [he, hk, hv, Bool.false_eq_true, false_and, and_false, if_false]
  · have := Nat.ne_of_gt (refsOf_cached hinv.conn hc).2
    simp only [he, hk, this, false_and, if_false]
    rfl
  · simp only [he, hk, refsOf_not_cached hc, hv, true_and, LockState.acquire, hst, hnext]
    exact holders_addEntry g.w _ file f

end driver

/-! ## non-vacuity: the `Demo` instance of `Compose.lean` (toy hash, three rows, a file WRITTEN BY THE GENERATED WRITER)
through every theorem above, and the composed pipelines simply run (`decide +kernel`) -/

namespace Demo
open Updog.Toy Updog.GenCompose.Demo

/-- `GetSizeInBytes`: 8 bytes for every bitmap (`Toy.sz` as a `uint64`) -/
def szU : Ref → UInt64 := fun _ => 8

theorem szU_fits (max : UInt64) (h : max.toNat < 2 ^ 63) : ∀ bm, max.toNat + (szU bm).toNat + ovh < 2 ^ 64 := by
  intro bm
  have : (szU bm).toNat = 8 := rfl
  rw [this, ovh_eq]
  omega

/-- only two of the four counters configured -/
def someMetrics : Gen.CacheMetrics := { CacheHit := some 0, CacheMiss := none, GetCall := none, PutCall := some 0 }

/-- the toy history through the all-generated `Execute` and the generated LRU on the opened file -/
def runLru (preload : Bool) (max : UInt64) (ms : List (Gen.LRUCache → Gen.LRUCache)) :
    Option (Gen.LRUCache × List (Option Result)) :=
  match (opened preload).2.2.1 with
  | none => none
  | some idx =>
    some (genExecuteAll toyH (genLruImpl szU) X (opened preload).1 (opened preload).2.1 idx
      (Toy.qs.map fun (q : Query) => (⟨toLib q.expr, q.groupBy⟩, [])) (Gen.newLRUCache max ms))

/-- the run with all four counters, evaluated once: answers, counters, resident entries -/
theorem runLru_all :
    (runLru true 100000 [Gen.withCacheMetrics zeroMetrics]).map (fun r => r.2)
      = some [some ⟨1, []⟩, some ⟨2, [([([97], [49])], 2)]⟩, some ⟨1, [([([98], [49])], 1)]⟩] ∧
    (runLru true 100000 [Gen.withCacheMetrics zeroMetrics]).map (fun r =>
      (r.1.metrics.CacheHit, r.1.metrics.CacheMiss, r.1.metrics.GetCall, r.1.metrics.PutCall))
      = some (some 3, some 5, some 8, some 5) ∧
    (runLru true 100000 [Gen.withCacheMetrics zeroMetrics]).map (fun r => (r.1.curSize, r.1.lruList.elems.length))
      = some (360, 5) := by decide +kernel

/-- **the generated pipeline run through the generated LRU** (all four counters): the three answers of the SQL
    specification; 8 `Get`s of which 3 hit, 5 `Put`s, 5 resident entries of 8 + 64 bytes -/
example : (runLru true 100000 [Gen.withCacheMetrics zeroMetrics]).map (fun r => r.2)
    = some [some ⟨1, []⟩, some ⟨2, [([([97], [49])], 2)]⟩, some ⟨1, [([([98], [49])], 1)]⟩] := runLru_all.1

example : (runLru true 100000 [Gen.withCacheMetrics zeroMetrics]).map (fun r =>
      (r.1.metrics.CacheHit, r.1.metrics.CacheMiss, r.1.metrics.GetCall, r.1.metrics.PutCall))
    = some (some 3, some 5, some 8, some 5) := runLru_all.2.1

example : (runLru true 100000 [Gen.withCacheMetrics zeroMetrics]).map (fun r => (r.1.curSize, r.1.lruList.elems.length))
    = some (360, 5) := runLru_all.2.2

/-- … with a 150-byte cache and no counters (as the driver creates it): evictions keep two entries, same answers -/
example : (runLru false 150 []).map (fun r => (r.2, r.1.metrics.CacheHit, r.1.curSize, r.1.lruList.elems.length))
    = some ([some ⟨1, []⟩, some ⟨2, [([([97], [49])], 2)]⟩, some ⟨1, [([([98], [49])], 1)]⟩], none, 144, 2) := by
  decide +kernel

/-- **1** `genLru_history_eq_sql` (hence `genLru_simulates`, `genLru_reachable_related`): all hypotheses hold of the
    generated file, for both getters, for no / partial / all counters, for a large and a tiny cache -/
example (preload : Bool) (ms : List Gen.CacheMetrics) (max : UInt64) (hmax : max = 100000 ∨ max = 100) :
    ∃ n' c' cs' n2 hp2 vals, file = idle 0 n' c' cs' ∧
    (genExecuteAll toyH (genLruImpl szU) X (idle 0 n2 c' cs') hp2
        (openedIndex 0 (Writer.addRows toyH {} rows).schema w.2.nextRowID vals)
        (Toy.qs.map fun (q : Query) => (⟨toLib q.expr, q.groupBy⟩, []))
        (Gen.newLRUCache max (ms.map Gen.withCacheMetrics))).2 = Toy.qs.map (specExecute rows) ∧
    ∀ n, ByteBound max (genExecuteAll toyH (genLruImpl szU) X (idle 0 n2 c' cs') hp2
        (openedIndex 0 (Writer.addRows toyH {} rows).schema w.2.nextRowID vals)
        ((Toy.qs.take n).map fun (q : Query) => (⟨toLib q.expr, q.groupBy⟩, []))
        (Gen.newLRUCache max (ms.map Gen.withCacheMetrics))).1 := by
  obtain ⟨n', c', cs', d, hf, hb, hs, hw⟩ := file_holds
  obtain ⟨n2, hp2, vals, hopen, hg⟩ := GenCompose.opened_index_refines X 0 n' c' cs' w.1 d _ _ (hw.fileOK hb) X_nil preload
    (fun _ => hs) (fun _ => hw.vDecodable hs)
  refine ⟨n', c', cs', n2, hp2, vals, hf, ?_⟩
  have hfit : ∀ bm, max.toNat + (szU bm).toNat + ovh < 2 ^ 64 :=
    szU_fits max (by rcases hmax with rfl | rfl <;> decide)
  have := genLru_history_eq_sql toyH X rows _ hp2 0 d _ vals hw hg (by decide) (Toy.qs.map fun q => (q, []))
    szU max ms hfit (by decide +kernel) (by decide +kernel) data_ok
    (by simpa [List.map_map, Function.comp_def] using queries_ok)
  simp only [List.map_map, Function.comp_def, List.map_id', ← List.map_take] at this
  exact ⟨this.1, this.2.1⟩

/-- `genLruExecute_eq_executeC` and `genLru_reachable_related`: a nil operand is refused before the cache is touched;
    the related model state of a new cache is empty; every `genRun` history keeps the relation and the byte bound -/
example (ops : List GOp) :
    (abs (Gen.newLRUCache 1000 [Gen.withCacheMetrics someMetrics])).items = [] ∧
    ByteBound 1000 (genRun szU (Gen.newLRUCache 1000 [Gen.withCacheMetrics someMetrics]) ops).1 := by
  have := genLru_reachable_related szU 1000 [someMetrics] (szU_fits 1000 (by decide)) ops
  exact ⟨this.1, this.2.2.2⟩

example (preload : Bool) : ∃ n' c' cs' n2 hp2 vals, file = idle 0 n' c' cs' ∧
    execView (genExecute toyH (genLruImpl szU) X (idle 0 n2 c' cs') hp2
      (openedIndex 0 (Writer.addRows toyH {} rows).schema w.2.nextRowID vals) ⟨.and [.equal [97] [49], .nil], []⟩ []
      (Gen.newLRUCache 1000 [])) = (Gen.newLRUCache 1000 [], none) := by
  obtain ⟨n', c', cs', d, hf, hb, hs, hw⟩ := file_holds
  obtain ⟨n2, hp2, vals, hopen, hg⟩ := GenCompose.opened_index_refines X 0 n' c' cs' w.1 d _ _ (hw.fileOK hb) X_nil preload
    (fun _ => hs) (fun _ => hw.vDecodable hs)
  refine ⟨n', c', cs', n2, hp2, vals, hf, ?_⟩
  have hrel := (newLRUCache_rel szU 1000 [] (szU_fits 1000 (by decide))).1
  have := genLruExecute_eq_executeC toyH X _ hp2 0 d _ _ vals hg szU 1000 _ _ hrel
    ⟨.and [.equal [97] [49], .nil], []⟩ [] (by intro e he; cases he)
  exact this

/-! ### the driver -/

/-- the file system: `x` is the file the generated writer wrote, `y` a bolt file without the bucket `data`
    (not an index), everything else is missing -/
def fsD : Bytes → Option Buckets := fun f =>
  if f = [120] then some file.committed else if f = [121] then some [] else none

/-- the DSN options `preload=true&lrucache=true&lrucachesize=42` -/
def vLru : Url.Values :=
  [([112, 114, 101, 108, 111, 97, 100], [116, 114, 117, 101]), ([108, 114, 117, 99, 97, 99, 104, 101], [116, 114, 117, 101]),
   ([108, 114, 117, 99, 97, 99, 104, 101, 115, 105, 122, 101], [52, 50])]

/-- `lrucache=true&lrucachesize=x`: does not parse -/
def vBad : Url.Values :=
  [([108, 114, 117, 99, 97, 99, 104, 101], [116, 114, 117, 101]),
   ([108, 114, 117, 99, 97, 99, 104, 101, 115, 105, 122, 101], [120])]

def kLru : Drv.fileCacheKey := ⟨[120], sPreload ++ sLru ++ sLruSize ++ [52, 50]⟩

theorem key_lru : keyOf [120] vLru = some kLru := by simp only [keyOf, vLru, cfg_lru]; rfl
theorem key_plain (f : Bytes) : keyOf f [] = some ⟨f, []⟩ := by simp only [keyOf, cfg_plain]
theorem cfg_bad : dsnConfig (dsnOptsOf vBad) = .error := by decide +kernel
theorem key_bad (f : Bytes) : keyOf f vBad = none := by simp only [keyOf, cfg_bad]

theorem good_x : GoodFile X toyH fsD [120] rows := by
  obtain ⟨n', c', cs', d, hf, hb, hs, hw⟩ := file_holds
  have hc : file.committed = c' := by rw [hf]; rfl
  exact ⟨c', d, _, by simp [fsD, hc], hb, hs, hw, by decide⟩

theorem good_only_x (f : Bytes) (rows' : List Row) (h : GoodFile X toyH fsD f rows') : f = [120] := by
  obtain ⟨c, d, next, hfs, hb, _⟩ := h
  unfold fsD at hfs
  by_cases h1 : f = [120]
  · exact h1
  · rw [if_neg h1] at hfs
    by_cases h2 : f = [121]
    · rw [if_pos h2] at hfs
      cases hfs
      cases hb
    · rw [if_neg h2] at hfs
      cases hfs

/-- the standing hypotheses hold of the toy file system, with the universe of the statement's expression `e2` -/
theorem setting : Setting X toyH fsD (subsOf [e2]) where
  hnil := X_nil
  blind := by
    apply optionBlind_of_files X toyH fsD X_nil
    intro f c hfs
    unfold fsD at hfs
    by_cases h1 : f = [120]
    · subst h1; exact Or.inl ⟨rows, good_x⟩
    · rw [if_neg h1] at hfs
      by_cases h2 : f = [121]
      · rw [if_pos h2] at hfs
        cases hfs
        exact Or.inr (by decide)
      · rw [if_neg h2] at hfs
        cases hfs
  closed := subsOf_closed [e2]
  keys := by
    intro f rows' hgood
    have hf := good_only_x f rows' hgood
    subst hf
    rw [← goodFile_toIndex_eq X toyH fsD [120] rows rows' good_x hgood]
    exact keyOK_e2

theorem valid_x : validK X fsD kLru = true := genValid_good X toyH fsD X_nil [120] rows good_x
theorem invalid_y : genValid X fsD [121] = false := by decide +kernel
theorem invalid_z : genValid X fsD [122] = false := rfl

/-- a history: `Open` of a missing file, of a file that is not an index, of a DSN with unparsable options (all three
    fail), `Open` of the written file with preload and a 42-byte LRU, a statement on it, `Close` -/
def hist : List DOp :=
  [.open [122] [], .open [121] [], .open [120] vBad, .open [120] vLru, .query [120] vLru stmtText [[49]],
   .close [120] vLru]

/-- the fuel `Prepare` uses is enough: the parse is the one of `stmt_parse` -/
theorem stmt_parse44 : Gen.ParseQuery (3 * stmtText.length + 5) stmtText = .ok stmtParsed := by
  have h := (ParseQuery_toOption stmtText _ (Nat.le_refl _)).trans (ParseQuery_toOption stmtText 50 (by decide)).symm
  rw [stmt_parse] at h
  cases hp : Gen.ParseQuery (3 * stmtText.length + 5) stmtText with
  | ok q => rw [hp] at h; cases h; rfl
  | error e => rw [hp] at h; cases h

theorem hist_ok : ∀ op ∈ hist, op.ok szU (subsOf [e2]) := by
  intro op hop
  simp only [hist, List.mem_cons, List.not_mem_nil, or_false] at hop
  rcases hop with rfl | rfl | rfl | rfl | rfl | rfl
  · intro cfg n hc hn; rw [cfg_plain] at hc; cases hc; cases hn
  · intro cfg n hc hn; rw [cfg_plain] at hc; cases hc; cases hn
  · intro cfg n hc hn; rw [cfg_bad] at hc; cases hc
  · intro cfg n hc hn
    rw [vLru, cfg_lru] at hc; cases hc; cases hn
    exact szU_fits _ (by decide)
  · intro pq q' hp hb
    rw [stmt_parse44] at hp; cases hp
    have : bind stmtParsed [[49]] = .ok ⟨.or [.eq [97] [49] 0, .not (.eq [98] [49] 0)], [[97]]⟩ := rfl
    rw [this] at hb; cases hb
    exact subsOf_mem _ _ (by simp [toExpr, toExprs, e2, x, y])
  · trivial

/-- the model's counts along the history: nothing until the fourth `Open`, then one connection of `kLru` -/
theorem hist_steps :
    stepO (validK X fsD) (fun _ => 0) (DOp.abs (.open [122] [])) = (fun _ => 0, .error) ∧
    stepO (validK X fsD) (fun _ => 0) (DOp.abs (.open [121] [])) = (fun _ => 0, .error) ∧
    stepO (validK X fsD) (fun _ => 0) (DOp.abs (.open [120] vBad)) = (fun _ => 0, .error) ∧
    stepO (validK X fsD) (fun _ => 0) (DOp.abs (.open [120] vLru)) = (upd (fun _ => 0) kLru 1, .ok ()) := by
  refine ⟨?_, ?_, ?_, ?_⟩
  · simp only [DOp.abs, key_plain, Option.map_some, stepO, stepG, validK, invalid_z]; rfl
  · simp only [DOp.abs, key_plain, Option.map_some, stepO, stepG, validK, invalid_y]; rfl
  · simp only [DOp.abs, key_bad, Option.map_none, stepO]
  · simp only [DOp.abs, key_lru, Option.map_some, stepO, stepG, valid_x]; rfl

theorem hist_disciplined : Disciplined (validK X fsD) (fun _ => 0) hist := by
  obtain ⟨s1, s2, s3, s4⟩ := hist_steps
  simp only [hist, Disciplined, DOp.allowed, s1, s2, s3, s4, true_and]
  refine ⟨⟨kLru, key_lru, by simp [upd]⟩, ⟨kLru, ?_, ?_⟩, trivial⟩
  · exact key_lru
  · simp only [DOp.abs, key_lru, Option.map_some, stepO, stepG, upd_same]
    simp [upd]

/-- **2** `driver_history_refines_model`: the hypotheses hold of the history; no call panics -/
example : ∀ r ∈ (grun X toyH szU fsD g0 hist).2, r ≠ .panic :=
  (driver_history_refines_model X toyH szU fsD setting hist hist_disciplined hist_ok).2.2.2

/-- **(a)** `driver_query_returns_sql`: the statement at position 4 returns the specification's groups for the toy
    rows — through the generated LRU of 42 bytes on the preloaded index, after three failed opens -/
example : ∃ groups, specGroups rows e2 [[97]] = some groups ∧
    (grun X toyH szU fsD g0 hist).2[4]? = some (.rows (.ok ([[97], countCol], groups.map C12.groupRow))) := by
  obtain ⟨r, hr1, hr2⟩ := driver_query_returns_sql X toyH szU fsD setting
    [.open [122] [], .open [121] [], .open [120] vBad, .open [120] vLru] [.close [120] vLru]
    [120] vLru stmtText [[49]] hist_disciplined hist_ok rows good_x stmtParsed stmt_parse44
    ⟨.or [.eq [97] [49] 0, .not (.eq [98] [49] 0)], [[97]]⟩ rfl
    (queries_ok ⟨e2, [[97]]⟩ (by simp [Toy.qs])) data_ok
  obtain ⟨groups, hg1, hg2⟩ := sqlRows_eq rows _ r hr1
  refine ⟨groups, hg1, ?_⟩
  rw [hg2] at hr2
  exact hr2

/-- **(b)** `failed_open_changes_nothing` / `failed_open_then_fresh`: the three failing DSNs, one after the other, leave
    the driver unused -/
example (ops : List DOp) :
    grun X toyH szU fsD g0 (.open [122] [] :: .open [121] [] :: .open [120] vBad :: ops) =
      ((grun X toyH szU fsD g0 ops).1, .failed :: .failed :: .failed :: (grun X toyH szU fsD g0 ops).2) := by
  rw [failed_open_then_fresh X toyH szU fsD setting [122] [] (hist_ok _ (by simp [hist])) (Or.inr invalid_z),
    failed_open_then_fresh X toyH szU fsD setting [121] [] (hist_ok _ (by simp [hist])) (Or.inr invalid_y),
    failed_open_then_fresh X toyH szU fsD setting [120] vBad (hist_ok _ (by simp [hist])) (Or.inl (key_bad _))]

/-- **(c)** `last_close_releases` and `file_unlocked_iff`: the `Close` at position 5 is the last one of its key; after
    the history no handle is open on `x` -/
example : (grun X toyH szU fsD g0 hist).2[5]? = some .closed ∧ holders (grun X toyH szU fsD g0 hist).1.w [120] = [] := by
  have hpre := (driver_history_refines_model X toyH szU fsD setting
    [.open [122] [], .open [121] [], .open [120] vBad, .open [120] vLru, .query [120] vLru stmtText [[49]]]
    ((disciplined_append _ _ _ [.close [120] vLru]).1 hist_disciplined).1
    (fun op hop => hist_ok op (by simp only [hist]; exact List.mem_append_left [.close [120] vLru] hop))).2.1
  obtain ⟨s1, s2, s3, s4⟩ := hist_steps
  have hlast : refsOf (grun X toyH szU fsD g0
      [.open [122] [], .open [121] [], .open [120] vBad, .open [120] vLru, .query [120] vLru stmtText [[49]]]).1.w kLru = 1 := by
    rw [hpre]
    simp only [List.map_cons, List.map_nil, runO, s1, s2, s3, s4]
    simp [DOp.abs, key_lru, stepO, stepG, upd]
  have h := last_close_releases X toyH szU fsD setting
    [.open [122] [], .open [121] [], .open [120] vBad, .open [120] vLru, .query [120] vLru stmtText [[49]]] []
    [120] vLru hist_disciplined hist_ok kLru key_lru hlast
  refine ⟨h.1, ?_⟩
  have hall := driver_history_refines_model X toyH szU fsD setting hist hist_disciplined hist_ok
  rw [(file_unlocked_iff X toyH szU fsD setting hist hist_disciplined hist_ok [120]).1]
  intro k hk
  rw [hall.2.1]
  simp only [hist, List.map_cons, List.map_nil, runO, s1, s2, s3, s4]
  simp [DOp.abs, key_lru, stepO, stepG, upd]

/-- `open_acquires_shared_lock`: the first `Open` of the written file on the unused driver makes handle 0 the only
    (shared) holder of `x`, and no holder of any other file -/
example (f : Bytes) : holders (gOpen X fsD g0 [120] vLru).1.w f = if f = [120] then [⟨0, 0, .shared⟩] else [] := by
  have h := open_acquires_shared_lock X toyH szU fsD (U := subsOf [e2]) g0 (g0_inv X toyH szU fsD _) [120] vLru f
    { fs := .absent, holders := [], live := [], next := 0 } rfl rfl
  rw [h, key_lru]
  have hv : genValid X fsD [120] = true := valid_x
  have hr : refsOf g0.w kLru = 0 := rfl
  by_cases hf : f = [120]
  · simp [hf, hv, hr, LockState.acquire]
  · simp [hf]; rfl

/-- the composed driver, simply run: the three failed opens, the connection, the rows `a=1 → 2`, the close -/
example : (grun X toyH szU fsD g0 hist).2 =
    [.failed, .failed, .failed, .conn 0, .rows (.ok ([[97], countCol], [[Cell.text [49], Cell.int 2]])), .closed] := by
  decide +kernel

end Demo

end Updog.GenCompose2
