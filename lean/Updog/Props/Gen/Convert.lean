/-
internal/convert/convert.go, regenerated (`Gen.toExpr`, `Gen.ToQuery`, `Gen.ToProtobufResult`, `Gen.ToResult` in
`Updog/GeneratedFns.lean`) = the hand-written model (`WExpr.complete`, `toProtobufResult`, `toResult` of
`Updog/Model/Server.lean`).
-/
import Updog.GeneratedFns
import Updog.Proofs.GoPreludeT5
import Updog.Model.Server

set_option linter.unusedSimpArgs false
namespace Updog.GeneratedEq
open Updog.Go

/-! ### toExpr -/

mutual
/-- `toExpr`, written by structural recursion: a missing member becomes a nil operand -/
def toExprSpec : WExpr → Lib.Expression
  | .eq c v => .equal c v
  | .not none => .not .nil
  | .not (some e) => .not (toExprSpec e)
  | .and es => .and (toExprSpecL es)
  | .or es => .or (toExprSpecL es)
  | .unset => .nil
def toExprSpecL : List WExpr → List Lib.Expression
  | [] => []
  | e :: es => toExprSpec e :: toExprSpecL es
end

theorem toExprF_and (n : Nat) (es : List WExpr) :
    Gen.toExprF (n + 1) (.and es) = .and (es.map (Gen.toExprF n)) := by
  show Lib.ExprAnd.toExpression (List.foldl
    (fun (e : Lib.ExprAnd) ee => ({ Exprs := e.Exprs ++ [Gen.toExprF n ee] } : Lib.ExprAnd)) { Exprs := [] } es) = _
  rw [foldl_ExprAnd]
  rfl

theorem toExprF_or (n : Nat) (es : List WExpr) :
    Gen.toExprF (n + 1) (.or es) = .or (es.map (Gen.toExprF n)) := by
  show Lib.ExprOr.toExpression (List.foldl
    (fun (e : Lib.ExprOr) ee => ({ Exprs := e.Exprs ++ [Gen.toExprF n ee] } : Lib.ExprOr)) { Exprs := [] } es) = _
  rw [foldl_ExprOr]
  rfl

theorem toExprF_not (n : Nat) (o : Option WExpr) :
    Gen.toExprF (n + 1) (.not o) = .not (Gen.toExprF n (o.getD .unset)) :=
  rfl

theorem toExprF_eq (n : Nat) (c v : Bytes) : Gen.toExprF (n + 1) (.eq c v) = .equal c v :=
  rfl

theorem toExprF_unset (n : Nat) : Gen.toExprF n .unset = .nil := by
  cases n <;> rfl

mutual
/-- enough fuel: the worker computes `toExprSpec` -/
theorem toExprF_spec (w : WExpr) (n : Nat) (h : Wire.Expression.depth w < n) : Gen.toExprF n w = toExprSpec w := by
  cases n with
  | zero => exact absurd h (Nat.not_lt_zero _)
  | succ n =>
    match w, h with
    | .eq c v, _ => exact toExprF_eq n c v
    | .not none, _ => exact (toExprF_not n none).trans (congrArg Lib.Expression.not (toExprF_unset n))
    | .not (some e), h =>
      exact (toExprF_not n (some e)).trans (congrArg Lib.Expression.not (toExprF_spec e n (Nat.lt_of_succ_lt_succ h)))
    | .and es, h =>
      exact (toExprF_and n es).trans (congrArg Lib.Expression.and (toExprF_specL es n (Nat.lt_of_succ_lt_succ h)))
    | .or es, h =>
      exact (toExprF_or n es).trans (congrArg Lib.Expression.or (toExprF_specL es n (Nat.lt_of_succ_lt_succ h)))
    | .unset, _ => exact toExprF_unset _
theorem toExprF_specL (es : List WExpr) (n : Nat) (h : Wire.Expression.depthL es < n) :
    es.map (Gen.toExprF n) = toExprSpecL es := by
  match es, h with
  | [], _ => rfl
  | e :: es, h =>
    show Gen.toExprF n e :: es.map (Gen.toExprF n) = toExprSpec e :: toExprSpecL es
    rw [toExprF_spec e n (Nat.lt_of_le_of_lt (Nat.le_max_left _ _) h),
      toExprF_specL es n (Nat.lt_of_le_of_lt (Nat.le_max_right _ _) h)]
end

/-- the regenerated `toExpr` is `toExprSpec`: operands converted in order, none dropped, missing members ↦ nil -/
theorem toExpr_spec (w : WExpr) : Gen.toExpr w = toExprSpec w :=
  toExprF_spec w _ (Nat.lt_succ_self _)

mutual
/-- the completeness check of `Execute` (`validateExpr` of query.go, hand-written here) on a library expression:
    `none` = some operand is nil -/
def libComplete : Lib.Expression → Option Expr
  | .nil => none
  | .equal c v => some (.eq c v)
  | .not e => (libComplete e).map Expr.not
  | .and es => (libCompleteL es).map Expr.and
  | .or es => (libCompleteL es).map Expr.or
def libCompleteL : List Lib.Expression → Option (List Expr)
  | [] => some []
  | e :: es =>
    match libComplete e with
    | none => none
    | some x => (libCompleteL es).map (x :: ·)
end

mutual
theorem libComplete_spec (w : WExpr) : libComplete (toExprSpec w) = w.complete := by
  match w with
  | .eq c v => rfl
  | .not none => rfl
  | .not (some e) => exact congrArg (Option.map Expr.not) (libComplete_spec e)
  | .and es => exact congrArg (Option.map Expr.and) (libComplete_specL es)
  | .or es => exact congrArg (Option.map Expr.or) (libComplete_specL es)
  | .unset => rfl
theorem libComplete_specL (es : List WExpr) : libCompleteL (toExprSpecL es) = WExpr.completeList es := by
  match es with
  | [] => rfl
  | e :: es =>
    show (match libComplete (toExprSpec e) with | none => none | some x => (libCompleteL (toExprSpecL es)).map (x :: ·))
      = match WExpr.complete e with | none => none | some x => (WExpr.completeList es).map (x :: ·)
    rw [libComplete_spec e, libComplete_specL es]
end

/-- `convert.toExpr` followed by the completeness check = the model's `WExpr.complete`, for every wire tree -/
theorem toExpr_complete (w : WExpr) : libComplete (Gen.toExpr w) = w.complete := by
  rw [toExpr_spec, libComplete_spec]

/-! ### ToQuery -/

theorem ToQuery_eq (q : WQuery) :
    Gen.ToQuery q = { Expr := toExprSpec (q.expr.getD .unset), GroupBy := q.groupBy } := by
  simp [Gen.ToQuery, toExpr_spec, Wire.Query.GetExpr, Wire.Query.GetGroupBy]

/-- the expression `ToQuery` hands to `Execute` passes the completeness check exactly when the model's
    `serverExecute` gets past its two `none` cases, and then it is the same tree; the group-by list is copied -/
theorem ToQuery_complete (q : WQuery) :
    libComplete (Gen.ToQuery q).Expr = (match q.expr with | none => none | some w => w.complete) ∧
    (Gen.ToQuery q).GroupBy = q.groupBy := by
  rw [ToQuery_eq]
  cases q.expr with
  | none => exact ⟨rfl, rfl⟩
  | some w => exact ⟨libComplete_spec w, rfl⟩

/-! ### results -/

/-- the model's view of a library result (counts are `uint64` in Go, `Nat` in the model) -/
def resultOfGo (r : Lib.Result) : Result :=
  ⟨r.Count.toNat, r.Groups.map fun g => (g.Fields.map fun f => (f.Column, f.Value), g.Count.toNat)⟩

/-- the model's view of a protobuf result message -/
def presultOfGo (p : Pb.Result) : PResult :=
  ⟨p.QueryId, p.TotalCount.toNat, p.Groups.map fun g => (g.Fields.map fun f => (f.Column, f.Value), g.Count.toNat)⟩

/-- a model result as a Go value (exact when the counts fit 64 bits, see `resultOfGo_toGo`) -/
def resultToGo (r : Result) : Lib.Result :=
  ⟨r.count.toUInt64, r.groups.map fun g => ⟨g.1.map fun f => ⟨f.1, f.2⟩, g.2.toUInt64⟩⟩

def presultToGo (p : PResult) : Pb.Result :=
  ⟨p.queryId, p.totalCount.toUInt64, p.groups.map fun g => ⟨g.1.map fun f => ⟨f.1, f.2⟩, g.2.toUInt64⟩⟩

def Result.fits (r : Result) : Prop := r.count < 2 ^ 64 ∧ ∀ g ∈ r.groups, g.2 < 2 ^ 64
def PResult.fits (p : PResult) : Prop := p.totalCount < 2 ^ 64 ∧ ∀ g ∈ p.groups, g.2 < 2 ^ 64

theorem toNat_toUInt64 (n : Nat) (h : n < 2 ^ 64) : n.toUInt64.toNat = n := by
  rw [Nat.toUInt64, UInt64.toNat_ofNat', Nat.mod_eq_of_lt h]

/-- a group list survives the trip to Go and back: field pairs always, counts when they fit 64 bits -/
theorem groups_roundtrip {γ : Type} (toGo : List (Bytes × Bytes) × Nat → γ) (ofGo : γ → List (Bytes × Bytes) × Nat)
    (h : ∀ fs n, ofGo (toGo (fs, n)) = (fs, n.toUInt64.toNat)) (gs : List (List (Bytes × Bytes) × Nat))
    (hfit : ∀ g ∈ gs, g.2 < 2 ^ 64) : (gs.map toGo).map ofGo = gs := by
  rw [List.map_map]
  exact (List.map_congr_left fun g hg => (h g.1 g.2).trans (by rw [toNat_toUInt64 _ (hfit g hg)]; rfl)).trans (List.map_id gs)

theorem resultOfGo_toGo (r : Result) (h : Result.fits r) : resultOfGo (resultToGo r) = r := by
  have hg := groups_roundtrip (fun g => (⟨g.1.map fun f => ⟨f.1, f.2⟩, g.2.toUInt64⟩ : Lib.ResultGroup))
    (fun g => (g.Fields.map fun f => (f.Column, f.Value), g.Count.toNat))
    (fun fs n => by rw [List.map_map]; exact congrArg (·, _) (List.map_id'' (fun _ => rfl) fs)) r.groups h.2
  exact congr (congrArg Result.mk (toNat_toUInt64 _ h.1)) hg

theorem presultOfGo_toGo (p : PResult) (h : PResult.fits p) : presultOfGo (presultToGo p) = p := by
  have hg := groups_roundtrip (fun g => (⟨g.1.map fun f => ⟨f.1, f.2⟩, g.2.toUInt64⟩ : Pb.Result_Group))
    (fun g => (g.Fields.map fun f => (f.Column, f.Value), g.Count.toNat))
    (fun fs n => by rw [List.map_map]; exact congrArg (·, _) (List.map_id'' (fun _ => rfl) fs)) p.groups h.2
  exact congr (congrArg (PResult.mk p.queryId) (toNat_toUInt64 _ h.1)) hg

/-- `ToProtobufResult`, as a map: id and total copied, one group message per group in order, one field message per
    field in order, every count copied -/
theorem ToProtobufResult_spec (r : Lib.Result) (qid : Int) :
    Gen.ToProtobufResult r qid =
      { QueryId := qid, TotalCount := r.Count,
        Groups := r.Groups.map fun g => { Fields := g.Fields.map fun f => { Column := f.Column, Value := f.Value }, Count := g.Count } } := by
  simp [Gen.ToProtobufResult, foldl_append_map, flatten_map_single, foldl_PbResult_Groups]

/-- regenerated `ToProtobufResult` = the model's `toProtobufResult`, for every Go result -/
theorem ToProtobufResult_eq (r : Lib.Result) (qid : Int) :
    presultOfGo (Gen.ToProtobufResult r qid) = toProtobufResult (resultOfGo r) qid := by
  rw [ToProtobufResult_spec]
  simp [presultOfGo, toProtobufResult, resultOfGo, List.map_map, Function.comp_def]

/-- … and hence for every model result whose counts fit 64 bits -/
theorem ToProtobufResult_model (r : Result) (qid : Int) (h : Result.fits r) :
    presultOfGo (Gen.ToProtobufResult (resultToGo r) qid) = toProtobufResult r qid := by
  rw [ToProtobufResult_eq, resultOfGo_toGo r h]

theorem ToResult_spec (p : Pb.Result) :
    Gen.ToResult p =
      { Count := p.TotalCount,
        Groups := p.Groups.map fun g => { Fields := g.Fields.map fun f => { Column := f.Column, Value := f.Value }, Count := g.Count } } := by
  simp [Gen.ToResult, foldl_append_map, flatten_map_single, foldl_LibResult_Groups, foldl_LibResultGroup_Fields]

/-- regenerated `ToResult` = the model's `toResult`, for every protobuf result message -/
theorem ToResult_eq (p : Pb.Result) : resultOfGo (Gen.ToResult p) = toResult (presultOfGo p) := by
  rw [ToResult_spec]
  simp [presultOfGo, toResult, resultOfGo, List.map_map, Function.comp_def]

theorem ToResult_model (p : PResult) (h : PResult.fits p) :
    resultOfGo (Gen.ToResult (presultToGo p)) = toResult p := by
  rw [ToResult_eq, presultOfGo_toGo p h]

/-! ### examples -/

example : Gen.toExpr (.and [.eq [97] [49], .not none, .or [.unset, .not (some (.eq [98] [50]))]]) =
    .and [.equal [97] [49], .not .nil, .or [.nil, .not (.equal [98] [50])]] := by rfl

example : libComplete (Gen.toExpr (.and [.eq [97] [49], .not (some (.eq [98] [50]))])) =
    some (.and [.eq [97] [49], .not (.eq [98] [50])]) := by rfl

example : Gen.ToProtobufResult ⟨5, [⟨[⟨[97], [49]⟩, ⟨[98], [50]⟩], 3⟩, ⟨[⟨[97], [51]⟩], 2⟩]⟩ 7 =
    ⟨7, 5, [⟨[⟨[97], [49]⟩, ⟨[98], [50]⟩], 3⟩, ⟨[⟨[97], [51]⟩], 2⟩]⟩ := by decide +kernel

example : Gen.ToResult ⟨7, 5, [⟨[⟨[97], [49]⟩, ⟨[98], [50]⟩], 3⟩]⟩ = ⟨5, [⟨[⟨[97], [49]⟩, ⟨[98], [50]⟩], 3⟩]⟩ := by decide +kernel

end Updog.GeneratedEq
