/-
Equivalence of the definitions REGENERATED from the Go source (`Updog/GeneratedFns.lean`, written by
extract/translate.go on every run) with the hand-written models. If a translated Go function changes its meaning,
the generated text changes and the corresponding theorem below stops checking; if the function leaves the
translator's subset, its definition is missing and the theorem fails to elaborate.
-/
import Updog.GeneratedFns
import Updog.Proofs.GoPrelude

namespace Updog.GeneratedEq
open Updog.Go (allDigits)

/-! ### queryparser.go: decodeString, decodePlaceholder -/

/-- On a string lexeme `"body"` (all the lexer ever passes) the Go `decodeString` is the model's `unescape body`. -/
theorem decodeString_lexeme (body : Bytes) : Gen.decodeString (34 :: body ++ [34]) = unescape body := by
  have h1 : ¬ (Go.len (34 :: (body ++ [34])) < 2) := by
    simp only [Go.len, List.length_cons, List.length_append, List.length_nil]; omega
  simp [Gen.decodeString, h1, Go.index_zero_cons, Go.sliceFrom_one_cons, Go.index_last, Go.sliceTo_last,
    Go.replaceAll_unescape]

/-- Inputs shorter than two bytes are returned unchanged. -/
theorem decodeString_short (s : Bytes) (h : s.length < 2) : Gen.decodeString s = s := by
  have h1 : Go.len s < 2 := by simp only [Go.len]; omega
  simp [Gen.decodeString, h1]

/-- On `$` followed by decimal digits (possibly none, possibly too many) the Go `decodePlaceholder` returns the
    model's `decodePlaceholder`: the number, or 0 for "no digits" and for values above 2^31-1. -/
theorem decodePlaceholder_eq (ds : Bytes) (h : allDigits ds) :
    Gen.decodePlaceholder (36 :: ds) = (decodePlaceholder ds : Int) := by
  cases ds with
  | nil => simp [Gen.decodePlaceholder, Go.len, decodePlaceholder]
  | cons d r =>
    have h1 : ¬ (Go.len (36 :: d :: r) < 2) := by
      simp only [Go.len, List.length_cons]; omega
    simp only [Gen.decodePlaceholder, h1, decide_false, Bool.false_eq_true, if_false, Go.sliceFrom_one_cons,
      Go.parseInt32_digits d r h, decodePlaceholder, List.isEmpty_cons]
    by_cases hlt : digitsVal (d :: r) < 2147483648
    · have : ¬ digitsVal (d :: r) > 2147483647 := by omega
      simp [hlt, this]
    · have : digitsVal (d :: r) > 2147483647 := by omega
      simp [hlt, this]

/-- The first byte plays no role (Go slices it off unseen). -/
theorem decodePlaceholder_anyPrefix (c : UInt8) (ds : Bytes) :
    Gen.decodePlaceholder (c :: ds) = Gen.decodePlaceholder (36 :: ds) := rfl

example : Gen.decodeString (34 :: [97, 34, 34, 98] ++ [34]) = [97, 34, 98] := by decide

example : Gen.decodeString [34] = [34] := by decide

example : allDigits [52, 50] ∧ Gen.decodePlaceholder (36 :: [52, 50]) = 42 := by decide

example : allDigits [50, 49, 52, 55, 52, 56, 51, 54, 52, 56] ∧
    Gen.decodePlaceholder (36 :: [50, 49, 52, 55, 52, 56, 51, 54, 52, 56]) = 0 := by decide

end Updog.GeneratedEq
