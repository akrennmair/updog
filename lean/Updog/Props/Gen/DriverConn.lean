/-
driver/driver.go: the critical section of `openFile` and `fileConn.Close`, regenerated (`Gen.openFileLocked`,
`Gen.connClose`) = the reference-count state machine `Drv.step` of `Updog/Model/Driver.lean`.
-/
import Updog.GeneratedFns
import Updog.Proofs.GoPreludeT5
import Updog.Props.Gen.Driver
import Updog.Model.Driver

namespace Updog.GeneratedEq
open Updog.Go

/-! ### the model's step function over an arbitrary key type -/

inductive KOp (K : Type) where
  | open (k : K)
  | query (k : K)
  | close (k : K)

def upd {K : Type} [DecidableEq K] (refs : K → Nat) (k : K) (n : Nat) : K → Nat := fun k' => if k' = k then n else refs k'

/-- `Drv.step` with the key type and the validity predicate abstracted -/
def stepG {K : Type} [DecidableEq K] (valid : K → Bool) (refs : K → Nat) : KOp K → (K → Nat) × Outcome Unit
  | .open k =>
    if refs k > 0 then (upd refs k (refs k + 1), .ok ())
    else if valid k then (upd refs k 1, .ok ())
    else (refs, .error)
  | .query k => if refs k > 0 then (refs, .ok ()) else (refs, .panic)
  | .close k => (upd refs k (refs k - 1), .ok ())

def KOp.ofDrv : DrvOp → KOp DKey
  | .open k => .open k
  | .query k => .query k
  | .close k => .close k

/-- the hand-written model is the instance of `stepG` at the model's key type -/
theorem Drv_step_generic (valid : Nat → Bool) (d : Drv) (op : DrvOp) :
    Drv.step valid d op =
      (⟨(stepG (fun k : DKey => valid k.file) d.refs (KOp.ofDrv op)).1⟩, (stepG (fun k : DKey => valid k.file) d.refs (KOp.ofDrv op)).2) := by
  cases op with
  | «open» k =>
    simp only [Drv.step, stepG, KOp.ofDrv]
    by_cases h1 : d.refs k > 0
    · simp [h1, Drv.set] <;> rfl
    · by_cases h2 : valid k.file = true
      · simp [h1, h2, Drv.set] <;> rfl
      · simp [h1, h2]
  | query k =>
    simp only [Drv.step, stepG, KOp.ofDrv]
    by_cases h1 : d.refs k > 0 <;> simp [h1]
  | close k => rfl

/-! ### the abstraction: reference count of a key = `refs` of its cached connection, 0 without entry -/

def refsOf (w : Drv.World) (k : Drv.fileCacheKey) : Nat :=
  match w.cache k with
  | some c => (w.conns c).refs.toNat
  | none => 0

theorem refsOf_some {w : Drv.World} {k : Drv.fileCacheKey} {c : Drv.ConnId} (h : w.cache k = some c) :
    refsOf w k = (w.conns c).refs.toNat := by
  simp only [refsOf, h]

theorem refsOf_none {w : Drv.World} {k : Drv.fileCacheKey} (h : w.cache k = none) : refsOf w k = 0 := by
  simp only [refsOf, h]

/-- the states between two driver calls -/
structure Inv (w : Drv.World) : Prop where
  idle : w.held = false
  clean : w.raced = false
  key : ∀ k (c : Nat), w.cache k = some c → (w.conns c).key = k
  pos : ∀ k (c : Nat), w.cache k = some c → 1 ≤ (w.conns c).refs
  fresh : ∀ k (c : Nat), w.cache k = some c → c < (w.nextConn : Nat)

theorem Inv.inj {w : Drv.World} (h : Inv w) {k k' : Drv.fileCacheKey} {c : Nat}
    (h1 : w.cache k = some c) (h2 : w.cache k' = some c) : k = k' := by
  rw [← h.key k c h1, ← h.key k' c h2]

def outcomeOf {α : Type} : Except Err5 α → Outcome Unit
  | .ok _ => .ok ()
  | .error _ => .error

/-! ### how a call edits the shared state -/

section
variable {w w' : Drv.World} {k : Drv.fileCacheKey} {c : Drv.ConnId}

/-- the connections cached under other keys are other objects -/
theorem Inv.other (hinv : Inv w) (hc : w.cache k = some c) {k' : Drv.fileCacheKey} {c' : Drv.ConnId} (hne : k' ≠ k)
    (h : w.cache k' = some c') : c' ≠ c :=
  fun e => hne (hinv.inj (e ▸ h) hc)

/-- A call edits the entry of one key `k`: every other key keeps its entry and its connection object, addresses only
    grow, the flags are clear again, and the entry of `k`, if there is one, is well formed. -/
theorem Inv.edit (hinv : Inv w) (k : Drv.fileCacheKey) (hheld : w'.held = false) (hraced : w'.raced = false)
    (hoff : ∀ k', k' ≠ k → w'.cache k' = w.cache k' ∧ ∀ c', w.cache k' = some c' → w'.conns c' = w.conns c')
    (hnext : w.nextConn ≤ w'.nextConn)
    (hk : ∀ c', w'.cache k = some c' → (w'.conns c').key = k ∧ 1 ≤ (w'.conns c').refs ∧ c' < w'.nextConn) :
    Inv w' ∧ refsOf w' = upd (refsOf w) k (refsOf w' k) := by
  have hcon : ∀ k' c', w'.cache k' = some c' →
      (w'.conns c').key = k' ∧ 1 ≤ (w'.conns c').refs ∧ c' < w'.nextConn := by
    intro k' c' h
    by_cases e : k' = k
    · exact e ▸ hk c' (e ▸ h)
    · obtain ⟨h1, h2⟩ := hoff k' e
      rw [h1] at h
      rw [h2 c' h]
      exact ⟨hinv.key _ _ h, hinv.pos _ _ h, Nat.lt_of_lt_of_le (hinv.fresh _ _ h) hnext⟩
  refine ⟨⟨hheld, hraced, fun k' c' h => (hcon k' c' h).1, fun k' c' h => (hcon k' c' h).2.1,
    fun k' c' h => (hcon k' c' h).2.2⟩, ?_⟩
  funext k'
  show _ = if k' = k then _ else _
  split
  · next e => rw [e]
  · next e =>
    obtain ⟨h1, h2⟩ := hoff k' e
    cases h : w.cache k' with
    | none => rw [refsOf_none h, refsOf_none (h1.trans h)]
    | some c' => rw [refsOf_some h, refsOf_some (h1.trans h), h2 c' h]

/-! The three edits the driver makes, each for any world `w'` whose cache, connection objects and next address have
the given form. -/

/-- the count of the cached connection of `k` becomes `m ≥ 1` -/
theorem Inv.count (hinv : Inv w) (hc : w.cache k = some c) {n : Int} {m : Nat} (hn : n = m) (hm : 1 ≤ m)
    (hheld : w'.held = false) (hraced : w'.raced = false) (hcache : w'.cache = w.cache)
    (hconns : ∀ c', w'.conns c' = if c' = c then { w.conns c with refs := n } else w.conns c')
    (hnext : w'.nextConn = w.nextConn) :
    Inv w' ∧ refsOf w' = upd (refsOf w) k m := by
  have hkc : w'.cache k = some c := hcache ▸ hc
  have hcc : w'.conns c = { w.conns c with refs := n } := (hconns c).trans (if_pos rfl)
  have := Inv.edit hinv k hheld hraced
    (fun k' hne => ⟨congrFun hcache k', fun c' h => (hconns c').trans (if_neg (hinv.other hc hne h))⟩)
    (Nat.le_of_eq hnext.symm) fun c' h => by
      cases hkc.symm.trans h
      rw [hcc, hnext]
      exact ⟨hinv.key _ _ hc, hn ▸ Int.ofNat_le.mpr hm, hinv.fresh _ _ hc⟩
  rwa [refsOf_some hkc, hcc, hn, Int.toNat_natCast] at this

/-- a connection with key `k` and count `m ≥ 1` is created at the next address and entered under `k` -/
theorem Inv.enter (hinv : Inv w) {n : Int} {m : Nat} (hn : n = m) (hm : 1 ≤ m)
    {idx : Option Drv.IdxId} (hheld : w'.held = false) (hraced : w'.raced = false)
    (hcache : ∀ k', w'.cache k' = if k' = k then some w.nextConn else w.cache k')
    (hconns : ∀ c', w'.conns c' = if c' = w.nextConn then ⟨idx, k, n⟩ else w.conns c')
    (hnext : w'.nextConn = w.nextConn + 1) :
    Inv w' ∧ refsOf w' = upd (refsOf w) k m := by
  have hkc : w'.cache k = some w.nextConn := (hcache k).trans (if_pos rfl)
  have hcc : w'.conns w.nextConn = ⟨idx, k, n⟩ := (hconns _).trans (if_pos rfl)
  have := Inv.edit hinv k hheld hraced
    (fun k' hne => ⟨(hcache k').trans (if_neg hne),
      fun c' h => (hconns c').trans (if_neg (Nat.ne_of_lt (hinv.fresh k' c' h)))⟩)
    (hnext ▸ Nat.le_succ _) fun c' h => by
      cases hkc.symm.trans h
      rw [hcc, hnext]
      exact ⟨rfl, hn ▸ Int.ofNat_le.mpr hm, Nat.lt_succ_self _⟩
  rwa [refsOf_some hkc, hcc, hn, Int.toNat_natCast] at this

/-- the entry of `k` is removed; its connection object may change -/
theorem Inv.remove (hinv : Inv w) (hc : w.cache k = some c) (hheld : w'.held = false) (hraced : w'.raced = false)
    (hcache : ∀ k', w'.cache k' = if k' = k then none else w.cache k')
    (hconns : ∀ c', c' ≠ c → w'.conns c' = w.conns c') (hnext : w'.nextConn = w.nextConn) :
    Inv w' ∧ refsOf w' = upd (refsOf w) k 0 := by
  have hkc : w'.cache k = none := (hcache k).trans (if_pos rfl)
  have := Inv.edit hinv k hheld hraced
    (fun k' hne => ⟨(hcache k').trans (if_neg hne), fun c' h => hconns c' (hinv.other hc hne h)⟩)
    (Nat.le_of_eq hnext.symm) fun c' h => nomatch hkc.symm.trans h
  rwa [refsOf_none hkc] at this

end

/-- regenerated critical section of `openFile` = the model's `open` step on the key: an existing entry is shared and
    its count incremented, otherwise the index is opened (for a valid file) and entered with count 1; every access
    happens under the mutex (`raced` stays false) and the mutex is released at the end -/
theorem openFileLocked_sim (valid : Bytes → Bool) (w : Drv.World) (hinv : Inv w) (file : Bytes) (key : Drv.fileCacheKey)
    (opts : List Lib.IndexOption) (hfile : key.file = file) :
    Inv (Gen.openFileLocked valid w file key opts).2 ∧
    refsOf (Gen.openFileLocked valid w file key opts).2 = (stepG (fun k : Drv.fileCacheKey => valid k.file) (refsOf w) (.open key)).1 ∧
    outcomeOf (Gen.openFileLocked valid w file key opts).1 = (stepG (fun k : Drv.fileCacheKey => valid k.file) (refsOf w) (.open key)).2 := by
  subst hfile
  cases hc : w.cache key with
  | some c =>
    have hp := hinv.pos key c hc
    have hr := refsOf_some hc
    have hpos : refsOf w key > 0 := by omega
    simp only [Gen.openFileLocked, Drv.lock, Drv.touch, Drv.cacheGet, hc, Drv.refsAdd, Drv.unlock, hinv.clean, stepG, hpos,
      ite_true, outcomeOf, and_true]
    exact Inv.count hinv hc (by omega) (Nat.succ_pos _) rfl rfl rfl (fun _ => rfl) rfl
  | none =>
    have hpos : ¬ refsOf w key > 0 := by rw [refsOf_none hc]; exact Nat.lt_irrefl 0
    cases hv : valid key.file with
    | true =>
      simp only [Gen.openFileLocked, Drv.lock, Drv.touch, Drv.cacheGet, hc, Drv.openIndex, hv, ite_true, Drv.newConn,
        Drv.cacheSet, Drv.refsAdd, Drv.unlock, hinv.clean, stepG, hpos, ite_false, outcomeOf, and_true]
      exact Inv.enter (n := 0 + 1) hinv rfl (Nat.le_refl 1) rfl rfl (fun _ => rfl)
        (fun c' => ite_congr rfl (fun _ => rfl) fun h => if_neg h) rfl
    | false =>
      simp only [Gen.openFileLocked, Drv.lock, Drv.touch, Drv.cacheGet, hc, Drv.openIndex, hv, Bool.false_eq_true,
        ite_false, Drv.unlock, hinv.clean, stepG, hpos, outcomeOf, and_true]
      exact ⟨⟨rfl, rfl, hinv.key, hinv.pos, hinv.fresh⟩, rfl⟩

/-- regenerated `fileConn.Close` (on the cached connection of key `k`) = the model's `close` step: the count is
    decremented under the mutex; exactly when it reaches zero the entry is removed from the cache (and the index
    closed); the call returns nil -/
theorem connClose_sim (w : Drv.World) (hinv : Inv w) (k : Drv.fileCacheKey) (c : Nat) (hc : w.cache k = some c) :
    Inv (Gen.connClose w c).2 ∧
    refsOf (Gen.connClose w c).2 = (stepG (fun _ : Drv.fileCacheKey => true) (refsOf w) (.close k)).1 ∧
    (Gen.connClose w c).1 = none ∧
    ((w.conns c).refs = 1 → (Gen.connClose w c).2.cache k = none ∧
      ∀ i, (w.conns c).idx = some i → (Gen.connClose w c).2.openIdx i = none) := by
  have hp := hinv.pos k c hc
  have hr := refsOf_some hc
  cases hinv.key k c hc
  simp only [stepG]
  generalize hR : Gen.connClose w c = R
  simp only [Gen.connClose, Drv.lock, Drv.refsAdd, Drv.touch, Drv.cacheGet, Drv.connKey, hc, BEq.rfl, ite_true,
    Drv.cacheDelete, Drv.connIdx, Drv.setConnIdx, hinv.clean] at hR
  by_cases h1 : (w.conns c).refs = 1
  · have hle : ((w.conns c).refs + -1 ≤ 0) := by rw [h1]; decide
    have h0 : refsOf w (w.conns c).key - 1 = 0 := by rw [hr, h1]; rfl
    rw [if_pos (decide_eq_true hle)] at hR
    rw [h0]
    cases hi : (w.conns c).idx with
    | none =>
      rw [hi, if_pos (show ((none : Option Drv.IdxId) == none) = true from rfl)] at hR
      subst hR
      exact and_assoc.mp ⟨Inv.remove hinv hc rfl rfl (fun _ => rfl) (fun c' hne => (if_neg hne).trans (if_neg hne)) rfl,
        rfl, fun _ => ⟨if_pos rfl, nofun⟩⟩
    | some i =>
      rw [hi, if_neg (show ¬ ((some i : Option Drv.IdxId) == none) = true from nofun)] at hR
      subst hR
      exact and_assoc.mp ⟨Inv.remove hinv hc rfl rfl (fun _ => rfl) (fun c' hne => (if_neg hne).trans (if_neg hne)) rfl,
        rfl, fun _ => ⟨if_pos rfl, fun j hj => by cases hj; exact if_pos rfl⟩⟩
  · have hle : ¬ ((w.conns c).refs + -1 ≤ 0) := by omega
    rw [if_neg (by rw [decide_eq_true_eq]; exact hle)] at hR
    subst hR
    exact and_assoc.mp ⟨Inv.count (n := (w.conns c).refs + -1) hinv hc (by omega) (by omega) rfl rfl rfl (fun _ => rfl) rfl,
      rfl, fun h => absurd h h1⟩

/-! ### the whole of openFile: option handling, then the critical section -/

/-- `openFile` = its two regenerated halves in sequence (the split is at the top-level statement
    `d.fileConnMtx.Lock()`; the second half uses only `file`, `key`, `opts` and the driver) -/
def openFileWhole (valid : Bytes → Bool) (w : Drv.World) (file : Bytes) (v : Url.Values) : Except Err5 Drv.ConnId × Drv.World :=
  match Gen.openFileOpts file v with
  | .error e => (.error e, w)
  | .ok o => Gen.openFileLocked valid w file o.key o.opts

/-- a file DSN with valid options performs the model's `open` step on the key (file, option text of `dsnConfig`);
    with an invalid cache size nothing happens to the shared state -/
theorem openFileWhole_sim (valid : Bytes → Bool) (w : Drv.World) (hinv : Inv w) (file : Bytes) (v : Url.Values) :
    match dsnConfig (dsnOptsOf v) with
    | .ok c =>
      Inv (openFileWhole valid w file v).2 ∧
      refsOf (openFileWhole valid w file v).2 =
        (stepG (fun k : Drv.fileCacheKey => valid k.file) (refsOf w) (.open ⟨file, c.keyOpts⟩)).1 ∧
      outcomeOf (openFileWhole valid w file v).1 =
        (stepG (fun k : Drv.fileCacheKey => valid k.file) (refsOf w) (.open ⟨file, c.keyOpts⟩)).2
    | _ => (openFileWhole valid w file v).2 = w ∧ outcomeOf (openFileWhole valid w file v).1 = .error := by
  have h := openFileOpts_eq file v
  cases hd : dsnConfig (dsnOptsOf v) with
  | ok c =>
    rw [hd] at h
    simp only [openFileWhole, h]
    exact openFileLocked_sim valid w hinv file ⟨file, c.keyOpts⟩ (optionsOf c) rfl
  | error => rw [hd] at h; simp [openFileWhole, h, outcomeOf]
  | panic => rw [hd] at h; simp [openFileWhole, h, outcomeOf]
  | hang => rw [hd] at h; simp [openFileWhole, h, outcomeOf]

/-! ### example: open twice, close twice on one key -/

def w0 : Drv.World := ⟨false, false, fun _ => none, fun _ => default, 0, fun _ => none, 0⟩

example :
    let k : Drv.fileCacheKey := ⟨[120], []⟩
    let r1 := Gen.openFileLocked (fun _ => true) w0 [120] k []
    let r2 := Gen.openFileLocked (fun _ => true) r1.2 [120] k []
    let r3 := Gen.connClose r2.2 0
    let r4 := Gen.connClose r3.2 0
    (refsOf r1.2 k, refsOf r2.2 k, refsOf r3.2 k, refsOf r4.2 k, r4.2.cache k, r4.2.openIdx 0, r4.2.raced, r4.2.held)
      = (1, 2, 1, 0, none, none, false, false) := by rfl

end Updog.GeneratedEq
