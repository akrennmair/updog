/-
driver/driver.go, the gRPC data source, regenerated (`Gen.driverOpen`, `Gen.openConn`, `Gen.grpcConnPrepare`,
`Gen.grpcConnPrepareStmt`, `Gen.grpcConnClose`, `Gen.grpcStmtNumInput`, `Gen.grpcStmtQuery`):

* `grpcStmtQuery_eq`: the statement = the model's `bind`, then exactly ONE `Query` RPC with `context.Background()`
  carrying the bound query, then `newRows (ToResult firstResult)`; too few arguments ⇒ the error is returned and the
  network is untouched (no RPC);
* `grpc_eq_file`: if the peer answers with the regenerated handler `Gen.serverQuery exec`, the statement returns EXACTLY
  what the file statement `Gen.stmtQuery exec` returns (rows and errors) — for every executor `exec`;
* `gen_grpc_rows_eq_file` / `gen_grpc_stmtQuery_eq`: composed with `GenCompose.gen_stmtQuery_eq` /
  `gen_serverQuery_eq`'s executor (the generated `Execute` on the index the generated open returned): the rows of the
  grpc:// data source are the rows of the file data source, which are the model's `newRows` of the model library's
  answer — the last sentence of property C13.
-/
import Updog.GeneratedFns
import Updog.Proofs.GoPreludeT5
import Updog.Props.Gen.Walk
import Updog.Props.Gen.Convert
import Updog.Props.Gen.ServerLoop
import Updog.Props.Gen.ParseQuery
import Updog.Props.Gen.Compose

set_option linter.unusedSimpArgs false
namespace Updog.GeneratedEq
open Updog.Go

/-! ### conversion round trip: what the server packs, the client unpacks -/

theorem foldl_append_singleton_map {α β : Type} (f : α → β) (xs : List α) (acc : List β) :
    List.foldl (fun (a : List β) (x : α) => a ++ [f x]) acc xs = acc ++ xs.map f :=
  foldl_append_map f xs acc

/-- `ToResult (ToProtobufResult r qid) = r`: the conversion to protobuf and back loses nothing (counts are `uint64` on
    both sides), whatever the query id -/
theorem ToResult_ToProtobufResult (r : Lib.Result) (qid : Int) : Gen.ToResult (Gen.ToProtobufResult r qid) = r := by
  have h1 := ToProtobufResult_spec r qid
  have h2 := ToResult_spec (Gen.ToProtobufResult r qid)
  rw [h2, h1]
  obtain ⟨cnt, gs⟩ := r
  simp only [Lib.Result.mk.injEq, true_and, List.map_map]
  conv => rhs; rw [← List.map_id gs]
  apply List.map_congr_left
  intro g _
  obtain ⟨fs, c⟩ := g
  simp only [Function.comp, id, Lib.ResultGroup.mk.injEq, and_true, List.map_map]
  conv => rhs; rw [← List.map_id fs]
  apply List.map_congr_left
  intro f _
  rfl

/-! ### grpcStmt.query -/

def errOneResult : Err5 :=
  .errorf [101, 120, 112, 101, 99, 116, 101, 100, 32, 49, 32, 114, 101, 115, 117, 108, 116, 44, 32, 103, 111, 116, 32, 37, 100]
  -- "expected 1 result, got %d"

/-- regenerated `(*grpcStmt).query`: exactly when the model's `bind` fails (fewer values than the highest placeholder
    number) the error "expected %d arguments, got %d" is returned and the network is as before; otherwise ONE call
    `Go.Grpc.query` on the statement's connection with `context.Background()` and a request whose only member is the
    bound query of the model; its error is passed on, a response without exactly one result is an error, and the first
    result becomes `newRows (ToResult ·)` over the bound query's group-by list -/
theorem grpcStmtQuery_eq (net : Grpc.Net) (stmt : Drv.grpcStmt) (values : List Bytes) :
    Gen.grpcStmtQuery net stmt values =
      match bind stmt.q values with
      | .ok q' =>
        ((match (Grpc.query net stmt.c.client .Background ⟨[q']⟩).2 with
          | .error err => .error err
          | .ok resp =>
            if resp.Results.length = 1 then .ok (Gen.newRows (Gen.ToResult (indexL resp.Results 0)) q'.groupBy)
            else .error errOneResult),
         (Grpc.query net stmt.c.client .Background ⟨[q']⟩).1)
      | _ => (.error errTooFew, net) := by
  simp only [Gen.grpcStmtQuery, tooFew, ReplacePlaceholders_eq, bind, Parsed.Query.GroupBy]
  by_cases h : maxPh stmt.q.expr > values.length
  · simp only [h, decide_true, ite_true]; rfl
  · simp only [h, decide_false, Bool.false_eq_true, ite_false]
    cases (Grpc.query net stmt.c.client .Background ⟨[⟨subst values stmt.q.expr, stmt.q.groupBy⟩]⟩).2 with
    | error err => rfl
    | ok resp =>
      by_cases hl : resp.Results.length = 1
      · simp [hl, Go.len, Pb.QueryResponse.Results]
      · have : ¬ ((resp.Results.length : Int) = 1) := by omega
        simp [hl, this, Go.len, Pb.QueryResponse.Results, errOneResult]

/-- **too few arguments ⇒ error before any RPC**: the network (its list of calls in particular) is unchanged -/
theorem grpcStmtQuery_too_few (net : Grpc.Net) (stmt : Drv.grpcStmt) (values : List Bytes)
    (h : maxPh stmt.q.expr > values.length) :
    Gen.grpcStmtQuery net stmt values = (.error errTooFew, net) := by
  rw [grpcStmtQuery_eq]; simp [bind, h]

/-- **otherwise exactly one RPC**, on the statement's connection, with `context.Background()`, carrying exactly the
    bound query (`subst`), whatever the peer answers -/
theorem grpcStmtQuery_one_rpc (net : Grpc.Net) (stmt : Drv.grpcStmt) (values : List Bytes)
    (h : maxPh stmt.q.expr ≤ values.length) :
    (Gen.grpcStmtQuery net stmt values).2 =
      { net with calls := net.calls ++ [⟨stmt.c.client.conn, .Background, ⟨[⟨subst values stmt.q.expr, stmt.q.groupBy⟩]⟩⟩] } := by
  have h' : ¬ (maxPh stmt.q.expr > values.length) := by omega
  rw [grpcStmtQuery_eq]; simp [bind, h', Grpc.query]

/-- … and the rows are `newRows (ToResult firstResult)` of the peer's answer -/
theorem grpcStmtQuery_rows (net : Grpc.Net) (stmt : Drv.grpcStmt) (values : List Bytes)
    (h : maxPh stmt.q.expr ≤ values.length) (first : Pb.Result)
    (hans : net.peer stmt.c.client.conn.target .Background ⟨[Parsed.Query.toWire ⟨subst values stmt.q.expr, stmt.q.groupBy⟩]⟩ = .ok ⟨[first]⟩) :
    (Gen.grpcStmtQuery net stmt values).1 = .ok (Gen.newRows (Gen.ToResult first) stmt.q.groupBy) := by
  have h' : ¬ (maxPh stmt.q.expr > values.length) := by omega
  rw [grpcStmtQuery_eq]
  simp [bind, h', Grpc.query, Parsed.QueryRequest.toWire, hans, indexL]

/-! ### the peer is the regenerated server -/

/-- what `Gen.serverQuery` answers to a request with ONE parsed query (id 0, so the result is tagged 1) -/
theorem serverQuery_single (exec : Lib.Query → Except Err5 Lib.Result) (q : PQuery) :
    Gen.serverQuery exec ⟨[Parsed.Query.toWire q]⟩ =
      match exec (Gen.ToQuery (Parsed.Query.toWire q)) with
      | .error err => .error err
      | .ok r => .ok ⟨[Gen.ToProtobufResult r 1]⟩ := by
  rw [serverQuery_unfold]
  simp only [enum, enumFrom, forRange_cons, forRange_nil, loopBody]
  cases exec (Gen.ToQuery (Parsed.Query.toWire q)) with
  | error err => rfl
  | ok r => simp [Parsed.Query.toWire, Wire.Query.Id, toInt32]

/-- **gRPC statement = file statement.** If the peer of the statement's connection answers a `Query` RPC (made with
    `context.Background()`) with the regenerated handler `Gen.serverQuery` over an executor `exec`, then
    `Gen.grpcStmtQuery` returns exactly what the file statement `Gen.stmtQuery` returns over the same executor: the
    same rows, the same error for too few arguments, the executor's error passed through — for every `exec`, query
    and argument list. (The transport of request and response is trusted to be lossless.) -/
theorem grpc_eq_file (exec : Lib.Query → Except Err5 Lib.Result) (net : Grpc.Net) (c : Drv.grpcConn) (pq : PQuery)
    (values : List Bytes)
    (hpeer : ∀ req, net.peer c.client.conn.target .Background req = Gen.serverQuery exec req) :
    (Gen.grpcStmtQuery net ⟨c, pq⟩ values).1 = Gen.stmtQuery exec ⟨pq⟩ values := by
  rw [grpcStmtQuery_eq, stmtQuery_eq]
  cases hb : bind pq values with
  | ok q' =>
    simp only [Grpc.query, Parsed.QueryRequest.toWire, List.map_cons, List.map_nil, hpeer, serverQuery_single]
    cases exec (Gen.ToQuery (Parsed.Query.toWire q')) with
    | error err => rfl
    | ok r => simp [indexL, ToResult_ToProtobufResult]
  | error => rfl
  | panic => rfl
  | hang => rfl

/-! ### the rest of the gRPC connection -/

/-- `NumInput` of a gRPC statement = the highest placeholder number, as for the file statement -/
theorem grpcStmtNumInput_eq (stmt : Drv.grpcStmt) : Gen.grpcStmtNumInput stmt = (maxPh stmt.q.expr : Nat) := by
  simp [Gen.grpcStmtNumInput, numInput_eq]

def errParse : Err5 :=
  .errorf [112, 97, 114, 115, 105, 110, 103, 32, 113, 117, 101, 114, 121, 32, 102, 97, 105, 108, 101, 100, 58, 32, 37, 118]
  -- "parsing query failed: %v"

/-- `prepare`: with enough fuel for the generated parser, a statement holding exactly the model's parse of the text
    and this connection — or the error "parsing query failed" when the model's parser rejects the text -/
theorem grpcConnPrepare_eq (fuel : Nat) (c : Drv.grpcConn) (text : Bytes) (hfuel : 3 * text.length + 5 ≤ fuel) :
    Gen.grpcConnPrepare fuel c text =
      match parseQuery text with
      | some pq => .ok ⟨c, pq⟩
      | none => .error errParse := by
  have h := ParseQuery_toOption text fuel hfuel
  simp only [Gen.grpcConnPrepare, T8.callRes]
  cases hp : Gen.ParseQuery fuel text with
  | ok pq => rw [hp] at h; simp [← h, Except.toOption]
  | error e => rw [hp] at h; simp [← h, Except.toOption, errParse]

/-- `Prepare` is `prepare` -/
theorem grpcConnPrepareStmt_eq (fuel : Nat) (c : Drv.grpcConn) (text : Bytes) :
    Gen.grpcConnPrepareStmt fuel c text = Gen.grpcConnPrepare fuel c text := rfl

/-- `Close` closes the channel of this connection, once, and returns its error -/
theorem grpcConnClose_eq (net : Grpc.Net) (c : Drv.grpcConn) :
    Gen.grpcConnClose net c = ((Grpc.connClose net c.conn).2, (Grpc.connClose net c.conn).1) := rfl

/-- `openConn`: ONE dial of `host:port` with insecure transport credentials; the connection's client is the client of
    the dialled channel -/
theorem openConn_eq (net : Grpc.Net) (host port : Bytes) :
    Gen.openConn net host port =
      let r := Grpc.newClient net (host ++ [58] ++ port) [.WithTransportCredentials .insecure]
      ((match r.2 with
        | .error _ => .error (.errorf [102, 97, 105, 108, 101, 100, 32, 116, 111, 32, 100, 105, 97, 108, 58, 32, 37, 119])
        | .ok conn => .ok ⟨conn, ⟨conn⟩⟩), r.1) := by
  simp only [Gen.openConn]
  cases (Grpc.newClient net (host ++ [58] ++ port) [.WithTransportCredentials .insecure]).2 <;> rfl

/-- the scheme dispatch of `Open`: `file:` ↦ `openFile` on the opaque part (or the path when that is empty) and the
    query values, `grpc:` ↦ `openConn` on host and port, anything else (and an unparsable name) is an error and opens
    nothing -/
theorem driverOpen_eq (parseURL : Bytes → Except Err5 Url.URL) (openFile : Bytes → Url.Values → Except Err5 Drv.Conn)
    (openConn : Bytes → Bytes → Except Err5 Drv.Conn) (name : Bytes) :
    Gen.driverOpen parseURL openFile openConn name =
      match parseURL name with
      | .error _ => .error (.errorf [99, 111, 117, 108, 100, 110, 39, 116, 32, 112, 97, 114, 115, 101, 32, 99, 111, 110, 110, 101, 99, 116, 105, 111, 110, 32, 115, 116, 114, 105, 110, 103, 58, 32, 37, 118])
      | .ok u =>
        if u.Scheme = [102, 105, 108, 101] then openFile (if u.Opaque = [] then u.Path else u.Opaque) u.query
        else if u.Scheme = [103, 114, 112, 99] then openConn u.host u.port
        else .error (.errorf [117, 110, 115, 117, 112, 112, 111, 114, 116, 101, 100, 32, 99, 111, 110, 110, 101, 99, 116, 105, 111, 110, 32, 116, 121, 112, 101, 32, 37, 113]) := by
  simp only [Gen.driverOpen]
  cases parseURL name with
  | error e => rfl
  | ok u =>
    simp only [Url.URL.Hostname, Url.URL.Port, Url.URL.Query, beq_iff_eq]

/-! ### composition with the generated library, server and file statement (C13, last sentence) -/

open Updog.GenCompose Updog.Go.T3 in
/-- **the grpc:// data source returns the rows of the file data source, every component regenerated.** The statement
    text is parsed by the generated parser; the gRPC statement sends its one RPC to a peer that answers with the
    regenerated handler `Gen.serverQuery` over the generated `Execute` on the index the generated open returned (cache
    state `st`); the file statement `Gen.stmtQuery` runs over the same `Execute`. Both return the same thing. -/
theorem gen_grpc_rows_eq_file (H : Bytes → UInt64) {σ : Type} (C : CacheImpl σ) (X : Ext) (bolt : Bolt) (hp : Heap)
    (i : Nat) (s : SchemaVal) (next : UInt32) (vals : ColGetter) (st : σ)
    (net : Grpc.Net) (c : Drv.grpcConn) (pq : PQuery) (values : List Bytes)
    (hpeer : ∀ req, net.peer c.client.conn.target .Background req
      = Gen.serverQuery (genLibExecute H C X bolt hp (openedIndex i s next vals) st) req) :
    (Gen.grpcStmtQuery net ⟨c, pq⟩ values).1
      = Gen.stmtQuery (genLibExecute H C X bolt hp (openedIndex i s next vals) st) ⟨pq⟩ values :=
  grpc_eq_file _ net c pq values hpeer

open Updog.GenCompose Updog.Go.T3 in
/-- … and therefore (with `GenCompose.gen_stmtQuery_eq`) they are the model's `newRows` of the model library's answer
    to the bound query on the file's index: an error when too few arguments are bound or the library fails -/
theorem gen_grpc_stmtQuery_eq (H : Bytes → UInt64) {σ : Type} (C : CacheImpl σ) (X : Ext) (bolt : Bolt) (hp : Heap)
    (i : Nat) (d : BucketData) (s : SchemaVal) (next : UInt32) (vals : ColGetter)
    (hg : GetColRefines (genGetCol X bolt hp vals) (fileIndex X d s next)) (st : σ)
    (text : Bytes) (fuel : Nat) (hfuel : 3 * text.length + 5 ≤ fuel) (c : Drv.grpcConn) (stmt : Drv.grpcStmt)
    (hprep : Gen.grpcConnPrepareStmt fuel c text = .ok stmt) (values : List Bytes)
    (net : Grpc.Net)
    (hpeer : ∀ req, net.peer c.client.conn.target .Background req
      = Gen.serverQuery (genLibExecute H C X bolt hp (openedIndex i s next vals) st) req)
    (htr : ∀ q', bind stmt.q values = .ok q' →
      (executeC H C (fileIndex X d s next) st (toQuery q')).2 = execute H (fileIndex X d s next) (toQuery q'))
    (hcard : ∀ q', bind stmt.q values = .ok q' →
      ∀ bm, (evalC H C (fileIndex X d s next) st (toExpr q'.expr)).2 = some bm → popcount bm < 2 ^ 64) :
    parseQuery text = some stmt.q ∧ stmt.c = c ∧
    (toOutcome (Gen.grpcStmtQuery net stmt values).1).map rowsView =
      match bind stmt.q values with
      | .ok q' =>
        (match execute H (fileIndex X d s next) (toQuery q') with
          | some res => .ok ((Updog.newRows res q'.groupBy).cols, (Updog.newRows res q'.groupBy).rows)
          | none => .error)
      | _ => .error := by
  rw [grpcConnPrepareStmt_eq, grpcConnPrepare_eq fuel c text hfuel] at hprep
  cases hp' : parseQuery text with
  | none => rw [hp'] at hprep; simp at hprep
  | some pq =>
    rw [hp'] at hprep
    simp only [Except.ok.injEq] at hprep
    subst hprep
    have hparse : Gen.ParseQuery fuel text = .ok pq := by
      have := ParseQuery_toOption text fuel hfuel
      rw [hp'] at this
      cases hx : Gen.ParseQuery fuel text with
      | ok a => rw [hx] at this; simp [Except.toOption] at this; rw [this]
      | error e => rw [hx] at this; simp [Except.toOption] at this
    refine ⟨rfl, rfl, ?_⟩
    rw [gen_grpc_rows_eq_file H C X bolt hp i s next vals st net c pq values hpeer]
    exact (gen_stmtQuery_eq H C X bolt hp i d s next vals hg st text fuel hfuel pq hparse values htr hcard).2

/-! ### examples -/

/-- a network whose peer answers every request with one result per query: total count = number of group-by columns -/
def demoNet : Grpc.Net :=
  { dialFails := fun t => t == [58], peer := fun _ _ req => .ok ⟨req.Queries.map fun q => ⟨q.id, q.groupBy.length.toUInt64, []⟩⟩,
    dials := [], calls := [], closed := [] }

example : (Gen.openConn demoNet [104] [57]).1.toOption = some ⟨⟨[104, 58, 57], 0⟩, ⟨⟨[104, 58, 57], 0⟩⟩⟩ ∧
    ((Gen.openConn demoNet [] []).1.toOption.isSome = false) ∧ (Gen.openConn demoNet [] []).2.dials.length = 1 := by decide +kernel

/-- `a=$2` with one argument: error, no call; with two arguments: one call carrying `a="y"`, one row holding the count -/
example :
    let c : Drv.grpcConn := ⟨⟨[104], 0⟩, ⟨⟨[104], 0⟩⟩⟩
    let stmt : Drv.grpcStmt := ⟨c, ⟨.eq [97] [] 2, []⟩⟩
    (Gen.grpcStmtQuery demoNet stmt [[120]]).1.toOption.isSome = false ∧
    (Gen.grpcStmtQuery demoNet stmt [[120]]).2.calls.length = 0 ∧
    ((Gen.grpcStmtQuery demoNet stmt [[120], [121]]).2.calls.map fun cl => (cl.ctx, cl.req.Queries.map fun q => encE q.expr))
      = [(.Background, [encE (.eq [97] [121] 0)])] ∧
    (Gen.grpcStmtQuery demoNet stmt [[120], [121]]).1.toOption.map (·.rows) = some [⟨[], 0⟩] := by
  decide +kernel

end Updog.GeneratedEq

#print axioms Updog.GeneratedEq.ToResult_ToProtobufResult
#print axioms Updog.GeneratedEq.grpcStmtQuery_eq
#print axioms Updog.GeneratedEq.grpcStmtQuery_too_few
#print axioms Updog.GeneratedEq.grpcStmtQuery_one_rpc
#print axioms Updog.GeneratedEq.grpcStmtQuery_rows
#print axioms Updog.GeneratedEq.grpc_eq_file
#print axioms Updog.GeneratedEq.grpcStmtNumInput_eq
#print axioms Updog.GeneratedEq.grpcConnPrepare_eq
#print axioms Updog.GeneratedEq.grpcConnClose_eq
#print axioms Updog.GeneratedEq.openConn_eq
#print axioms Updog.GeneratedEq.driverOpen_eq
#print axioms Updog.GeneratedEq.gen_grpc_rows_eq_file
#print axioms Updog.GeneratedEq.gen_grpc_stmtQuery_eq
