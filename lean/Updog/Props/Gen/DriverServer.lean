/-
Equivalence of the definitions REGENERATED from the Go source (`Updog/GeneratedFns.lean`, written by
extract/translate.go on every run) with the hand-written models. If a translated Go function changes its meaning,
the generated text changes and the corresponding theorem below stops checking; if the function leaves the
translator's subset, its definition is missing and the theorem fails to elaborate.
-/
import Updog.GeneratedFns
import Updog.Proofs.GoPrelude
import Updog.Model.Create
import Updog.Model.Server

namespace Updog.GeneratedEq

/-! ### driver.go `newRows`, server.go id defaulting -/

/-- `newRows` yields group rows exactly when the model's `newRows` does -/
theorem newRowsGrouped_eq (g : List Bytes) : Gen.newRowsGrouped g = decide (g.length > 0) := by
  cases g <;> simp [Gen.newRowsGrouped, Go.len] <;> omega

/-- id defaulting of `server.Query`, for positions whose 1-based number fits an int32 -/
theorem queryId_eq (id idx : Int) (h0 : 0 ≤ idx) (h1 : idx + 1 < 2147483648) :
    Gen.queryId id idx = if id = 0 then idx + 1 else id := by
  have : Go.toInt32 (idx + 1) = idx + 1 := by unfold Go.toInt32; omega
  by_cases h : id = 0 <;> simp [Gen.queryId, h, this]

example : Gen.queryId 0 2 = 3 ∧ Gen.queryId 7 2 = 7 := by decide

end Updog.GeneratedEq
