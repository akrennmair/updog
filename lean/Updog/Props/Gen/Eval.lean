/-
Equivalence of the REGENERATED `eval` methods, `Execute` and `validateExpr` of query.go (`Gen.evalEqual`, `Gen.evalNot`,
`Gen.evalAnd`, `Gen.evalOr`, `Gen.execute`, `Gen.validateExpr` in `Updog/GeneratedFns.lean`, written by
extract/translate_t1.go from the Go source on every run) with the hand-written model with cache
(`evalC`, `evalListC`, `executeC` of `Updog/Model/Cache.lean`), for every cache implementation, index, expression and
cache state.
-/
import Updog.GeneratedFns
import Updog.Proofs.GoPreludeT1
import Updog.Props.Gen.Keys
import Updog.Model.Cache
import Updog.Model.Server

namespace Updog.GeneratedEq

/-- What Go sees of `idx.values.GetCol(k)` — the returned pointer and whether the error is non-nil — refines the
    model's `ix.getCol k`, in which `none` stands for both "an error" (on-demand getter: key absent or undecodable)
    and "nil, nil" (preloaded getter: key absent). With an error the returned pointer is arbitrary. -/
def GetColRefines (g : UInt64 → Option Nat × Bool) (ix : Index) : Prop :=
  ∀ k, if (g k).2 then ix.getCol k = none else (g k).1 = ix.getCol k

/-- the on-demand getter: an absent key is an error -/
def getColOnDemand (ix : Index) (k : UInt64) : Option Nat × Bool :=
  match ix.getCol k with
  | some b => (some b, false)
  | none => (none, true)

/-- the preloaded getter: an absent key is `nil, nil` -/
def getColPreloaded (ix : Index) (k : UInt64) : Option Nat × Bool := (ix.getCol k, false)

theorem getColOnDemand_refines (ix : Index) : GetColRefines (getColOnDemand ix) ix := by
  intro k; unfold getColOnDemand; cases ix.getCol k <;> simp

theorem getColPreloaded_refines (ix : Index) : GetColRefines (getColPreloaded ix) ix := by
  intro k; simp [getColPreloaded]

/-- the `*Index` of the Go code: the model index `ix` with the cache `C` -/
def indexEnv {σ : Type} (C : CacheImpl σ) (ix : Index) (g : UInt64 → Option Nat × Bool) : Go.IndexEnv σ where
  cacheGet := C.get
  cachePut := C.put
  hasColumn := fun c => (ix.schema.col c).isSome
  getCol := g
  nextRowID := UInt32.ofNat ix.next

section
variable (H : Bytes → UInt64) {σ : Type} (C : CacheImpl σ) (ix : Index) (g : UInt64 → Option Nat × Bool)

theorem indexEnv_cacheGet : (indexEnv C ix g).cacheGet = C.get := rfl
theorem indexEnv_cachePut : (indexEnv C ix g).cachePut = C.put := rfl
theorem indexEnv_hasColumn (c : Bytes) : (indexEnv C ix g).hasColumn c = (ix.schema.col c).isSome := rfl
theorem indexEnv_getCol : (indexEnv C ix g).getCol = g := rfl
theorem indexEnv_nextRowID : (indexEnv C ix g).nextRowID = UInt32.ofNat ix.next := rfl
theorem cachePut_indexEnv (s : σ) (k : UInt64) (b : Nat) :
    Go.cachePut (indexEnv C ix g) s k (some b) = C.put s k b := rfl

/-! ### the four methods -/

/-- `(*ExprEqual).eval` = `evalC` on an EQUAL leaf -/
theorem evalEqual_eq (hg : GetColRefines g ix) (c v : Bytes) (s : σ) :
    Gen.evalEqual H (indexEnv C ix g) c v s = evalC H C ix s (.eq c v) := by
  have hk := hg (H (encodePair c v))
  simp only [Gen.evalEqual, evalC, indexEnv, cacheKeyEqual_eq, getValueIndex_eq, withCache]
  cases ix.schema.col c with
  | none => rfl
  | some vs =>
    generalize C.get s (cacheKey H (.eq c v)) = r
    obtain ⟨s1, _ | bm⟩ := r
    · generalize g (H (encodePair c v)) = gr at hk
      obtain ⟨p, _ | _⟩ := gr
      · simp only [Bool.false_eq_true, ↓reduceIte] at hk
        cases hk
        cases ix.getCol (H (encodePair c v)) <;> rfl
      · simp only [↓reduceIte] at hk
        rw [hk]
        rfl
    · rfl

/-- `(*ExprNot).eval` = `evalC` on a NOT node, if evaluating the operand is `evalC` -/
theorem evalNot_eq (hnext : ix.next < 2 ^ 32) (subEval : Expr → σ → σ × Option Nat) (e : Expr)
    (hsub : ∀ s, subEval e s = evalC H C ix s e) (s : σ) :
    Gen.evalNot H (indexEnv C ix g) (cacheKey H) subEval e s = evalC H C ix s (.not e) := by
  have hn : (UInt32.ofNat ix.next).toNat = ix.next := by
    rw [UInt32.toNat_ofNat']; exact Nat.mod_eq_of_lt hnext
  simp only [Gen.evalNot, evalC, indexEnv, cacheKeyNot_eq, withCache, hsub]
  cases hget : (C.get s (cacheKey H (.not e))).2 with
  | some bm => simp
  | none =>
    simp only [Option.isSome_none, Bool.false_eq_true, ↓reduceIte]
    cases hev : (evalC H C ix (C.get s (cacheKey H (.not e))).1 e).2 with
    | none => simp
    | some b => simp [Go.bmFlip_some, Go.cachePut, hn]

/-- what the loop over the operands computes: `evalListC`, appended to the bitmaps collected so far -/
def loopResult (r : σ × Option (List Nat)) (acc : List Nat) :
    Go.Flow (σ × Option Nat) (σ × List (Option Nat)) :=
  match r.2 with
  | none => .ret (r.1, none)
  | some bs => .next (r.1, (acc ++ bs).map some)

/-- The loop `for _, e := range e.Exprs` of `(*ExprAnd).eval` and of `(*ExprOr).eval` (the same loop, translated once
    for each method), characterised by its two equations: it is `evalListC`, left to right, the first error aborts. -/
theorem operandLoop_eq (subEval : Expr → σ → σ × Option Nat)
    (loop : List Expr → σ → List (Option Nat) → Go.Flow (σ × Option Nat) (σ × List (Option Nat)))
    (hnil : ∀ s elems, loop [] s elems = .next (s, elems))
    (hcons : ∀ e r s elems, loop (e :: r) s elems =
      if (subEval e s).2.isNone then .ret ((subEval e s).1, none)
      else loop r (subEval e s).1 (elems ++ [(subEval e s).2]))
    (es : List Expr) (hsub : ∀ e ∈ es, ∀ s, subEval e s = evalC H C ix s e) (s : σ) (acc : List Nat) :
    loop es s (acc.map some) = loopResult (evalListC H C ix s es) acc := by
  induction es generalizing s acc with
  | nil => rw [hnil]; exact congrArg (fun l => Go.Flow.next (s, List.map some l)) (List.append_nil acc).symm
  | cons e r ih =>
    rw [hcons, evalListC, hsub e List.mem_cons_self]
    cases hev : (evalC H C ix s e).2 with
    | none => rfl
    | some b =>
      have := ih (fun x hx => hsub x (List.mem_cons_of_mem _ hx)) (evalC H C ix s e).1 (acc ++ [b])
      rw [if_neg nofun, show acc.map some ++ [some b] = (acc ++ [b]).map some from (List.map_append (l₂ := [b])).symm, this]
      unfold loopResult
      generalize evalListC H C ix (evalC H C ix s e).1 r = r2
      obtain ⟨s2, o2⟩ := r2
      cases o2 with
      | none => rfl
      | some bs => simp only [Option.map_some, List.append_assoc, List.cons_append, List.nil_append]

theorem map_cacheKey (es : List Expr) : List.map (cacheKey H) es = cacheKeys H es := by
  induction es with
  | nil => rfl
  | cons e r ih => exact congrArg (cacheKey H e :: ·) ih

/-- What `(*ExprAnd).eval` and `(*ExprOr).eval` share: ask the cache; on a miss run the operand loop, combine the
    bitmaps with `gcomb` (`roaring.FastAnd` / `FastOr` on pointers) and store the result. With `comb` the model's
    combiner, that is `withCache` around `evalListC`. -/
theorem evalNary_eq (key : UInt64) (es : List Expr)
    (loop : σ → List (Option Nat) → Go.Flow (σ × Option Nat) (σ × List (Option Nat)))
    (hloop : ∀ s, loop s [] = loopResult (evalListC H C ix s es) [])
    (gcomb : List (Option Nat) → Option Nat) (comb : List Nat → Nat)
    (hcomb : ∀ bs, gcomb (bs.map some) = some (comb bs)) (s : σ) :
    (if (C.get s key).2.isSome then ((C.get s key).1, (C.get s key).2)
      else match loop (C.get s key).1 [] with
        | .ret r => r
        | .next (st, elems) => (Go.cachePut (indexEnv C ix g) st key (gcomb elems), gcomb elems))
      = withCache C key s fun s1 => ((evalListC H C ix s1 es).1, (evalListC H C ix s1 es).2.map comb) := by
  rw [hloop]
  unfold withCache loopResult
  generalize C.get s key = r
  obtain ⟨s1, o⟩ := r
  cases o with
  | some bm => rfl
  | none =>
    dsimp only
    generalize evalListC H C ix s1 es = r2
    obtain ⟨s2, o2⟩ := r2
    cases o2 with
    | none => rfl
    | some bs => simp only [List.nil_append, hcomb]; rfl

/-- `(*ExprAnd).eval` = `evalC` on an AND node, if evaluating each operand is `evalC` -/
theorem evalAnd_eq (subEval : Expr → σ → σ × Option Nat) (es : List Expr)
    (hsub : ∀ e ∈ es, ∀ s, subEval e s = evalC H C ix s e) (s : σ) :
    Gen.evalAnd H (indexEnv C ix g) (cacheKey H) subEval es s = evalC H C ix s (.and es) := by
  rw [Gen.evalAnd, evalC, map_cacheKey, cacheKeyAnd_eq]
  exact evalNary_eq H C ix g _ es _ (fun s => operandLoop_eq H C ix subEval _ (fun _ _ => rfl) (fun _ _ _ _ => rfl) es hsub s [])
    Go.bmFastAnd andAll Go.bmFastAnd_map_some s

/-- `(*ExprOr).eval` = `evalC` on an OR node, if evaluating each operand is `evalC` -/
theorem evalOr_eq (subEval : Expr → σ → σ × Option Nat) (es : List Expr)
    (hsub : ∀ e ∈ es, ∀ s, subEval e s = evalC H C ix s e) (s : σ) :
    Gen.evalOr H (indexEnv C ix g) (cacheKey H) subEval es s = evalC H C ix s (.or es) := by
  rw [Gen.evalOr, evalC, map_cacheKey, cacheKeyOr_eq]
  exact evalNary_eq H C ix g _ es _ (fun s => operandLoop_eq H C ix subEval _ (fun _ _ => rfl) (fun _ _ _ _ => rfl) es hsub s [])
    Go.bmFastOr orAll Go.bmFastOr_map_some s

/-! ### the recursive knot: dynamic dispatch of `eval` over the four generated method bodies -/

/-- `f e s` is "call `e.eval(idx)` in cache state `s`": on each node kind it runs the generated method body, and the
    operands' `eval` / `cacheKey` it calls are `f` itself / the model's `cacheKey` (see `Props/Gen/Keys.lean`). -/
structure IsGenEval (f : Expr → σ → σ × Option Nat) : Prop where
  eq : ∀ c v s, f (.eq c v) s = Gen.evalEqual H (indexEnv C ix g) c v s
  not : ∀ e s, f (.not e) s = Gen.evalNot H (indexEnv C ix g) (cacheKey H) f e s
  and : ∀ es s, f (.and es) s = Gen.evalAnd H (indexEnv C ix g) (cacheKey H) f es s
  or : ∀ es s, f (.or es) s = Gen.evalOr H (indexEnv C ix g) (cacheKey H) f es s

/-- the model `evalC` ties the knot … -/
theorem evalC_isGenEval (hg : GetColRefines g ix) (hnext : ix.next < 2 ^ 32) :
    IsGenEval H C ix g (fun e s => evalC H C ix s e) where
  eq := fun c v s => (evalEqual_eq H C ix g hg c v s).symm
  not := fun e s => (evalNot_eq H C ix g hnext _ e (fun _ => rfl) s).symm
  and := fun es s => (evalAnd_eq H C ix g _ es (fun _ _ _ => rfl) s).symm
  or := fun es s => (evalOr_eq H C ix g _ es (fun _ _ _ => rfl) s).symm

variable {H C ix g} in
mutual
/-- … and it is the only function that does: the generated method bodies, tied recursively, ARE `evalC` -/
theorem IsGenEval.eq_evalC {f : Expr → σ → σ × Option Nat} (hf : IsGenEval H C ix g f)
    (hg : GetColRefines g ix) (hnext : ix.next < 2 ^ 32) (e : Expr) : ∀ s, f e s = evalC H C ix s e :=
  match e with
  | .eq c v => fun s => (hf.eq c v s).trans (evalEqual_eq H C ix g hg c v s)
  | .not e => fun s => (hf.not e s).trans (evalNot_eq H C ix g hnext f e (hf.eq_evalC hg hnext e) s)
  | .and es => fun s => (hf.and es s).trans (evalAnd_eq H C ix g f es (hf.eq_evalC_list hg hnext es) s)
  | .or es => fun s => (hf.or es s).trans (evalOr_eq H C ix g f es (hf.eq_evalC_list hg hnext es) s)
theorem IsGenEval.eq_evalC_list {f : Expr → σ → σ × Option Nat} (hf : IsGenEval H C ix g f)
    (hg : GetColRefines g ix) (hnext : ix.next < 2 ^ 32) (es : List Expr) :
    ∀ e ∈ es, ∀ s, f e s = evalC H C ix s e :=
  match es with
  | [] => fun _ h => nomatch h
  | e :: r => fun x hx => by
    cases hx with
    | head => exact hf.eq_evalC hg hnext e
    | tail _ h => exact hf.eq_evalC_list hg hnext r x h
end

/-! the same knot for `cacheKey()`: the generated key methods, tied recursively, are the model's `cacheKey` -/

/-- `k e` is "call `e.cacheKey()`": on each node kind it runs the generated method body on the operands' keys -/
structure IsGenKey (k : Expr → UInt64) : Prop where
  eq : ∀ c v, k (.eq c v) = Gen.cacheKeyEqual H c v
  not : ∀ e, k (.not e) = Gen.cacheKeyNot H (k e)
  and : ∀ es, k (.and es) = Gen.cacheKeyAnd H (es.map k)
  or : ∀ es, k (.or es) = Gen.cacheKeyOr H (es.map k)

theorem cacheKey_isGenKey : IsGenKey H (cacheKey H) where
  eq := fun c v => (cacheKeyEqual_eq H c v).symm
  not := fun e => (cacheKeyNot_eq H e).symm
  and := fun es => by rw [map_cacheKey, cacheKeyAnd_eq]
  or := fun es => by rw [map_cacheKey, cacheKeyOr_eq]

variable {H} in
mutual
theorem IsGenKey.eq_cacheKey {k : Expr → UInt64} (hk : IsGenKey H k) (e : Expr) : k e = cacheKey H e :=
  match e with
  | .eq c v => (hk.eq c v).trans (cacheKeyEqual_eq H c v)
  | .not e => by rw [hk.not, hk.eq_cacheKey e, cacheKeyNot_eq]
  | .and es => by rw [hk.and, hk.eq_cacheKeys es, cacheKeyAnd_eq]
  | .or es => by rw [hk.or, hk.eq_cacheKeys es, cacheKeyOr_eq]
theorem IsGenKey.eq_cacheKeys {k : Expr → UInt64} (hk : IsGenKey H k) (es : List Expr) : es.map k = cacheKeys H es :=
  match es with
  | [] => rfl
  | e :: r => by rw [List.map_cons, hk.eq_cacheKey e, hk.eq_cacheKeys r]; rfl
end

/-- both knots at once: whatever functions play the roles of `cacheKey()` and `eval(idx)` of the `Expression`
    interface — if on every node kind they run the generated method bodies, then `eval` is the model's `evalC` -/
theorem gen_eval_eq_evalC {k : Expr → UInt64} {f : Expr → σ → σ × Option Nat} (hk : IsGenKey H k)
    (heq : ∀ c v s, f (.eq c v) s = Gen.evalEqual H (indexEnv C ix g) c v s)
    (hnot : ∀ e s, f (.not e) s = Gen.evalNot H (indexEnv C ix g) k f e s)
    (hand : ∀ es s, f (.and es) s = Gen.evalAnd H (indexEnv C ix g) k f es s)
    (hor : ∀ es s, f (.or es) s = Gen.evalOr H (indexEnv C ix g) k f es s)
    (hg : GetColRefines g ix) (hnext : ix.next < 2 ^ 32) (e : Expr) (s : σ) : f e s = evalC H C ix s e := by
  have hkk : k = cacheKey H := funext hk.eq_cacheKey
  subst hkk
  exact IsGenEval.eq_evalC ⟨heq, hnot, hand, hor⟩ hg hnext e s

/-- an executable knot: dispatch with `fuel` levels of nesting left (no fuel: error) -/
def genEval (fuel : Nat) (e : Expr) (s : σ) : σ × Option Nat :=
  match fuel with
  | 0 => (s, none)
  | n + 1 =>
    match e with
    | .eq c v => Gen.evalEqual H (indexEnv C ix g) c v s
    | .not e => Gen.evalNot H (indexEnv C ix g) (cacheKey H) (genEval n) e s
    | .and es => Gen.evalAnd H (indexEnv C ix g) (cacheKey H) (genEval n) es s
    | .or es => Gen.evalOr H (indexEnv C ix g) (cacheKey H) (genEval n) es s

mutual
/-- nesting depth of an expression (a leaf has depth 1) -/
def exprDepth : Expr → Nat
  | .eq _ _ => 1
  | .not e => exprDepth e + 1
  | .and es => exprDepthList es + 1
  | .or es => exprDepthList es + 1
def exprDepthList : List Expr → Nat
  | [] => 0
  | e :: r => max (exprDepth e) (exprDepthList r)
end

theorem depth_le_depthList (es : List Expr) : ∀ e ∈ es, exprDepth e ≤ exprDepthList es := by
  induction es with
  | nil => intro e h; cases h
  | cons x r ih =>
    intro e h
    show _ ≤ max (exprDepth x) (exprDepthList r)
    rcases List.mem_cons.mp h with rfl | h
    · exact Nat.le_max_left _ _
    · exact Nat.le_trans (ih e h) (Nat.le_max_right _ _)

/-- with enough fuel the executable knot is `evalC` -/
theorem genEval_eq (hg : GetColRefines g ix) (hnext : ix.next < 2 ^ 32) (fuel : Nat) :
    ∀ (e : Expr), exprDepth e ≤ fuel → ∀ s, genEval H C ix g fuel e s = evalC H C ix s e := by
  induction fuel with
  | zero => intro e h; cases e <;> exact absurd h (Nat.not_succ_le_zero _)
  | succ n ih =>
    intro e h s
    cases e with
    | eq c v => exact evalEqual_eq H C ix g hg c v s
    | not e => exact evalNot_eq H C ix g hnext _ e (ih e (Nat.le_of_succ_le_succ h)) s
    | and es =>
      exact evalAnd_eq H C ix g _ es
        (fun x hx => ih x (Nat.le_trans (depth_le_depthList es x hx) (Nat.le_of_succ_le_succ h))) s
    | or es =>
      exact evalOr_eq H C ix g _ es
        (fun x hx => ih x (Nat.le_trans (depth_le_depthList es x hx) (Nat.le_of_succ_le_succ h))) s

/-! ### `validateExpr` -/

/-- what a type switch sees of a model expression: always one of the four node types, never a nil pointer -/
def exprCase : Expr → Go.ExprCase Expr
  | .eq _ _ => .equal false
  | .not e => .not false e
  | .and es => .and false es
  | .or es => .or false es

/-- what a type switch sees of `convert.toExpr w` for a wire-level tree `w`: `toExpr` yields the nil interface for an
    unset expression (also for the unset operand of a NOT) and never a typed nil pointer -/
def wexprCase : WExpr → Go.ExprCase WExpr
  | .eq _ _ => .equal false
  | .not none => .not false .unset
  | .not (some e) => .not false e
  | .and es => .and false es
  | .or es => .or false es
  | .unset => .other

end

section
variable {ε : Type} (view : ε → Go.ExprCase ε) (f : ε → Bool)

/-- the operand loop of `validateExpr` (translated once for AND, once for OR), characterised by its two equations:
    the first operand with an error aborts and its error is returned -/
theorem validateLoop_eq (loop : List ε → Go.Flow Bool Unit) (hnil : loop [] = .next ())
    (hcons : ∀ x r, loop (x :: r) = if f x then .ret (f x) else loop r) (es : List ε) :
    loop es = if es.any f then .ret true else .next () := by
  induction es with
  | nil => exact hnil
  | cons x r ih =>
    rw [hcons, ih, List.any_cons]
    cases hx : f x <;> rfl

/-- `validateExpr` in closed form, for the recursive calls `f` -/
theorem validateExpr_eq (e : ε) :
    Gen.validateExpr view f e =
      match view e with
      | .equal isNil => isNil
      | .not isNil x => isNil || f x
      | .and isNil xs => isNil || xs.any f
      | .or isNil xs => isNil || xs.any f
      | .other => true := by
  simp only [Gen.validateExpr, validateLoop_eq f (Gen.validateExpr_loop view f e) rfl (fun _ _ => rfl),
    validateLoop_eq f (Gen.validateExpr_loop2 view f e) rfl (fun _ _ => rfl)]
  cases view e with
  | equal n => cases n <;> simp
  | not n x => cases n <;> simp
  | and n xs => cases n <;> cases h : xs.any f <;> simp [h]
  | or n xs => cases n <;> cases h : xs.any f <;> simp [h]
  | other => simp

end

/-- `f` is "call `validateExpr`" on nodes seen through `view` -/
def IsGenValidate {ε : Type} (view : ε → Go.ExprCase ε) (f : ε → Bool) : Prop :=
  ∀ e, f e = Gen.validateExpr view f e

mutual
/-- a well-formed expression tree (every model `Expr`) passes `validateExpr` -/
theorem IsGenValidate.expr {f : Expr → Bool} (hf : IsGenValidate exprCase f) (e : Expr) : f e = false :=
  match e with
  | .eq c v => by rw [hf, validateExpr_eq]; rfl
  | .not e => by rw [hf, validateExpr_eq]; simp [exprCase, hf.expr e]
  | .and es => by rw [hf, validateExpr_eq]; simp only [exprCase, Bool.false_or]; exact hf.exprs es
  | .or es => by rw [hf, validateExpr_eq]; simp only [exprCase, Bool.false_or]; exact hf.exprs es
theorem IsGenValidate.exprs {f : Expr → Bool} (hf : IsGenValidate exprCase f) (es : List Expr) : es.any f = false :=
  match es with
  | [] => rfl
  | e :: r => by rw [List.any_cons, hf.expr e, hf.exprs r]; rfl
end

theorem completeList_isNone (es : List WExpr) :
    (WExpr.completeList es).isNone = es.any (fun w => (WExpr.complete w).isNone) := by
  induction es with
  | nil => simp [WExpr.completeList]
  | cons w r ih =>
    rw [WExpr.completeList, List.any_cons, ← ih]
    cases WExpr.complete w <;> cases WExpr.completeList r <;> simp

mutual
/-- on a wire-level tree `validateExpr` returns an error exactly if the tree is incomplete (`WExpr.complete`) -/
theorem IsGenValidate.wexpr {f : WExpr → Bool} (hf : IsGenValidate wexprCase f) (w : WExpr) :
    f w = (WExpr.complete w).isNone :=
  match w with
  | .eq c v => by rw [hf, validateExpr_eq]; simp [wexprCase, WExpr.complete]
  | .unset => by rw [hf, validateExpr_eq]; simp [wexprCase, WExpr.complete]
  | .not none => by
    rw [hf, validateExpr_eq]
    have : f .unset = true := by rw [hf, validateExpr_eq]; rfl
    simp [wexprCase, WExpr.complete, this]
  | .not (some e) => by
    rw [hf, validateExpr_eq]
    simp only [wexprCase, Bool.false_or, WExpr.complete, hf.wexpr e]
    cases WExpr.complete e <;> rfl
  | .and es => by
    rw [hf, validateExpr_eq]
    simp only [wexprCase, Bool.false_or, WExpr.complete, hf.wexprs es]
    cases WExpr.completeList es <;> rfl
  | .or es => by
    rw [hf, validateExpr_eq]
    simp only [wexprCase, Bool.false_or, WExpr.complete, hf.wexprs es]
    cases WExpr.completeList es <;> rfl
theorem IsGenValidate.wexprs {f : WExpr → Bool} (hf : IsGenValidate wexprCase f) (ws : List WExpr) :
    ws.any f = (WExpr.completeList ws).isNone :=
  match ws with
  | [] => by simp [WExpr.completeList]
  | w :: r => by
    rw [List.any_cons, hf.wexpr w, hf.wexprs r, WExpr.completeList]
    cases WExpr.complete w <;> cases WExpr.completeList r <;> rfl
end

/-- an executable knot for `validateExpr` (no fuel: error) -/
def genValidate {ε : Type} (view : ε → Go.ExprCase ε) : Nat → ε → Bool
  | 0, _ => true
  | n + 1, e => Gen.validateExpr view (genValidate view n) e

/-! ### `Execute` -/

section
variable (H : Bytes → UInt64) {σ : Type} (C : CacheImpl σ) (ix : Index) (g : UInt64 → Option Nat × Bool)

/-- `q.populateGroupBy(cols, idx.schema)` and `q.groupBy(bm, idx)` of the Go code, acting on the unexported
    `groupByFields` of the query (a state of type `κ`), refine the model's `populateGroupBy` / `groupBy`:
    whatever the state was before, populate fails iff the model does, and otherwise leaves a state from which
    `groupBy` computes the model's groups. -/
def GroupByRefines {κ : Type} (ix : Index) (pop : κ → List Bytes → κ × Bool)
    (grp : κ → Nat → List (Fields × Nat)) : Prop :=
  ∀ q cols, match populateGroupBy ix.schema cols with
    | none => (pop q cols).2 = true
    | some fields => (pop q cols).2 = false ∧ ∀ bm, grp (pop q cols).1 bm = Updog.groupBy ix fields bm

/-- the canonical instance: the hidden state is the list of resolved fields; an error leaves the stale state -/
def modelPopulate (ix : Index) (stale : List GBField) (cols : List Bytes) : List GBField × Bool :=
  match populateGroupBy ix.schema cols with
  | some fields => (fields, false)
  | none => (stale, true)

theorem modelPopulate_refines (ix : Index) : GroupByRefines ix (modelPopulate ix) (Updog.groupBy ix) := by
  intro q cols
  unfold modelPopulate
  cases populateGroupBy ix.schema cols <;> simp

/-- `Execute` on a node `x` of any type that passes validation and evaluates like the model expression `e`:
    group-by columns are resolved first (an unknown column fails before the cache is touched), then the expression is
    evaluated, the count is the cardinality and the groups are computed from the resolved columns. -/
theorem execute_of_valid {ε κ : Type} (pop : κ → List Bytes → κ × Bool) (grp : κ → Nat → List (Fields × Nat))
    (hpop : GroupByRefines ix pop grp) (validate : ε → Bool) (subEval : ε → σ → σ × Option Nat) (x : ε) (e : Expr)
    (cols : List Bytes) (hval : validate x = false) (hsub : ∀ s, subEval x s = evalC H C ix s e) (stale : κ) (s : σ) :
    Gen.execute (indexEnv C ix g) pop validate subEval grp x cols stale s
      = ((executeC H C ix s ⟨e, cols⟩).1, (executeC H C ix s ⟨e, cols⟩).2.map fun r => (r.count, r.groups)) := by
  have hp := hpop stale cols
  simp only [Gen.execute, executeC, hval, hsub]
  cases hpg : populateGroupBy ix.schema cols with
  | none =>
    rw [hpg] at hp
    simp [hp]
  | some fields =>
    rw [hpg] at hp
    simp only [hp.1, Bool.false_eq_true, ↓reduceIte]
    generalize evalC H C ix s e = r
    obtain ⟨s1, o⟩ := r
    cases o with
    | none => simp
    | some bm => simp [hp.2, Go.bmCardinality_eq]

/-- `(*Index).Execute` = `executeC`; the stale hidden state of the query does not matter. -/
theorem execute_eq {κ : Type} (pop : κ → List Bytes → κ × Bool) (grp : κ → Nat → List (Fields × Nat))
    (hpop : GroupByRefines ix pop grp) (validate : Expr → Bool) (subEval : Expr → σ → σ × Option Nat)
    (q : Query) (hval : validate q.expr = false) (hsub : ∀ s, subEval q.expr s = evalC H C ix s q.expr)
    (stale : κ) (s : σ) :
    Gen.execute (indexEnv C ix g) pop validate subEval grp q.expr q.groupBy stale s
      = ((executeC H C ix s q).1, (executeC H C ix s q).2.map fun r => (r.count, r.groups)) :=
  execute_of_valid H C ix g pop grp hpop validate subEval q.expr q.expr q.groupBy hval hsub stale s

/-- `Execute` with the dynamic dispatch of `eval` and the recursion of `validateExpr` tied over the generated
    bodies is the model's `executeC` -/
theorem execute_eq_executeC {κ : Type} (pop : κ → List Bytes → κ × Bool) (grp : κ → Nat → List (Fields × Nat))
    (hpop : GroupByRefines ix pop grp) (hg : GetColRefines g ix) (hnext : ix.next < 2 ^ 32)
    {v : Expr → Bool} (hv : IsGenValidate exprCase v)
    {f : Expr → σ → σ × Option Nat} (hf : IsGenEval H C ix g f) (q : Query) (stale : κ) (s : σ) :
    Gen.execute (indexEnv C ix g) pop v f grp q.expr q.groupBy stale s
      = ((executeC H C ix s q).1, (executeC H C ix s q).2.map fun r => (r.count, r.groups)) :=
  execute_eq H C ix g pop grp hpop v f q (hv.expr q.expr) (hf.eq_evalC hg hnext q.expr) stale s

/-- `Execute` on a query as it arrives from the wire (`convert.ToQuery`; the tree may be incomplete): an incomplete
    tree is rejected by `validateExpr` BEFORE anything is evaluated — the result is an error and the cache state is
    untouched, whatever `eval` would do on such a tree (in Go: a nil dereference) —, a complete tree is executed like
    the model expression it denotes. -/
theorem execute_wexpr {κ : Type} (pop : κ → List Bytes → κ × Bool) (grp : κ → Nat → List (Fields × Nat))
    (hpop : GroupByRefines ix pop grp) {v : WExpr → Bool} (hv : IsGenValidate wexprCase v)
    (f : WExpr → σ → σ × Option Nat) (w : WExpr) (cols : List Bytes)
    (hf : ∀ e, w.complete = some e → ∀ s, f w s = evalC H C ix s e) (stale : κ) (s : σ) :
    Gen.execute (indexEnv C ix g) pop v f grp w cols stale s =
      match w.complete with
      | none => (s, none)
      | some e => ((executeC H C ix s ⟨e, cols⟩).1, (executeC H C ix s ⟨e, cols⟩).2.map fun r => (r.count, r.groups)) := by
  cases hc : w.complete with
  | none =>
    simp only [Gen.execute, hv.wexpr w, hc]
    cases (pop stale cols).2 <;> rfl
  | some e => exact execute_of_valid H C ix g pop grp hpop v f w e cols (by rw [hv.wexpr w, hc]; rfl) (hf e hc) stale s

end

/-! ### concrete runs of the generated definitions -/

namespace Demo

/-- a toy hash -/
def H (b : Bytes) : UInt64 := b.foldl (fun a x => a * 31 + x.toUInt64) 7

/-- a cache that remembers everything, newest entry first -/
def listCache : CacheImpl (List (UInt64 × Nat)) where
  get := fun s k => (s, (s.find? (·.1 == k)).map (·.2))
  put := fun s k bm => (k, bm) :: s

def a : Bytes := [97]
def b : Bytes := [98]
def x : Bytes := [120]
def y : Bytes := [121]

/-- rows 0..3: a=x in rows 0 and 2, b=y in rows 1 and 2 -/
def ix : Index where
  schema := [(a, [(x, H (encodePair a x))]), (b, [(y, H (encodePair b y))])]
  next := 4
  getCol := fun k => if k == H (encodePair a x) then some 0b0101 else if k == H (encodePair b y) then some 0b0110 else none

/-- `a=x AND NOT (b=y OR a=x)` -/
def q1 : Expr := .and [.eq a x, .not (.or [.eq b y, .eq a x])]
/-- the second operand names an unknown column -/
def q2 : Expr := .and [.eq a x, .not (.eq [99] x), .eq b y]

def run (e : Expr) (s : List (UInt64 × Nat)) := genEval H listCache ix (getColPreloaded ix) 8 e s

end Demo

open Demo in
set_option maxRecDepth 100000 in
/-- rows {0,2} ∩ complement of {0,1,2} within 4 rows = ∅; five nodes were computed and stored, the repeated leaf
    `a=x` was answered by the cache -/
example : (run q1 []).2 = some 0 ∧ (run q1 []).1.map (·.2) = [0, 0b1000, 0b0111, 0b0110, 0b0101] := by decide +kernel

open Demo in
/-- the error of the second operand aborts the AND: the third operand is not evaluated and nothing is stored for the
    NOT or the AND; only the first operand's bitmap was put into the cache -/
example : (run q2 []).2 = none ∧ (run q2 []).1.map (·.2) = [0b0101] := by decide +kernel

open Demo in
set_option maxRecDepth 100000 in
/-- a second run is answered from the cache by the root node alone: the state does not grow -/
example : (run q1 (run q1 []).1) = ((run q1 []).1, some 0) := by decide +kernel

open Demo in
/-- an absent value: the preloaded getter yields `nil, nil`, the on-demand getter an error; both give the empty bitmap -/
example : (Gen.evalEqual H (indexEnv listCache ix (getColPreloaded ix)) a y []).2 = some 0 ∧
    (Gen.evalEqual H (indexEnv listCache ix (getColOnDemand ix)) a y []).2 = some 0 := by decide +kernel

/-- `a=x OR b=y GROUP BY cols` with toy group-by functions: the hidden state is the list of resolved columns,
    resolving fails for the column `c`, and the "groups" are the resolved columns together with the result bitmap -/
def Demo.exec (cols : List Bytes) (s : List (UInt64 × Nat)) :=
  Gen.execute (indexEnv Demo.listCache Demo.ix (getColPreloaded Demo.ix))
    (fun (_ : List Bytes) cols => (cols, cols.contains [99])) (genValidate exprCase 8) Demo.run
    (fun (q : List Bytes) bm => (q, bm)) (Expr.or [.eq Demo.a Demo.x, .eq Demo.b Demo.y]) cols [[1]] s

open Demo in
set_option maxRecDepth 100000 in
/-- three rows match; the groups are computed from the state left by populateGroupBy, not from the stale one;
    three nodes were stored in the cache -/
example : (exec [b] []).2 = some (3, ([b], 0b0111)) ∧ (exec [b] []).1.length = 3 := by decide +kernel

open Demo in
set_option maxRecDepth 100000 in
/-- an unknown group-by column fails before the cache is touched -/
example : (exec [[99]] []).2 = none ∧ (exec [[99]] []).1 = [] := by decide +kernel

example : genValidate wexprCase 8 (.and [.eq [97] [120], .not none]) = true ∧
    genValidate wexprCase 8 (.and [.eq [97] [120], .not (some (.or []))]) = false := by decide +kernel

end Updog.GeneratedEq
