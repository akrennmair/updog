/-
Equivalence of the REGENERATED `Flush` / constructor / `Close` functions of the two writers (`Updog/GeneratedFns.lean`:
`newIndexWriter`, `indexWriterFlush`, `newBigIndexWriter`, `bigIndexWriterClose`, `bigIndexWriterFlush`, translated from
writer.go / writer_big.go by extract/translate_t7.go on every run) with the hand-written models:
`Updog/Model/OpenFlags.lean` (`failIfExistsFlags`, `posixOpen`), `Updog/Model/OpenLock.lean` (`openCreate`),
`Updog/Model/BigWriter.lean` (`writeTxs`, `walk`, `BigWriter.flushTxs`, `BigWriter.image`) and
`Updog/Model/BigWriterTx.lean` (`commit`, `abandon`, `flushTx`).
-/
import Updog.Props.Gen.Writer
import Updog.Proofs.GenFlushData
import Updog.Proofs.GoPreludeT7
import Updog.Proofs.GenBigFlushT7
import Updog.Model.OpenLock
import Updog.Proofs.OpenLock
import Updog.Proofs.GenBigTx
import Updog.Proofs.C18Big
import Updog.Props.Gen.Open
import Updog.Props.Gen.OpenClose
import Updog.Proofs.GenReopen

namespace Updog.GeneratedEq
open Updog.Go.T3 Updog.Go.T7

/-! ### NewIndexWriter -/

/-- **`NewIndexWriter(filename)`** = a writer with empty schema, no bitmaps, counter 0, a free mutex and that file name;
    it stands for the empty model `Writer` and satisfies the heap invariant of `AddRow` on any heap -/
theorem newIndexWriter_eq (H : Bytes → UInt64) (filename : Bytes) (hp : Heap) :
    Gen.newIndexWriter filename = some { filename := filename } ∧
    absWriter hp { filename := filename } = ({} : Writer) ∧ WriterWF H hp { filename := filename } :=
  ⟨rfl, rfl, WriterWF.empty H hp filename⟩

example : (Gen.newIndexWriter [47, 120]).map (fun w => (w.filename, w.nextRowID, w.values.length, w.mtx.held))
    = some ([47, 120], 0, 0, false) := by decide

/-! ### (*IndexWriter).optimize -/

theorem optimize_fold (idx : IndexWriter) (hp : Heap) (rng : List (UInt64 × Ptr)) :
    List.foldl (Gen.indexWriterOptimize_loop1 idx) (hp, ({} : WaitGroup)) rng = (hp, {}) := by
  induction rng with
  | nil => rfl
  | cons kv rest ih =>
    rw [List.foldl_cons]
    have : Gen.indexWriterOptimize_loop1 idx (hp, ({} : WaitGroup)) kv = (hp, {}) := by
      simp [Gen.indexWriterOptimize_loop1, bitmapRunOptimize, wgAdd, wgDone]
    rw [this, ih]

/-- **`(*IndexWriter).optimize` = the primitive `Go.T3.optimize`** that the generated `WriteToBoltDatabase` calls: for any
    enumeration of `idx.values`, every bitmap is run-optimised (which leaves the sets, hence the heap of the model, as
    they are) and nothing else is touched; every goroutine the loop starts has called `wg.Done()` when `wg.Wait()` is
    reached (the counter is back to 0 and was never negative). -/
theorem indexWriterOptimize_eq (rng : List (UInt64 × Ptr)) (hp : Heap) (idx : IndexWriter) :
    Gen.indexWriterOptimize rng hp idx = (optimize hp idx, { idx with mtx := mutexTouch idx.mtx }, ()) ∧
    (List.foldl (Gen.indexWriterOptimize_loop1 { idx with mtx := mutexTouch idx.mtx }) (hp, ({} : WaitGroup)) rng).2 = {} := by
  refine ⟨?_, ?_⟩
  · unfold Gen.indexWriterOptimize
    simp only [optimize_fold]
    rfl
  · rw [optimize_fold]

example : (Gen.indexWriterOptimize [(3, some 0), (4, some 1)] { bitmaps := [3, 1] } {}).1.bitmaps = [3, 1] := by decide

/-! ### (*IndexWriter).Flush -/

/-- **`Flush` on a path that exists — an index, an empty file, garbage, locked or not — fails before anything is
    written**: `bbolt.Open` is called with `openfile.OpenFile(openfile.Options{FailIfFileExists: true})`, whose flag word
    is `failIfExistsFlags (O_RDWR|O_CREATE)`, on which `posixOpen` reports `EEXIST`. The directory is unchanged (only a
    handle identity is used up), the returned handle is closed, nothing was committed, `WriteToBoltDatabase` did not run
    (heap and writer untouched, apart from the recorded read of `idx.filename`). -/
theorem indexWriterFlush_exists (X : Ext) (rng : List (UInt64 × Ptr)) (fs : Fs) (hp : Heap) (idx : IndexWriter)
    (n : Node) (hex : fs.get idx.filename = some n) :
    (posixOpen true (failIfExistsFlags boltWriteFlags)).1 = false ∧
    Gen.indexWriterFlush X rng fs hp idx
      = ({ fs with next := fs.next + 1 }, deadBolt fs.next, hp, { idx with mtx := mutexTouch idx.mtx }, errOpen) := by
  refine ⟨by decide, ?_⟩
  unfold Gen.indexWriterFlush
  simp only [boltOpen_writer, hex, errOpen, isErr_some, if_true]

/-- **`Flush` on an absent path = exclusive create, then the transaction list of `writeToBoltDatabase_eq`, then
    `db.Close()`**: for ANY enumeration `rng` of `idx.values`. The file is created (as a bolt file); the call returns
    nil; the transactions committed through the handle are, in order and `Put` by `Put`, the model's
    `writeTxs schema next perm 1000` (every batch of 1000 bitmaps before the header, `'S'` and `'I'` in the LAST one);
    afterwards the handle is closed (lock released), no transaction is open, heap unchanged, mutex released. -/
theorem indexWriterFlush_absent (X : Ext) (rng : List (UInt64 × Ptr)) (fs : Fs) (hp : Heap) (idx : IndexWriter)
    (hno : fs.get idx.filename = none) :
    let r := Gen.indexWriterFlush X rng fs hp idx
    r.2.2.2.2 = none ∧
    r.1 = ({ fs with next := fs.next + 1 } : Fs).set idx.filename { content := .bolt [] } ∧
    r.2.1.commits = (writeTxs (absWriter hp idx).schema (absWriter hp idx).next (absVals hp rng) 1000).map (renderTx X) ∧
    r.2.1.closed = true ∧ r.2.1.tx = none ∧ r.2.1.id = fs.next ∧
    bucketsGet r.2.1.committed dataName
      = some (fileData X [] (absVals hp rng) (schemaValue hp idx.schema) idx.nextRowID) ∧
    r.2.2.1 = hp ∧
    r.2.2.2.1 = { idx with mtx := mutexUnlock (mutexLock (mutexTouch (mutexTouch idx.mtx))) } := by
  intro r
  have hr : r = Gen.indexWriterFlush X rng fs hp idx := rfl
  unfold Gen.indexWriterFlush at hr
  simp only [boltOpen_writer, hno, isErr_none, Bool.false_eq_true, if_false] at hr
  have hb : (freshBolt fs.next []).closed = false ∧ (freshBolt fs.next []).tx = none ∧ (some fs.next : DBRef) = some (freshBolt fs.next []).id :=
    ⟨rfl, rfl, rfl⟩
  obtain ⟨w1, w2, w3, w4, w5, w6⟩ := writeToBoltDatabase_eq X rng (freshBolt fs.next []) hp
    { idx with mtx := mutexTouch (mutexTouch idx.mtx) } (some fs.next) hb.2.2 hb.1 hb.2.1
  have wd := writeToBoltDatabase_data X rng (freshBolt fs.next []) hp
    { idx with mtx := mutexTouch (mutexTouch idx.mtx) } (some fs.next) hb.2.2 hb.1 hb.2.1
  have wid : (Gen.writeToBoltDatabase X rng (freshBolt fs.next []) hp
      { idx with mtx := mutexTouch (mutexTouch idx.mtx) } (some fs.next)).1.id = fs.next :=
    (writeToBoltDatabase_spec X rng (freshBolt fs.next []) hp { idx with mtx := mutexTouch (mutexTouch idx.mtx) } (some fs.next)
      hb.2.2 hb.1 hb.2.1 _ rfl).2.2.2.2.1
  generalize Gen.writeToBoltDatabase X rng (freshBolt fs.next []) hp
      { idx with mtx := mutexTouch (mutexTouch idx.mtx) } (some fs.next) = wr at hr w1 w2 w3 w4 w5 w6 wd wid
  obtain ⟨wb, whp, widx, werr⟩ := wr
  simp only at hr w1 w2 w3 w4 w5 w6 wd wid
  subst w1 w5 w6
  rw [hr]
  obtain ⟨bid, bclosed, bcommitted, btx, bnext, bcommits⟩ := wb
  simp only at w2 w3 w4 wd wid
  subst wid
  simp only [dbClose_mk]
  refine ⟨?_, ?_, ?_, ?_, ?_, ?_, ?_, ?_, ?_⟩ <;> first | trivial | (rw [w2]; rfl) | (rw [wd]; rfl)

/-- **`Flush` against `openCreate` of the lock model**: the model's writer open (`O_EXCL`: error on any existing path before
    any flock, otherwise create and lock) and the generated `Flush` agree on whether the open step succeeds; and on
    every path the generated `Flush` ends with its own handle closed, i.e. `closeRW` has happened. -/
theorem openCreate_matches_generated_flush (X : Ext) (rng : List (UInt64 × Ptr)) (fs : Fs) (hp : Heap) (idx : IndexWriter)
    (st : LockState) (p : ProcId) (habs : st.fs = .absent ↔ fs.get idx.filename = none) (hnoh : st.holders = []) :
    let r := Gen.indexWriterFlush X rng fs hp idx
    ((openCreate st p).1 = .error ↔ r.2.2.2.2 = errOpen) ∧
    ((∃ h, (openCreate st p).1 = .ok h) ↔ r.2.2.2.2 = none) ∧
    r.2.1.closed = true := by
  intro r
  cases hg : fs.get idx.filename with
  | some n =>
    have hne : st.fs ≠ .absent := fun e => by rw [habs.mp e] at hg; cases hg
    have e1 : openCreate st p = (.error, st) := by unfold openCreate; simp [hne]
    have e2 := (indexWriterFlush_exists X rng fs hp idx n hg).2
    have : r = _ := e2
    rw [this, e1]
    simp [errOpen, deadBolt]
  | none =>
    have he : st.fs = .absent := habs.mpr hg
    have e1 : openCreate st p = openRW st p := by unfold openCreate; simp [he]
    obtain ⟨a1, _, _, a4, _⟩ := indexWriterFlush_absent X rng fs hp idx hg
    rw [e1, Updog.OpenLock.openRW_ok hnoh]
    refine ⟨?_, ?_, a4⟩
    · constructor
      · intro h; cases h
      · intro h; rw [show r.2.2.2.2 = none from a1] at h; cases h
    · exact ⟨fun _ => a1, fun _ => ⟨_, rfl⟩⟩

/-! ### written with the generated `Flush`, reopened with the generated `OpenIndex` -/

/-- the directory after the read-write handle `b` on `path` was closed: the file holds what was committed through it
    (while the handle is open `Fs` keeps the content from the time of the open; see Basic/GoPreludeT7.lean) -/
def fsAfterClose (fs : Fs) (path : Bytes) (b : Bolt) : Fs :=
  match fs.get path with
  | some n => fs.set path { n with content := .bolt b.committed }
  | none => fs

/-- **`Flush`, then `OpenIndex` on the same path — both regenerated, through the directory**: on an absent path, with a
    gob coder that round-trips, `Flush` creates the file, closes it, and `OpenIndex(filename)` then succeeds, holds the
    lock, and returns an index with the writer's schema and row counter. The directory still has exactly one more entry. -/
theorem flush_then_openIndex (X : Ext) (hgob : ∀ s, X.gobDecode (X.gobEncode s) = some s)
    (rng : List (UInt64 × Ptr)) (fs : Fs) (hp : Heap) (idx : IndexWriter) (hno : fs.get idx.filename = none)
    (hn : KeysNodup (absVals hp rng)) :
    let r := Gen.indexWriterFlush X rng fs hp idx
    let o := Gen.openIndex X (fsAfterClose r.1 idx.filename r.2.1) r.2.2.1 idx.filename []
    r.2.2.2.2 = none ∧ o.2.2.2.2 = none ∧ lockHeld o.2.1 = true ∧
    ∃ ix, o.2.2.2.1 = some ix ∧ ix.schema = some (schemaValue hp idx.schema) ∧ ix.nextRowID = idx.nextRowID ∧
      ix.db = some (fs.next + 1) := by
  intro r o
  obtain ⟨a1, a2, _, _, _, _, a7, a8, _⟩ := indexWriterFlush_absent X rng fs hp idx hno
  obtain ⟨_, _, s3, s4, _⟩ := fileData_spec X (absVals hp rng) hn (schemaValue hp idx.schema) idx.nextRowID
  have hfs : (fsAfterClose r.1 idx.filename r.2.1).get idx.filename = some { content := .bolt r.2.1.committed } := by
    unfold fsAfterClose
    rw [show r.1 = _ from a2, Fs.get_set_same]
    simp only [Fs.get_set_same]
  have hnext : (fsAfterClose r.1 idx.filename r.2.1).next = fs.next + 1 := by
    unfold fsAfterClose
    rw [show r.1 = _ from a2, Fs.get_set_same]
    rfl
  have ho : o = _ := openIndex_cases X (fsAfterClose r.1 idx.filename r.2.1) r.2.2.1 idx.filename []
  rw [hfs] at ho
  simp only [List.any_nil, Bool.false_eq_true, if_false, hnext] at ho
  have hres := openIndex_noPreload_result X (fs.next + 1) 0 r.2.1.committed [] r.2.2.1 _ _ _ _
    (show bucketsGet r.2.1.committed dataName = some _ from a7) s3 (hgob _) s4 (by rfl)
  rw [hres] at ho
  rw [ho]
  refine ⟨a1, rfl, rfl, _, rfl, rfl, ?_, rfl⟩
  exact beUint32_be32 idx.nextRowID

/-- a directory with an existing bolt file at `[105]` and nothing at `[110]` -/
def flushFs : Fs := { files := [([105], { content := .bolt [] })], next := 3 }

/-- a writer with two rows added by the generated `AddRow` -/
def flushWriter (name : Bytes) : Heap × IndexWriter :=
  let H : Bytes → UInt64 := fun b => (b.length : Nat).toUInt64
  let w1 := Gen.indexWriterAddRow H {} { filename := name } [([1], [2]), ([1, 5], [3])]
  let w2 := Gen.indexWriterAddRow H w1.1 w1.2.1 [([1], [2])]
  (w2.1, w2.2.1)

def flushDemo (name : Bytes) : Bool × Bool × List (List PutRec) × List Bytes × Option BucketData :=
  let w := flushWriter name
  let r := Gen.indexWriterFlush toyExt w.2.values flushFs w.1 w.2
  (isErr r.2.2.2.2, r.2.1.closed, r.2.1.commits, r.1.files.map (·.1), bucketsGet r.2.1.committed dataName)

-- the path exists: error, handle closed, nothing committed, directory as before
example : (flushDemo [105] == (true, true, [], [[105]], none)) = true := by
  simp only [flushDemo, Gen.indexWriterFlush, boltOpen_writer]; decide

-- the path is absent: created, one transaction with the header last, handle closed
example : (flushDemo [110] ==
    (false, true,
      [[([100, 97, 116, 97], [86, 0, 0, 0, 0, 0, 0, 0, 3], [0, 0, 0, 3]),
        ([100, 97, 116, 97], [86, 0, 0, 0, 0, 0, 0, 0, 4], [0, 0, 0, 1]),
        ([100, 97, 116, 97], [83], [2]),
        ([100, 97, 116, 97], [73], [0, 0, 0, 2])]],
      [[105], [110]],
      some [([73], [0, 0, 0, 2]), ([83], [2]), ([86, 0, 0, 0, 0, 0, 0, 0, 3], [0, 0, 0, 3]), ([86, 0, 0, 0, 0, 0, 0, 0, 4], [0, 0, 0, 1])])) = true := by
  simp only [flushDemo, Gen.indexWriterFlush, boltOpen_writer]; decide

/-! ### NewBigIndexWriter -/

/-- **`NewBigIndexWriter(db, tempDB)` establishes the temp transaction**: on an open temporary database without a
    transaction it returns a writer and nil; one transaction has been committed (the `Update` that creates bucket
    `temp`; an existing bucket keeps its keys); the writer's write transaction is open on the temporary database
    (`BigReady`: exactly what the generated `AddRow` and `Flush` need); schema empty, counter 0, mutex free, `db` stored
    untouched. -/
theorem newBigIndexWriter_eq (tb : Bolt) (db : DBRef) (hopen : tb.closed = false) (hnotx : tb.tx = none) :
    let r := Gen.newBigIndexWriter tb db (some tb.id)
    r.2.2 = none ∧
    ∃ idx, r.2.1 = some idx ∧ BigReady r.1 idx ((bucketsGet tb.committed tempName).getD []) ∧
      idx.db = db ∧ idx.tempDB = some tb.id ∧ idx.schema = {} ∧ idx.nextRowID = 0 ∧ idx.mtx = {} ∧
      r.1.commits = tb.commits ++ [[]] ∧
      bucketsGet r.1.committed tempName = some ((bucketsGet tb.committed tempName).getD []) := by
  obtain ⟨ti, tclosed, tc, ttx, tn, tcs⟩ := tb
  simp only at hopen hnotx
  subst hopen hnotx
  intro r
  have hr : r = _ := newBigIndexWriter_spec ti tn tc tcs db
  rw [hr]
  have hget : bucketsGet (bucketsSet tc tempName ((bucketsGet tc tempName).getD [])) tempName
      = some ((bucketsGet tc tempName).getD []) := bucketsGet_set_same _ _ _
  exact ⟨rfl, _, rfl, ⟨rfl, rfl, _, rfl, rfl, rfl, hget⟩, rfl, rfl, rfl, rfl, rfl, rfl, hget⟩

/-- on a fresh temporary database the new writer stands for the empty model writer `{}` (Model/BigWriter.lean) and for
    the empty transaction model `{}` (Model/BigWriterTx.lean: nothing committed, nothing pending, one bolt commit so far) -/
theorem newBigIndexWriter_fresh (H : Bytes → UInt64) (tb : Bolt) (db : DBRef) (hp : Heap) (hopen : tb.closed = false) (hnotx : tb.tx = none)
    (hfresh : bucketsGet tb.committed tempName = none) :
    ∃ idx, (Gen.newBigIndexWriter tb db (some tb.id)).2.1 = some idx ∧
      BigReady (Gen.newBigIndexWriter tb db (some tb.id)).1 idx [] ∧ SchemaWF H hp idx.schema ∧
      BigRel hp idx [] {} ∧ TxRel (Gen.newBigIndexWriter tb db (some tb.id)).1 hp idx [] (tb.commits.length + 1) {} ∧
      idx.nextRowID.toNat = ({} : BigWriter).next := by
  obtain ⟨_, idx, e, hr, _, _, hs, hn, _, hc, hg⟩ := newBigIndexWriter_eq tb db hopen hnotx
  rw [hfresh] at hr hg
  refine ⟨idx, e, hr, ?_, ?_, ⟨?_, ⟨[], hg, by simp⟩, ?_⟩, by rw [hn]; rfl⟩
  · rw [hs]; exact SchemaWF.empty H hp
  · rw [BigRel, hs]; exact ⟨rfl, by simp⟩
  · rw [BigRel, hs]; exact ⟨rfl, by simp [BigWriterTx.toBig, BigWriterTx.visible]⟩
  · rw [hc]; simp

/-! ### (*BigIndexWriter).Close -/

/-- **`Close` releases the temp transaction** (`BigWriterTx.abandon`): with the writer's transaction open, it returns nil,
    no transaction is open afterwards, the COMMITTED content and the commit log of the temporary database are exactly
    what they were (the pending `Put`s are gone), `tempTx` is nil and a free mutex is free again. -/
theorem bigIndexWriterClose_eq (tb : Bolt) (idx : BigIndexWriter) (d : BucketData) (hr : BigReady tb idx d) :
    let r := Gen.bigIndexWriterClose tb idx
    r.2.2 = none ∧ r.1.tx = none ∧ r.1.closed = false ∧ r.1.committed = tb.committed ∧ r.1.commits = tb.commits ∧
    r.2.1 = { idx with tempTx := none, mtx := mutexUnlock (mutexLock idx.mtx) } ∧
    (idx.mtx = {} → r.2.1.mtx = {}) := by
  obtain ⟨h1, h2, t, h3, h4, h5, h6⟩ := hr
  obtain ⟨ti, tclosed, tc0, ttx, tn, tcs⟩ := tb
  obtain ⟨tt, twr, tbs, tlog⟩ := t
  simp only at h1 h2 h3 h4 h5 h6
  subst h1 h3
  intro r
  have hr : r = _ := bigIndexWriterClose_spec ti tt tn tc0 tbs tcs tlog twr idx h4
  rw [hr]
  refine ⟨rfl, rfl, rfl, rfl, rfl, rfl, ?_⟩
  intro hm; simp only; rw [hm]; rfl

/-- **`Close` twice = `Close` once; `Close` after `Flush` is a no-op**: with `tempTx == nil` it returns nil and touches
    neither database -/
theorem bigIndexWriterClose_idempotent (tb : Bolt) (idx : BigIndexWriter) :
    let r := Gen.bigIndexWriterClose tb idx
    r.2.1.tempTx = none ∧
    Gen.bigIndexWriterClose r.1 r.2.1 = (r.1, { r.2.1 with mtx := mutexUnlock (mutexLock r.2.1.mtx) }, nilError) := by
  intro r
  have h : r.2.1.tempTx = none := by
    show (Gen.bigIndexWriterClose tb idx).2.1.tempTx = none
    unfold Gen.bigIndexWriterClose
    cases idx.tempTx <;> simp
  exact ⟨h, bigIndexWriterClose_nil r.1 r.2.1 h⟩

/-! ### (*BigIndexWriter).Flush -/

theorem renderTx_flushTxs (X : Ext) (w : BigWriter) :
    w.flushTxs.map (renderTx X) = [w.flushCore.1.map (valRec X) ++ [(dataName, [73], be32 w.next), (dataName, [83], X.gobEncode w.schema)]] := by
  simp [BigWriter.flushTxs, renderTx, renderPut, valRec, vKey, List.map_map, Function.comp_def]

/-- **`(*BigIndexWriter).Flush` = `BigWriter.flushTxs`** (Model/BigWriter.lean), for ANY temp-bucket content that satisfies the
    invariant of C18Big / GenBigT3: the bucket `d` the writer's transaction sees is in bbolt's key order and holds exactly
    the model's key set `w.temp` (`BigRel`), all of them 12-byte keys. With the output database open and idle:
    * the call returns nil;
    * the transactions committed on the output database are exactly the model's `w.flushTxs` rendered `Put` by `Put`:
      ONE transaction — a bitmap per value index in ascending order (`walk` of the sorted keys: a new bitmap whenever
      the 8-byte key prefix changes), then the counter `'I'`, then the schema `'S'` — so the header is in the last
      transaction;
    * bucket `data` of the committed file is `bigFileData` of the model's `flushCore`;
    * the temp transaction has been committed (the bucket `temp` COMMITTED in the temporary database now holds `d`: pending
      keys became committed, `BigWriterTx.commit`) and no transaction is open on either database; `tempTx` is nil. -/
theorem bigIndexWriterFlush_eq (X : Ext) (bolt tbolt : Bolt) (hp : Heap) (idx : BigIndexWriter) (d : BucketData) (w : BigWriter)
    (hr : BigReady tbolt idx d) (hs : SortedData d) (rel : BigRel hp idx d w) (hnd : w.temp.Nodup)
    (hl : ∀ k ∈ w.temp, k.length = 12) (hnext : idx.nextRowID.toNat = w.next)
    (ho : bolt.closed = false) (hnotx : bolt.tx = none) (hdb : idx.db = some bolt.id) :
    let r := Gen.bigIndexWriterFlush X bolt tbolt hp idx
    r.2.2.2.2 = none ∧
    r.1.commits = bolt.commits ++ w.flushTxs.map (renderTx X) ∧
    r.1.tx = none ∧ r.1.closed = false ∧
    bucketsGet r.1.committed dataName
      = some (bigFileData X ((bucketsGet bolt.committed dataName).getD []) w.flushCore.1 w.flushCore.2.1 idx.nextRowID) ∧
    r.2.1.tx = none ∧ r.2.1.closed = false ∧ bucketsGet r.2.1.committed tempName = some d ∧
    r.2.1.commits.length = tbolt.commits.length + 1 ∧
    r.2.2.2.1 = { idx with tempTx := none, mtx := mutexTouch idx.mtx } := by
  have hl' : ∀ k ∈ d.map (·.1), k.length = 12 := fun k hk => hl k ((rel.2 k).mp hk)
  have hkeys : sortKeys w.temp = d.map (·.1) := by
    rw [← sortKeys_sorted d hs]
    exact sortKeys_eq_of_mem_iff hnd (keys_nodup d hs) (fun k => (rel.2 k).symm)
  have hcore : w.flushCore.1 = walk (d.map (·.1)) := by simp [BigWriter.flushCore, hkeys]
  obtain ⟨r1, r2, r3, r4, _, r6, r7, r8, _, r10, r11, r12, _⟩ :=
    bigIndexWriterFlush_ready X bolt tbolt hp idx d hr ho hnotx hdb hl' hs
  refine ⟨r1, ?_, r3, r4, ?_, r7, r8, r10, r11, r12⟩
  · rw [r2, renderTx_flushTxs, hcore, ← hnext, ← rel.1]
  · rw [r6, hcore]; show _ = some (bigFileData X _ _ w.schema _); rw [← rel.1]

/-- **a temp key whose length is not 12** (`BigWriter.flush` = `.error`): `Flush` returns an error, and the output database
    is exactly as before — nothing committed, no transaction left open (the deferred rollbacks) -/
theorem bigIndexWriterFlush_badkey (X : Ext) (bolt tbolt : Bolt) (hp : Heap) (idx : BigIndexWriter) (d : BucketData) (w : BigWriter)
    (hr : BigReady tbolt idx d) (rel : BigRel hp idx d w) (hbad : w.flush = .error)
    (ho : bolt.closed = false) (hnotx : bolt.tx = none) (hdb : idx.db = some bolt.id) :
    let r := Gen.bigIndexWriterFlush X bolt tbolt hp idx
    isErr r.2.2.2.2 = true ∧ r.1.commits = bolt.commits ∧ r.1.committed = bolt.committed ∧ r.1.tx = none ∧ r.2.1.tx = none := by
  have hall : (d.map (·.1)).all (fun k => k.length == 12) = false := by
    unfold BigWriter.flush at hbad
    split at hbad
    · cases hbad
    · rename_i hno
      have hno' : w.temp.all (fun k => k.length == 12) = false := by simpa using hno
      rw [List.all_eq_false] at hno' ⊢
      obtain ⟨k, hk, hk'⟩ := hno'
      exact ⟨k, (rel.2 k).mpr hk, hk'⟩
  obtain ⟨b1, b2, b3, b4, _, b6, _⟩ := bigIndexWriterFlush_ready_badkey X bolt tbolt hp idx d hr ho hnotx hdb hall
  exact ⟨b1, b2, b3, b4, b6⟩

/-- **the result image of the generated `Flush` = `BigWriter.image`**: when the writer stands for the model writer after
    adding `rows` (`BigRel … (BigWriter.addRows H {} rows)`, as `NewBigIndexWriter` + the generated `AddRow`s establish it:
    `newBigIndexWriter_fresh`, `bigIndexWriterAddRow_eq`), an output file that had no bucket `data` holds exactly
    `BigWriter.image H rows`: `'S'` ↦ gob of its schema, `'I'` ↦ its counter (big-endian, 4 bytes), and under
    `'V' ‖ be64 h` the serialised bitmap the image has for `h` (absent if it has none). The bucket is in bbolt's key order. -/
theorem bigIndexWriterFlush_image (H : Bytes → UInt64) (X : Ext) (rows : List Row) (bolt tbolt : Bolt) (hp : Heap)
    (idx : BigIndexWriter) (d : BucketData)
    (hr : BigReady tbolt idx d) (hs : SortedData d) (rel : BigRel hp idx d (BigWriter.addRows H {} rows))
    (hlen : rows.length ≤ 2 ^ 32) (hnext : idx.nextRowID.toNat = (BigWriter.addRows H {} rows).next)
    (ho : bolt.closed = false) (hnotx : bolt.tx = none) (hdb : idx.db = some bolt.id)
    (hempty : bucketsGet bolt.committed dataName = none) :
    ∃ fd, bucketsGet (Gen.bigIndexWriterFlush X bolt tbolt hp idx).1.committed dataName = some fd ∧ SortedData fd ∧ WellKeyed fd ∧
      dataGet fd [83] = some (X.gobEncode (BigWriter.image H rows).2.1) ∧
      dataGet fd [73] = some (be32 (BigWriter.image H rows).2.2) ∧
      ∀ h, dataGet fd (86 :: be64 h.toNat) = ((BigWriter.image H rows).1.get h).map X.roaringToBytes := by
  have binv := binv_addRows H rows
  have wf := BInv.wf H binv hlen
  have hl : ∀ k ∈ (BigWriter.addRows H {} rows).temp, k.length = 12 := by
    intro k hk
    obtain ⟨a, i, _, _, e⟩ := wf k hk
    rw [e]; rfl
  have hnd : (BigWriter.addRows H {} rows).temp.Nodup := big_addRows_nodup H rows {} List.nodup_nil
  obtain ⟨_, _, _, _, f5, _⟩ := bigIndexWriterFlush_eq X bolt tbolt hp idx d _ hr hs rel hnd hl hnext ho hnotx hdb
  rw [hempty] at f5
  have hnil : (none : Option BucketData).getD [] = [] := rfl
  rw [hnil] at f5
  refine ⟨_, f5, ?_⟩
  have hn : KeysNodup (BigWriter.addRows H {} rows).flushCore.1 := walk_nodup _
  obtain ⟨s1, s2, s3, s4, s5⟩ := bigFileData_spec X _ hn (BigWriter.addRows H {} rows).flushCore.2.1 idx.nextRowID
  refine ⟨s1, s2, s3, ?_, s5⟩
  rw [s4, hnext]
  rfl

/-! ### a concrete run: NewBigIndexWriter, two AddRows, Flush, Close -/

/-- an open, empty temporary database (handle 7) and an open, empty output database (handle 9) -/
def bigDemo : Bolt × Bolt × BigIndexWriter × Error :=
  let H : Bytes → UInt64 := fun b => (b.length : Nat).toUInt64
  let n := Gen.newBigIndexWriter { id := 7 } (some 9) (some 7)
  let idx0 := n.2.1.getD {}
  let a1 := Gen.bigIndexWriterAddRow H n.1 {} idx0 [([1], [2]), ([1, 5], [3])]
  let a2 := Gen.bigIndexWriterAddRow H a1.1 a1.2.1 a1.2.2.1 [([1], [2])]
  let f := Gen.bigIndexWriterFlush toyExt { id := 9 } a2.1 a2.2.1 a2.2.2.1
  let c := Gen.bigIndexWriterClose f.2.1 f.2.2.2.1
  (f.1, c.1, c.2.1, f.2.2.2.2)

-- one transaction on the output database: value 3 (rows 0 and 1), value 4 (row 0), then 'I' = 2, then 'S'
example : (bigDemo.1.commits == [[([100, 97, 116, 97], [86, 0, 0, 0, 0, 0, 0, 0, 3], [0, 0, 0, 3]),
                                  ([100, 97, 116, 97], [86, 0, 0, 0, 0, 0, 0, 0, 4], [0, 0, 0, 1]),
                                  ([100, 97, 116, 97], [73], [0, 0, 0, 2]),
                                  ([100, 97, 116, 97], [83], [2])]]) = true := by decide
example : (bigDemo.1.tx.isNone, bigDemo.2.1.tx.isNone, bigDemo.2.2.1.tempTx, isErr bigDemo.2.2.2) = (true, true, none, false) := by decide
-- the same file as the in-memory writer produces for these rows (`demoFile` of Props/Gen/Open.lean)
example : (bigDemo.1.committed == demoFile) = true := by decide

end Updog.GeneratedEq
