/-
The REGENERATED `ParseQuery` of internal/queryparser/queryparser.go (`Gen.ParseQuery` of `Updog/GeneratedFns.lean`,
written by extract/translate_t4.go on every run: `newParser` → `lex` → the lexer's state functions run to completion,
then `parser.parse` behind its `defer p.recover(&err)`) equals the hand-written model `parseQuery`
(`Updog/Model/Parser.lean`) for EVERY byte string. Assembled from the lexer theorems (`Updog/Props/Gen/Lexer.lean`) and
the parser theorems (`Updog/Props/Gen/ParserFns.lean`).

`fuel` is the one translation artefact: Go's loops / recursion become recursion on a fuel argument handed to every
callee (a DEPTH bound). `3 * s.length + 5` suffices; for ANY fuel the answer is either `.error .fuel` or the model's.
-/
import Updog.Props.Gen.Lexer
import Updog.Props.Gen.ParserFns

namespace Updog.GeneratedEq

/-! ### `ParseQuery` given the lexer's items -/

/-- what `Gen.ParseQuery` answers, as the model sees it: a query, or rejected (`none`) -/
def verdict : Go.Res PQuery → Option (Option PQuery)
  | .ok q => some (some q)
  | .error .returned => some none     -- ParseQuery returned a non-nil error
  | .error _ => none                  -- unrecovered panic / out of fuel: not an answer

theorem toOption_of_verdict {r : Go.Res PQuery} {o : Option PQuery} (h : verdict r = some o) : r.toOption = o := by
  cases r with
  | ok q => exact Option.some.inj h
  | error e => cases e <;> first | exact Option.some.inj h | cases h

theorem ok_iff_of_verdict {r : Go.Res PQuery} {o : Option PQuery} (h : verdict r = some o) (q : PQuery) :
    r = .ok q ↔ o = some q := by
  cases r with
  | ok q' => exact ⟨fun e => by cases e; exact (Option.some.inj h).symm, fun e => by cases (Option.some.inj h).trans e; rfl⟩
  | error e => exact ⟨nofun, fun e' => by subst e'; cases e <;> cases h⟩

/-- `ParseQuery`, given what the lexer theorem provides: the model's answer, or out of fuel if the fuel is small -/
theorem ParseQuery_of_lex (s : Bytes) (fuel : Nat) (l : Gen.Lexer)
    (hlex : Gen.lex fuel s = .ok l) (hitems : List.Forall₂ ItemTok l.items (lexAll s)) :
    (Gen.ParseQuery fuel s = .error .fuel ∧ ¬ 3 * (lexAll s).length + 2 ≤ fuel) ∨
      verdict (Gen.ParseQuery fuel s) = some (parseQuery s) := by
  unfold Gen.ParseQuery Gen.newParser parseQuery
  simp only [hlex, Go.deferDrain]
  -- the parser `newParser` builds stands in front of everything the lexer sent
  have hstream : Stream { lexer := l, token := Gen.Parser.zero.token, peekCount := Gen.Parser.zero.peekCount } (lexAll s) :=
    ⟨.inl rfl, by simp [Gen.Parser.zero], by simpa [pending, Gen.Parser.zero] using hitems⟩
  refine (parse_agreesR (fuel := fuel) hstream ⟨lexAll_termShape s, lexAll_tokOK s⟩).elim ?_ ?_ ?_
  · exact fun h => .inr (by rw [parseToks_none_iff.mpr h]; rfl)
  · exact fun h => .inl ⟨rfl, h⟩
  · exact fun _ _ h => .inr (by rw [parseToks_iff.mpr h.2]; rfl)

/-! ### `ParseQuery` = the model's `parseQuery` -/

/-- MAIN: with enough fuel the regenerated `ParseQuery` returns exactly what the model's `parseQuery` returns: the same
    query, or an error where the model rejects; it neither panics nor runs out of fuel. -/
theorem ParseQuery_eq (s : Bytes) (fuel : Nat) (h : 3 * s.length + 5 ≤ fuel) :
    verdict (Gen.ParseQuery fuel s) = some (parseQuery s) := by
  obtain ⟨l, hlex, hitems⟩ := lex_eq_lexAll s fuel (by omega)
  have hlen := lexAll_length_le s
  exact (ParseQuery_of_lex s fuel l hlex hitems).resolve_left fun hf => hf.2 (by omega)

/-- the same as an equation between options -/
theorem ParseQuery_toOption (s : Bytes) (fuel : Nat) (h : 3 * s.length + 5 ≤ fuel) :
    (Gen.ParseQuery fuel s).toOption = parseQuery s :=
  toOption_of_verdict (ParseQuery_eq s fuel h)

/-- for EVERY fuel: out of fuel (the translation artefact), or the model's answer — never a wrong answer, never an
    unrecovered panic -/
theorem ParseQuery_fuel_or (s : Bytes) (fuel : Nat) :
    Gen.ParseQuery fuel s = .error .fuel ∨ verdict (Gen.ParseQuery fuel s) = some (parseQuery s) := by
  rcases lex_fuel_or s fuel with hl | ⟨l, hlex, hitems⟩
  · left; simp only [Gen.ParseQuery, Gen.newParser, hl]
  · rw [C09.lexAllR_eq_lexAll] at hitems
    exact (ParseQuery_of_lex s fuel l hlex hitems).imp_left And.left

/-- consequence: the regenerated parser accepts exactly the sentences of the grammar `Updog.Grammar` -/
theorem ParseQuery_sentence (s : Bytes) (fuel : Nat) (h : 3 * s.length + 5 ≤ fuel) (q : PQuery) :
    Gen.ParseQuery fuel s = .ok q ↔ Grammar.Sentence (lexAll s) q :=
  (ok_iff_of_verdict (ParseQuery_eq s fuel h) q).trans parseToks_iff

/-! ### examples: the generated `ParseQuery` run on concrete inputs (kernel evaluation of a small projection) -/

mutual
/-- a flat code of a tree, for comparing results by `decide` (`PExpr` has no `DecidableEq`) -/
def encE : PExpr → List Nat
  | .eq c v ph => [0, c.length] ++ c.map (·.toNat) ++ [v.length] ++ v.map (·.toNat) ++ [ph]
  | .not e => 1 :: encE e
  | .and es => 2 :: es.length :: encL es
  | .or es => 3 :: es.length :: encL es
def encL : List PExpr → List Nat
  | [] => []
  | e :: es => encE e ++ encL es
end

/-- how a call ended: `none` = a query was returned -/
def failed : Go.Res PQuery → Option Go.Err4
  | .ok _ => none
  | .error e => some e

def shown (r : Go.Res PQuery) : Option (List Nat × List Bytes) := r.toOption.map fun q => (encE q.expr, q.groupBy)

/-- `a=$1` -/
example : shown (Gen.ParseQuery 17 [97, 61, 36, 49]) = some ([0, 1, 97, 0, 1], []) := by decide +kernel
/-- `(a="x"|^b=$12)&c="ü";a,b`: precedence by parentheses, NOT, a multi-byte value, GROUP BY -/
example : shown (Gen.ParseQuery 80 [40, 97, 61, 34, 120, 34, 124, 94, 98, 61, 36, 49, 50, 41, 38, 99, 61, 34, 0xC3, 0xBC, 34, 59, 97, 44, 98]) =
    some ([2, 2, 3, 2, 0, 1, 97, 1, 120, 0, 1, 0, 1, 98, 0, 12, 0, 1, 99, 2, 0xC3, 0xBC, 0], [[97], [98]]) := by
  decide +kernel
/-- `a="1";` : dangling `;` is an error -/
example : failed (Gen.ParseQuery 23 [97, 61, 34, 49, 34, 59]) = some .returned := by decide +kernel
/-- `a="1` : unterminated string is an error -/
example : failed (Gen.ParseQuery 20 [97, 61, 34, 49]) = some .returned := by decide +kernel
/-- `a=$2147483648`: placeholder number out of the int32 range is an error -/
example : failed (Gen.ParseQuery 50 [97, 61, 36, 50, 49, 52, 55, 52, 56, 51, 54, 52, 56]) = some .returned := by
  decide +kernel
/-- too little fuel is reported as such -/
example : failed (Gen.ParseQuery 3 [97, 61, 34, 49, 34]) = some .fuel := by decide +kernel

end Updog.GeneratedEq

#print axioms Updog.GeneratedEq.ParseQuery_of_lex
#print axioms Updog.GeneratedEq.ParseQuery_eq
#print axioms Updog.GeneratedEq.ParseQuery_toOption
#print axioms Updog.GeneratedEq.ParseQuery_fuel_or
#print axioms Updog.GeneratedEq.ParseQuery_sentence
