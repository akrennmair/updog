/-
cache.go REGENERATED (`Gen.lruGet`, `Gen.lruPut`, `Gen.newLRUCache`, `Gen.withCacheMetrics`, `Gen.nullCacheGet`,
`Gen.nullCachePut` in Updog/GeneratedFns.lean, written by extract/translate_t2.go on every run) versus the
hand-written model of Updog/Model/Lru.lean.

The generated code works on the Go representation: a `container/list` of `*lruCacheItem` (elements with identities),
a `map[uint64]*list.Element`, `uint64` sizes with wrap-around arithmetic, four optional counters. `abs` maps such a
state to the model's `Lru` (recency list of entries, exact natural numbers); `Inv` is the representation invariant
(element identities unique and older than the allocation counter, keys unique, the map is exactly the index of the
list, `curSize` is the exact account). The theorems: `NewLRUCache` establishes `Inv`, `Get`/`Put` preserve it, and
under it `abs ∘ Gen.lruPut = Lru.put ∘ abs`, `abs ∘ Gen.lruGet = Lru.get ∘ abs` (state and answer). The only
side condition is that the `uint64` account does not overflow during a `Put` (`s.curSize + size + 64 < 2^64`).
The C07 theorems about the model are then transferred to every history run through the generated functions.
-/
import Updog.GeneratedFns
import Updog.Proofs.GoPreludeT2
import Updog.Props.C07
import Updog.Model.Cache

namespace Updog.GeneratedEq
open Updog.Go

/-! ### abstraction -/

/-- per-entry overhead `uint64(lruCacheItemSize) + uint64(listElementSize)` -/
def ovhU : UInt64 := Gen.lruCacheItemSize + Gen.listElementSize

/-- the overhead as a number: 24 + 40 bytes -/
def ovh : Nat := ovhU.toNat

theorem ovh_eq : ovh = 64 := by decide

def absItem (it : Gen.lruCacheItem) : Item := ⟨it.key.toNat, it.size.toNat, it.bm⟩

def absItems (elems : List (Elem × Gen.lruCacheItem)) : List Item := elems.map fun p => absItem p.2

/-- value of a counter: the number of `Inc()` calls it has received (0 for a nil counter) -/
def ctr (c : Counter) : Nat := c.getD 0

/-- the model state a generated state stands for -/
def abs (s : Gen.LRUCache) : Lru :=
  { items := absItems s.lruList.elems, cur := s.curSize.toNat, max := s.maxSize.toNat, ovh := ovh,
    gets := ctr s.metrics.GetCall, puts := ctr s.metrics.PutCall,
    hits := ctr s.metrics.CacheHit, misses := ctr s.metrics.CacheMiss }

/-- answer of `Get` as the model gives it -/
def absRes (r : Ref × Bool) : Option Nat := if r.2 then some r.1 else none

/-- representation invariant of the generated state -/
structure Inv (s : Gen.LRUCache) : Prop where
  /-- element identities are unique -/
  ids : s.lruList.IdsNodup
  /-- … and older than the allocation counter (so `PushFront` creates a new identity) -/
  fresh : ∀ p ∈ s.lruList.elems, p.1 < s.lruList.next
  /-- keys are unique -/
  keys : (s.lruList.elems.map (·.2.key)).Nodup
  /-- a map hit yields an element of the list carrying that key -/
  hit : ∀ k, (GoMap.lookup s.entries k).2 = true →
    ∃ v, ((GoMap.lookup s.entries k).1, v) ∈ s.lruList.elems ∧ v.key = k
  /-- a map miss means no element carries that key -/
  miss : ∀ k, (GoMap.lookup s.entries k).2 = false → ∀ p ∈ s.lruList.elems, p.2.key ≠ k
  /-- `curSize` is the exact account (in particular the account is below 2^64) -/
  acct : s.curSize.toNat = total ovh (absItems s.lruList.elems)

/-- all four counters are set (as cmd/updog's server does) -/
def AllSet (s : Gen.LRUCache) : Prop :=
  s.metrics.GetCall.isSome ∧ s.metrics.PutCall.isSome ∧ s.metrics.CacheHit.isSome ∧ s.metrics.CacheMiss.isSome

/-- the model state without its counters -/
def noCtr (c : Lru) : Lru := { c with gets := 0, puts := 0, hits := 0, misses := 0 }

/-! ### lists: the generated representation versus the model's -/

/-- Instance search reaches `instLawfulBEq` for `UInt64` only after a long detour through the order classes, and the
lemmas about keys below ask for it at every step. -/
local instance : LawfulBEq UInt64 := instLawfulBEq

theorem key_beq (a b : UInt64) : (a.toNat == b.toNat) = (a == b) :=
  Bool.eq_iff_iff.2 (by rw [beq_iff_eq, beq_iff_eq, UInt64.toNat_inj])

section
variable {elems : List (Elem × Gen.lruCacheItem)} {e : Elem} {v : Gen.lruCacheItem}

theorem absItems_nodup (hk : (elems.map (·.2.key)).Nodup) : ((absItems elems).map (·.key)).Nodup := by
  simp only [absItems, List.map_map, List.Nodup, List.pairwise_map] at hk ⊢
  exact hk.imp fun h e' => h (UInt64.toNat_inj.1 e')

theorem find_abs (hk : (elems.map (·.2.key)).Nodup) (hm : (e, v) ∈ elems) :
    (absItems elems).find? (·.key == v.key.toNat) = some (absItem v) :=
  find?_of_nodup_mem (fun x : Item => x.key) (absItems_nodup hk) (List.mem_map.2 ⟨(e, v), hm, rfl⟩)

theorem find_abs_none {k : UInt64} (h : ∀ p ∈ elems, p.2.key ≠ k) :
    (absItems elems).find? (·.key == k.toNat) = none := by
  rw [List.find?_eq_none]
  intro x hx
  obtain ⟨p, hp, rfl⟩ := List.mem_map.1 hx
  show ¬ (p.2.key.toNat == k.toNat) = true
  rw [key_beq, beq_iff_eq]
  exact h p hp

/-- dropping the key from the model list is dropping the element from the generated list: within the list, having the
key of `(e, v)` is having its identity -/
theorem filter_abs (hi : (elems.map (·.1)).Nodup) (hk : (elems.map (·.2.key)).Nodup) (hm : (e, v) ∈ elems) :
    (absItems elems).filter (·.key != v.key.toNat) = absItems (elems.filter (·.1 != e)) := by
  rw [absItems, List.filter_map, absItems]
  congr 1
  apply List.filter_congr
  intro q hq
  show (q.2.key.toNat != v.key.toNat) = (q.1 != e)
  rw [bne, bne, key_beq]
  congr 1
  rw [Bool.eq_iff_iff, beq_iff_eq, beq_iff_eq]
  exact ⟨fun h => congrArg Prod.fst (eq_of_nodup_map (fun p : Elem × Gen.lruCacheItem => p.2.key) hk hq hm h),
    fun h => congrArg (·.2.key) (eq_of_nodup_map (fun p : Elem × Gen.lruCacheItem => p.1) hi hq hm h)⟩

theorem absItems_front (hi : (elems.map (·.1)).Nodup) (hk : (elems.map (·.2.key)).Nodup) (hm : (e, v) ∈ elems)
    (v' : Gen.lruCacheItem) :
    absItems ((e, v') :: elems.filter (·.1 != e)) = absItem v' :: (absItems elems).filter (·.key != v.key.toNat) := by
  rw [filter_abs hi hk hm]; rfl

theorem total_mem_le' {p : Elem × Gen.lruCacheItem} (h : p ∈ elems) :
    p.2.size.toNat + ovh ≤ total ovh (absItems elems) :=
  total_mem_le ovh (absItems elems) (absItem p.2) (List.mem_map.2 ⟨p, h, rfl⟩)

theorem total_front (hk : (elems.map (·.2.key)).Nodup) (hm : (e, v) ∈ elems) :
    total ovh (absItems elems) =
      v.size.toNat + ovh + total ovh ((absItems elems).filter (·.key != v.key.toNat)) :=
  total_move_front ovh (absItems_nodup hk) (find_abs hk hm)

theorem total_dropLast' (hne : elems ≠ []) :
    total ovh (absItems elems) =
      total ovh (absItems elems.dropLast) + ((elems.getLast hne).2.size.toNat + ovh) := by
  rw [total_dropLast ovh (absItems elems) fun h => hne (List.map_eq_nil_iff.1 h)]
  simp only [absItems, List.map_dropLast, List.getLast_map, absItem]

end

theorem absItems_dropLast (elems : List (Elem × Gen.lruCacheItem)) :
    absItems elems.dropLast = (absItems elems).dropLast := List.map_dropLast

theorem Inv.model {s : Gen.LRUCache} (h : Inv s) : (abs s).Inv := ⟨absItems_nodup h.keys, h.acct⟩

/-! ### closed forms of the generated functions -/

theorem lruGet_miss (s : Gen.LRUCache) (k : UInt64) (h : (GoMap.lookup s.entries k).2 = false) :
    Gen.lruGet s k =
      ({ s with metrics := { s.metrics with GetCall := Counter.inc s.metrics.GetCall,
                                            CacheMiss := Counter.inc s.metrics.CacheMiss } }, (nilRef, false)) := by
  obtain ⟨e, l, c, m, ⟨a, b, g, p⟩⟩ := s
  cases b <;> cases g <;> simp_all [Gen.lruGet, Counter.isNil, Counter.inc]

theorem lruGet_hit (s : Gen.LRUCache) (k : UInt64) (h : (GoMap.lookup s.entries k).2 = true) :
    Gen.lruGet s k =
      ({ s with metrics := { s.metrics with GetCall := Counter.inc s.metrics.GetCall,
                                            CacheHit := Counter.inc s.metrics.CacheHit },
                lruList := LList.moveToFront s.lruList (GoMap.lookup s.entries k).1 },
       ((LList.value (LList.moveToFront s.lruList (GoMap.lookup s.entries k).1) (GoMap.lookup s.entries k).1).bm,
        true)) := by
  obtain ⟨e, l, c, m, ⟨a, b, g, p⟩⟩ := s
  cases a <;> cases g <;> simp_all [Gen.lruGet, Counter.isNil, Counter.inc]

/-- the state `Gen.lruPut` hands to its eviction loop -/
def putPre (sz : Ref → UInt64) (s : Gen.LRUCache) (k : UInt64) (bm : Ref) : Gen.LRUCache :=
  let m : Gen.CacheMetrics := { s.metrics with PutCall := Counter.inc s.metrics.PutCall }
  let e := (GoMap.lookup s.entries k).1
  if (GoMap.lookup s.entries k).2 then
    let l1 := LList.moveToFront s.lruList e
    let it := LList.value l1 e
    { s with metrics := m,
             lruList := LList.setValue (LList.setValue l1 e { it with bm := bm }) e { it with bm := bm, size := sz bm },
             curSize := s.curSize - it.size + sz bm }
  else
    let item : Gen.lruCacheItem := { key := k, size := sz bm, bm := bm }
    { s with metrics := m,
             lruList := (LList.pushFront s.lruList item).1,
             entries := GoMap.insert s.entries k (LList.pushFront s.lruList item).2,
             curSize := s.curSize + (sz bm + ovhU) }

/-- `Gen.lruPut` = bump the put counter, overwrite or insert, then run the eviction loop with the list length as
fuel. (The `simp` set contains associativity of `+`, so naming the overhead `a + b` in the Go code is harmless.) -/
theorem lruPut_closed (sz : Ref → UInt64) (s : Gen.LRUCache) (k : UInt64) (bm : Ref) :
    Gen.lruPut sz s k bm =
      Gen.lruPut_for1 (LList.len (putPre sz s k bm).lruList).toNat (putPre sz s k bm) := by
  obtain ⟨e, l, c, m, ⟨a, b, g, p⟩⟩ := s
  cases h : (GoMap.lookup e k).2 <;> cases p <;>
    simp [Gen.lruPut, putPre, ovhU, Counter.isNil, Counter.inc, h, UInt64.add_assoc]

theorem for1_body_closed (c : Gen.LRUCache) :
    Gen.lruPut_for1_body c =
      { c with lruList := (LList.remove c.lruList (LList.back c.lruList)).1,
               curSize := c.curSize - ((LList.remove c.lruList (LList.back c.lruList)).2.size + ovhU),
               entries := GoMap.delete c.entries (LList.remove c.lruList (LList.back c.lruList)).2.key } := by
  simp [Gen.lruPut_for1_body, ovhU, UInt64.add_assoc]

theorem for1_cond_iff (c : Gen.LRUCache) :
    Gen.lruPut_for1_cond c = true ↔ c.curSize.toNat > c.maxSize.toNat ∧ c.lruList.elems ≠ [] := by
  have hl := LList.len_pos_iff c.lruList
  simp only [decide_eq_true_eq, gt_iff_lt] at hl
  simp only [Gen.lruPut_for1_cond, Bool.and_eq_true, decide_eq_true_eq, gt_iff_lt, UInt64.lt_iff_toNat_lt, hl]

/-! ### the three updates of the list and the map

cache.go changes the list and the map in three ways only. Each lemma is about a target state `s'` given by the equations
of its fields, so that the callers discharge them by `rfl` on their own record terms. -/

theorem toNat_add_of_lt {a b : UInt64} (h : a.toNat + b.toNat < 2 ^ 64) : (a + b).toNat = a.toNat + b.toNat := by
  rw [UInt64.toNat_add, Nat.mod_eq_of_lt h]

section
variable {s s' : Gen.LRUCache} (hI : Inv s)
include hI

/-- *front*: a member `(e, v)` moves to the front, possibly with a new bitmap and size under the same key (`Get` hit,
`Put` of a resident key); the map is untouched -/
theorem Inv.front {e : Elem} {v v' : Gen.lruCacheItem}
    (hm : (e, v) ∈ s.lruList.elems) (hk : v'.key = v.key)
    (hl : s'.lruList = { s.lruList with elems := (e, v') :: s.lruList.elems.filter (·.1 != e) })
    (he : s'.entries = s.entries)
    (hc : s'.curSize.toNat + v.size.toNat = s.curSize.toNat + v'.size.toNat) : Inv s' := by
  have hrest := LList.filter_ne_not_mem s.lruList.elems e
  have hmem : ∀ p ∈ s'.lruList.elems, p = (e, v') ∨ p ∈ s.lruList.elems ∧ p.1 ≠ e := by
    intro p hp
    rw [hl] at hp
    rcases List.mem_cons.1 hp with hp | hp
    · exact Or.inl hp
    · exact Or.inr ⟨(List.mem_filter.1 hp).1, hrest p hp⟩
  refine ⟨?_, ?_, ?_, ?_, ?_, ?_⟩
  · rw [LList.IdsNodup, hl, List.map_cons, List.nodup_cons]
    refine ⟨?_, List.Nodup.sublist ((List.filter_sublist (l := s.lruList.elems)).map _) hI.ids⟩
    intro h
    obtain ⟨q, hq, hqe⟩ := List.mem_map.1 h
    exact hrest q hq hqe
  · intro p hp
    rw [hl]
    rcases hmem p hp with rfl | h
    · exact hI.fresh (e, v) hm
    · exact hI.fresh p h.1
  · rw [hl, List.map_cons, List.nodup_cons]
    refine ⟨?_, List.Nodup.sublist ((List.filter_sublist (l := s.lruList.elems)).map _) hI.keys⟩
    intro h
    obtain ⟨q, hq, hqk⟩ := List.mem_map.1 h
    have : q = (e, v) :=
      eq_of_nodup_map (fun p : Elem × Gen.lruCacheItem => p.2.key) hI.keys (List.mem_filter.1 hq).1 hm (hqk.trans hk)
    exact hrest q hq (by rw [this])
  · intro k' hk'
    rw [he] at hk' ⊢
    obtain ⟨w, hw, hwk⟩ := hI.hit k' hk'
    rw [hl]
    by_cases hee : (GoMap.lookup s.entries k').1 = e
    · have : ((GoMap.lookup s.entries k').1, w) = (e, v) :=
        eq_of_nodup_map (fun p : Elem × Gen.lruCacheItem => p.1) hI.ids hw hm hee
      have hwv : w = v := (Prod.mk.inj this).2
      exact ⟨v', by rw [hee]; exact List.mem_cons_self, by rw [hk, ← hwv, hwk]⟩
    · exact ⟨w, List.mem_cons_of_mem _ (List.mem_filter.2 ⟨hw, bne_iff_ne.2 hee⟩), hwk⟩
  · intro k' hk' p hp
    rw [he] at hk'
    rcases hmem p hp with rfl | h
    · exact hk ▸ hI.miss k' hk' (e, v) hm
    · exact hI.miss k' hk' p h.1
  · have ht := total_front hI.keys hm
    have ha := hI.acct
    rw [hl, absItems_front hI.ids hI.keys hm, total_cons]
    show _ = v'.size.toNat + ovh + _
    omega

/-- *push*: a new element for a key the map misses goes to the front and into the map (`Put` of a new key) -/
theorem Inv.push {item : Gen.lruCacheItem}
    (hmiss : (GoMap.lookup s.entries item.key).2 = false)
    (hl : s'.lruList = { elems := (s.lruList.next, item) :: s.lruList.elems, next := s.lruList.next + 1 })
    (he : s'.entries = GoMap.insert s.entries item.key s.lruList.next)
    (hc : s'.curSize.toNat = s.curSize.toNat + item.size.toNat + ovh) : Inv s' := by
  have hnone := hI.miss _ hmiss
  refine ⟨?_, ?_, ?_, ?_, ?_, ?_⟩
  · rw [LList.IdsNodup, hl, List.map_cons, List.nodup_cons]
    refine ⟨?_, hI.ids⟩
    intro hmem
    obtain ⟨q, hq, hqe⟩ := List.mem_map.1 hmem
    exact Nat.ne_of_lt (hI.fresh q hq) hqe
  · intro p hp
    rw [hl] at hp ⊢
    rcases List.mem_cons.1 hp with rfl | hp
    · exact Nat.lt_succ_self _
    · exact Nat.lt_succ_of_lt (hI.fresh p hp)
  · rw [hl, List.map_cons, List.nodup_cons]
    refine ⟨?_, hI.keys⟩
    intro hmem
    obtain ⟨q, hq, hqk⟩ := List.mem_map.1 hmem
    exact hnone q hq hqk
  · intro k' hk'
    rw [he, hl]
    by_cases hkk : k' = item.key
    · rw [hkk, GoMap.lookup_insert_self]
      exact ⟨item, List.mem_cons_self, rfl⟩
    · rw [he, GoMap.lookup_insert_of_ne _ _ hkk] at hk'
      rw [GoMap.lookup_insert_of_ne _ _ hkk]
      obtain ⟨w, hw, hwk⟩ := hI.hit k' hk'
      exact ⟨w, List.mem_cons_of_mem _ hw, hwk⟩
  · intro k' hk' p hp
    by_cases hkk : k' = item.key
    · rw [he, hkk, GoMap.lookup_insert_self] at hk'; cases hk'
    · rw [he, GoMap.lookup_insert_of_ne _ _ hkk] at hk'
      rw [hl] at hp
      rcases List.mem_cons.1 hp with rfl | hp
      · exact fun h => hkk h.symm
      · exact hI.miss k' hk' p hp
  · have ha := hI.acct
    rw [hl]
    show _ = item.size.toNat + ovh + total ovh (absItems s.lruList.elems)
    omega

/-- *dropLast*: the last element leaves the list and its key leaves the map (one turn of the eviction loop) -/
theorem Inv.dropLast (hne : s.lruList.elems ≠ [])
    (hl : s'.lruList = { s.lruList with elems := s.lruList.elems.dropLast })
    (he : s'.entries = GoMap.delete s.entries (s.lruList.elems.getLast hne).2.key)
    (hc : s'.curSize.toNat + ((s.lruList.elems.getLast hne).2.size.toNat + ovh) = s.curSize.toNat) :
    Inv s' := by
  have hsplit := List.dropLast_concat_getLast hne
  have hsub : ∀ p ∈ s.lruList.elems.dropLast, p ∈ s.lruList.elems :=
    fun p hp => (List.dropLast_sublist _).subset hp
  -- the keys of the remaining elements differ from the key of the last one
  have hdis : ∀ p ∈ s.lruList.elems.dropLast, p.2.key ≠ (s.lruList.elems.getLast hne).2.key := by
    have hkeys := hI.keys
    rw [← hsplit, List.map_append, List.nodup_append] at hkeys
    exact fun p hp => hkeys.2.2 p.2.key (List.mem_map_of_mem hp) _ List.mem_cons_self
  refine ⟨?_, ?_, ?_, ?_, ?_, ?_⟩
  · rw [hl]; exact LList.dropLast_idsNodup hI.ids
  · intro p hp
    rw [hl] at hp ⊢
    exact hI.fresh p (hsub p hp)
  · rw [hl]; exact List.Nodup.sublist ((List.dropLast_sublist _).map _) hI.keys
  · intro k' hk'
    by_cases hkk : k' = (s.lruList.elems.getLast hne).2.key
    · rw [he, hkk, GoMap.lookup_delete_self] at hk'; cases hk'
    · rw [he, GoMap.lookup_delete_of_ne _ hkk] at hk' ⊢
      obtain ⟨w, hw, hwk⟩ := hI.hit k' hk'
      refine ⟨w, ?_, hwk⟩
      rw [hl]
      rw [← hsplit] at hw
      rcases List.mem_append.1 hw with hw | hw
      · exact hw
      · exact absurd (by rw [← List.mem_singleton.1 hw]; exact hwk.symm) hkk
  · intro k' hk' p hp
    rw [hl] at hp
    by_cases hkk : k' = (s.lruList.elems.getLast hne).2.key
    · rw [hkk]; exact hdis p hp
    · rw [he, GoMap.lookup_delete_of_ne _ hkk] at hk'
      exact hI.miss k' hk' p (hsub p hp)
  · have ht := total_dropLast' (elems := s.lruList.elems) hne
    have ha := hI.acct
    rw [hl]
    show _ = total ovh (absItems s.lruList.elems.dropLast)
    omega

end

/-! ### Get -/

/-- `Gen.lruGet` keeps the invariant and does what the model's `Lru.get` does, for any configuration of the counters -/
theorem lruGet_sim (s : Gen.LRUCache) (k : UInt64) (hI : Inv s) :
    Inv (Gen.lruGet s k).1 ∧
    abs (Gen.lruGet s k).1 = { ((abs s).get k.toNat).1 with
      gets := ctr (Counter.inc s.metrics.GetCall),
      hits := ctr (if (GoMap.lookup s.entries k).2 then Counter.inc s.metrics.CacheHit else s.metrics.CacheHit),
      misses := ctr (if (GoMap.lookup s.entries k).2 then s.metrics.CacheMiss else Counter.inc s.metrics.CacheMiss) } ∧
    absRes (Gen.lruGet s k).2 = ((abs s).get k.toNat).2 := by
  cases h : (GoMap.lookup s.entries k).2 with
  | false =>
    rw [lruGet_miss s k h, get_miss (abs s) k.toNat (find_abs_none (hI.miss k h))]
    exact ⟨⟨hI.ids, hI.fresh, hI.keys, hI.hit, hI.miss, hI.acct⟩, rfl, rfl⟩
  | true =>
    obtain ⟨v, hm, rfl⟩ := hI.hit k h
    rw [lruGet_hit s v.key h, get_hit (abs s) v.key.toNat (absItem v) (find_abs hI.keys hm),
      LList.moveToFront_of_mem hI.ids hm, LList.value_head]
    refine ⟨hI.front hm rfl rfl rfl rfl, ?_, rfl⟩
    exact congrArg (fun i => ({ abs s with items := i, gets := _, hits := _, misses := _ } : Lru))
      (absItems_front hI.ids hI.keys hm v)

/-- what `Gen.lruGet` does, in terms of the model, for any configuration of the counters -/
theorem lruGet_abs_gen (s : Gen.LRUCache) (k : UInt64) (hI : Inv s) :
    abs (Gen.lruGet s k).1 = { ((abs s).get k.toNat).1 with
      gets := ctr (Counter.inc s.metrics.GetCall),
      hits := ctr (if (GoMap.lookup s.entries k).2 then Counter.inc s.metrics.CacheHit else s.metrics.CacheHit),
      misses := ctr (if (GoMap.lookup s.entries k).2 then s.metrics.CacheMiss else Counter.inc s.metrics.CacheMiss) } ∧
    absRes (Gen.lruGet s k).2 = ((abs s).get k.toNat).2 :=
  (lruGet_sim s k hI).2

theorem lruGet_inv (s : Gen.LRUCache) (k : UInt64) (hI : Inv s) : Inv (Gen.lruGet s k).1 :=
  (lruGet_sim s k hI).1

/-! ### Put: the state before the eviction loop -/

/-- the model state of a generated state whose list is known: the account follows from the invariant -/
theorem abs_of_items {s : Gen.LRUCache} (hI : Inv s) {items : List Item} (h : absItems s.lruList.elems = items) :
    abs s = { abs s with items := items, cur := total ovh items } := by
  subst h
  exact congrArg (fun c => ({ abs s with cur := c } : Lru)) hI.acct

/-- `putPre` in terms of the model, in both cases: the put counter bumped, `putList` built and accounted exactly; the
`uint64` account does not wrap -/
theorem putPre_spec (sz : Ref → UInt64) (s : Gen.LRUCache) (k : UInt64) (bm : Ref) (hI : Inv s)
    (hno : s.curSize.toNat + (sz bm).toNat + ovh < 2 ^ 64) :
    Inv (putPre sz s k bm) ∧
    abs (putPre sz s k bm) =
      { abs s with puts := ctr (Counter.inc s.metrics.PutCall), items := putList (abs s) k.toNat bm (sz bm).toNat,
                   cur := total ovh (putList (abs s) k.toNat bm (sz bm).toNat) } := by
  cases h : (GoMap.lookup s.entries k).2 with
  | true =>
    obtain ⟨v, hm, rfl⟩ := hI.hit k h
    have hrest := LList.filter_ne_not_mem s.lruList.elems (GoMap.lookup s.entries v.key).1
    have hpre : putPre sz s v.key bm =
        { s with metrics := { s.metrics with PutCall := Counter.inc s.metrics.PutCall },
                 lruList := { s.lruList with elems := ((GoMap.lookup s.entries v.key).1, { v with bm := bm, size := sz bm }) ::
                                s.lruList.elems.filter (·.1 != (GoMap.lookup s.entries v.key).1) },
                 curSize := s.curSize - v.size + sz bm } := by
      simp only [putPre, h, if_true, LList.moveToFront_of_mem hI.ids hm, LList.value_head]
      rw [LList.setValue_head _ _ _ _ _ hrest, LList.setValue_head _ _ _ _ _ hrest]
    have hle : v.size.toNat ≤ s.curSize.toNat := by
      have := total_mem_le' hm
      rw [← hI.acct] at this
      exact Nat.le_trans (Nat.le_add_right _ _) this
    have hcur : (s.curSize - v.size + sz bm).toNat + v.size.toNat = s.curSize.toNat + (sz bm).toNat := by
      have hsub := UInt64.toNat_sub_of_le _ _ (UInt64.le_iff_toNat_le.2 hle)
      rw [toNat_add_of_lt (by
          rw [hsub]
          exact Nat.lt_of_le_of_lt (Nat.le_trans (Nat.add_le_add_right (Nat.sub_le _ _) _) (Nat.le_add_right _ _)) hno),
        hsub, Nat.add_right_comm, Nat.sub_add_cancel hle]
    rw [hpre]
    exact (and_iff_left_of_imp fun hI' => abs_of_items hI' (absItems_front hI.ids hI.keys hm _)).2
      (hI.front (v' := { v with bm := bm, size := sz bm }) hm rfl rfl rfl hcur)
  | false =>
    have hpre : putPre sz s k bm =
        { s with metrics := { s.metrics with PutCall := Counter.inc s.metrics.PutCall },
                 lruList := { elems := (s.lruList.next, ({ key := k, size := sz bm, bm := bm } : Gen.lruCacheItem)) ::
                                s.lruList.elems, next := s.lruList.next + 1 },
                 entries := GoMap.insert s.entries k s.lruList.next,
                 curSize := s.curSize + (sz bm + ovhU) } := by
      simp [putPre, h, LList.pushFront]
    have hcur : (s.curSize + (sz bm + ovhU)).toNat = s.curSize.toNat + (sz bm).toNat + ovh := by
      have h1 : (sz bm + ovhU).toNat = (sz bm).toNat + ovh :=
        toNat_add_of_lt (Nat.lt_of_le_of_lt (Nat.add_le_add_right (Nat.le_add_left _ _) _) hno)
      rw [toNat_add_of_lt (by rw [h1, ← Nat.add_assoc]; exact hno), h1, Nat.add_assoc]
    rw [hpre]
    refine (and_iff_left_of_imp fun hI' => abs_of_items hI' ?_).2
      (hI.push (item := { key := k, size := sz bm, bm := bm }) h rfl rfl hcur)
    show absItem _ :: absItems s.lruList.elems = _ :: (absItems s.lruList.elems).filter _
    rw [filter_of_find_none (find_abs_none (hI.miss k h))]
    rfl

/-! ### the eviction loop -/

/-- one iteration of the loop: the least recently used element goes, with its map entry and its account -/
theorem for1_body_spec (c : Gen.LRUCache) (hI : Inv c) (hne : c.lruList.elems ≠ []) :
    Inv (Gen.lruPut_for1_body c) ∧
    (Gen.lruPut_for1_body c).lruList.elems = c.lruList.elems.dropLast ∧
    (Gen.lruPut_for1_body c).curSize.toNat =
      c.curSize.toNat - ((c.lruList.elems.getLast hne).2.size.toNat + ovh) ∧
    (Gen.lruPut_for1_body c).maxSize = c.maxSize ∧ (Gen.lruPut_for1_body c).metrics = c.metrics := by
  have hle : (c.lruList.elems.getLast hne).2.size.toNat + ovh ≤ c.curSize.toNat :=
    hI.acct ▸ total_mem_le' (List.getLast_mem hne)
  have hadd : ((c.lruList.elems.getLast hne).2.size + ovhU).toNat = (c.lruList.elems.getLast hne).2.size.toNat + ovh :=
    toNat_add_of_lt (Nat.lt_of_le_of_lt hle (UInt64.toNat_lt _))
  have hcur : (c.curSize - ((c.lruList.elems.getLast hne).2.size + ovhU)).toNat +
      ((c.lruList.elems.getLast hne).2.size.toNat + ovh) = c.curSize.toNat := by
    rw [UInt64.toNat_sub_of_le _ _ (UInt64.le_iff_toNat_le.2 (by rw [hadd]; exact hle)), hadd]
    exact Nat.sub_add_cancel hle
  rw [for1_body_closed, LList.remove_back hI.ids hne]
  exact ⟨hI.dropLast hne rfl rfl hcur, rfl, Nat.eq_sub_of_add_eq hcur, rfl, rfl⟩

theorem for1_frame (n : Nat) (c : Gen.LRUCache) :
    (Gen.lruPut_for1 n c).metrics = c.metrics ∧ (Gen.lruPut_for1 n c).maxSize = c.maxSize := by
  induction n generalizing c with
  | zero => exact ⟨rfl, rfl⟩
  | succ n ih =>
    rw [Gen.lruPut_for1]
    split
    · rw [(ih _).1, (ih _).2, for1_body_closed]; exact ⟨rfl, rfl⟩
    · exact ⟨rfl, rfl⟩

/-- the generated loop, given at least as much fuel as the list is long, is the model's `evict`; it keeps the
invariant, and it stops because its condition is false (the fuel is never what ends it) -/
theorem for1_spec (n : Nat) (c : Gen.LRUCache) (hI : Inv c) (hn : c.lruList.elems.length ≤ n) :
    Inv (Gen.lruPut_for1 n c) ∧
    absItems (Gen.lruPut_for1 n c).lruList.elems =
      (evict ovh c.maxSize.toNat (absItems c.lruList.elems) c.curSize.toNat).1 ∧
    (Gen.lruPut_for1 n c).curSize.toNat =
      (evict ovh c.maxSize.toNat (absItems c.lruList.elems) c.curSize.toNat).2 ∧
    (Gen.lruPut_for1 n c).maxSize = c.maxSize ∧ (Gen.lruPut_for1 n c).metrics = c.metrics ∧
    Gen.lruPut_for1_cond (Gen.lruPut_for1 n c) = false := by
  induction n generalizing c with
  | zero =>
    have hnil : c.lruList.elems = [] := List.eq_nil_of_length_eq_zero (Nat.le_zero.1 hn)
    have hcond : Gen.lruPut_for1_cond c = false :=
      Bool.eq_false_iff.2 fun hc => ((for1_cond_iff c).1 hc).2 hnil
    rw [evict_stop _ _ _ _ (fun h => h.2 (by rw [hnil]; rfl))]
    exact ⟨hI, rfl, rfl, rfl, rfl, hcond⟩
  | succ n ih =>
    cases hc : Gen.lruPut_for1_cond c with
    | false =>
      have hstop : ¬ (c.curSize.toNat > c.maxSize.toNat ∧ absItems c.lruList.elems ≠ []) := fun h =>
        Bool.eq_false_iff.1 hc ((for1_cond_iff c).2 ⟨h.1, fun e => h.2 (by rw [e]; rfl)⟩)
      rw [Gen.lruPut_for1, hc, evict_stop _ _ _ _ hstop]
      exact ⟨hI, rfl, rfl, rfl, rfl, hc⟩
    | true =>
      obtain ⟨hgt, hne⟩ := (for1_cond_iff c).1 hc
      obtain ⟨hI', hel, hcur, hmax, hmet⟩ := for1_body_spec c hI hne
      have hne' : absItems c.lruList.elems ≠ [] := fun h => hne (List.map_eq_nil_iff.1 h)
      obtain ⟨i1, i2, i3, i4, i5, i6⟩ := ih (Gen.lruPut_for1_body c) hI' (by rw [hel, List.length_dropLast]; omega)
      have hlast : ((absItems c.lruList.elems).getLast hne').size = (c.lruList.elems.getLast hne).2.size.toNat := by
        simp only [absItems, List.getLast_map, absItem]
      rw [Gen.lruPut_for1, hc, if_pos rfl, evict_step _ _ _ _ ⟨hgt, hne'⟩, hlast, ← hcur, ← hmax]
      rw [hel, absItems_dropLast] at i2 i3
      exact ⟨i1, i2, i3, i4.trans hmax, i5.trans hmet, i6⟩

/-- The fuel the translator hands to the loop (the length of the list) always suffices: the loop of `Gen.lruPut`
ends because its condition is false. -/
theorem lruPut_loop_exits (sz : Ref → UInt64) (s : Gen.LRUCache) (k : UInt64) (bm : Ref) (hI : Inv s)
    (hno : s.curSize.toNat + (sz bm).toNat + ovh < 2 ^ 64) :
    Gen.lruPut_for1_cond (Gen.lruPut sz s k bm) = false := by
  rw [lruPut_closed]
  exact (for1_spec _ _ (putPre_spec sz s k bm hI hno).1 (Nat.le_refl _)).2.2.2.2.2

/-! ### Put -/

/-- what `Gen.lruPut` does, in terms of the model, for any configuration of the counters -/
theorem lruPut_abs_gen (sz : Ref → UInt64) (s : Gen.LRUCache) (k : UInt64) (bm : Ref) (hI : Inv s)
    (hno : s.curSize.toNat + (sz bm).toNat + ovh < 2 ^ 64) :
    abs (Gen.lruPut sz s k bm) =
      { (abs s).put k.toNat bm (sz bm).toNat with puts := ctr (Counter.inc s.metrics.PutCall) } ∧
    Inv (Gen.lruPut sz s k bm) := by
  obtain ⟨hp, habs⟩ := putPre_spec sz s k bm hI hno
  obtain ⟨i1, i2, i3, i4, i5, _⟩ := for1_spec (LList.len (putPre sz s k bm).lruList).toNat _ hp (Nat.le_refl _)
  rw [lruPut_closed]
  refine ⟨?_, i1⟩
  rw [put_eq (abs s) k.toNat bm (sz bm).toNat hI.model]
  show ({ items := absItems _, cur := _, max := _, ovh := ovh, gets := _, puts := _, hits := _, misses := _ } : Lru) = _
  rw [i2, i3, i4, i5]
  exact congrArg
    (fun c : Lru => ({ c with items := (evict ovh c.max c.items c.cur).1, cur := (evict ovh c.max c.items c.cur).2 } : Lru))
    habs

/-! ### the equalities with the model -/

theorem ctr_inc_of_isSome {c : Counter} (h : c.isSome) : ctr (Counter.inc c) = ctr c + 1 := by
  cases c with
  | none => cases h
  | some n => rfl

/-- **`Gen.lruPut` is the model's `Lru.put`** (all counters set, as the server does) -/
theorem lruPut_abs (sz : Ref → UInt64) (s : Gen.LRUCache) (k : UInt64) (bm : Ref) (hI : Inv s) (hA : AllSet s)
    (hno : s.curSize.toNat + (sz bm).toNat + ovh < 2 ^ 64) :
    abs (Gen.lruPut sz s k bm) = (abs s).put k.toNat bm (sz bm).toNat := by
  rw [(lruPut_abs_gen sz s k bm hI hno).1, ctr_inc_of_isSome hA.2.1]
  have := (put_fields (abs s) k.toNat bm (sz bm).toNat).2.2.2.1
  show ({ (abs s).put k.toNat bm (sz bm).toNat with puts := (abs s).puts + 1 } : Lru) = _
  rw [← this]

/-- … and whatever counters are nil, everything but the counters is the model's `Lru.put` -/
theorem lruPut_abs_noCtr (sz : Ref → UInt64) (s : Gen.LRUCache) (k : UInt64) (bm : Ref) (hI : Inv s)
    (hno : s.curSize.toNat + (sz bm).toNat + ovh < 2 ^ 64) :
    noCtr (abs (Gen.lruPut sz s k bm)) = noCtr ((abs s).put k.toNat bm (sz bm).toNat) := by
  rw [(lruPut_abs_gen sz s k bm hI hno).1]; rfl

theorem lruPut_inv (sz : Ref → UInt64) (s : Gen.LRUCache) (k : UInt64) (bm : Ref) (hI : Inv s)
    (hno : s.curSize.toNat + (sz bm).toNat + ovh < 2 ^ 64) : Inv (Gen.lruPut sz s k bm) :=
  (lruPut_abs_gen sz s k bm hI hno).2

/-- the counters after `Put`: exactly the put counter has been incremented (if it is not nil); needs no invariant -/
theorem lruPut_metrics (sz : Ref → UInt64) (s : Gen.LRUCache) (k : UInt64) (bm : Ref) :
    (Gen.lruPut sz s k bm).metrics = { s.metrics with PutCall := Counter.inc s.metrics.PutCall } ∧
    (Gen.lruPut sz s k bm).maxSize = s.maxSize := by
  rw [lruPut_closed, (for1_frame _ _).1, (for1_frame _ _).2, putPre]
  split <;> exact ⟨rfl, rfl⟩

/-- **`Gen.lruGet` is the model's `Lru.get`**: new state and answer (all counters set) -/
theorem lruGet_abs (s : Gen.LRUCache) (k : UInt64) (hI : Inv s) (hA : AllSet s) :
    abs (Gen.lruGet s k).1 = ((abs s).get k.toNat).1 ∧ absRes (Gen.lruGet s k).2 = ((abs s).get k.toNat).2 := by
  obtain ⟨h1, h2⟩ := lruGet_abs_gen s k hI
  refine ⟨?_, h2⟩
  rw [h1]
  -- with every counter set, `ctr ∘ inc` is `+ 1`, which is what the model does to the same counters
  cases h : (GoMap.lookup s.entries k).2 with
  | false =>
    rw [get_miss (abs s) k.toNat (find_abs_none (hI.miss k h)), if_neg Bool.false_ne_true, if_neg Bool.false_ne_true,
      ctr_inc_of_isSome hA.1, ctr_inc_of_isSome hA.2.2.2]
    rfl
  | true =>
    obtain ⟨v, hm, rfl⟩ := hI.hit k h
    rw [get_hit (abs s) v.key.toNat (absItem v) (find_abs hI.keys hm), if_pos rfl, if_pos rfl,
      ctr_inc_of_isSome hA.1, ctr_inc_of_isSome hA.2.2.1]
    rfl

/-- … and whatever counters are nil, everything but the counters is the model's `Lru.get` -/
theorem lruGet_abs_noCtr (s : Gen.LRUCache) (k : UInt64) (hI : Inv s) :
    noCtr (abs (Gen.lruGet s k).1) = noCtr ((abs s).get k.toNat).1 := by
  rw [(lruGet_abs_gen s k hI).1]; rfl

/-- the counters after `Get`: `GetCall` and, depending on the outcome, `CacheHit` or `CacheMiss` have been
incremented, each only if it is not nil and independently of the others; needs no invariant -/
theorem lruGet_metrics (s : Gen.LRUCache) (k : UInt64) :
    (Gen.lruGet s k).1.metrics =
      { s.metrics with
        GetCall := Counter.inc s.metrics.GetCall,
        CacheHit := if (Gen.lruGet s k).2.2 then Counter.inc s.metrics.CacheHit else s.metrics.CacheHit,
        CacheMiss := if (Gen.lruGet s k).2.2 then s.metrics.CacheMiss else Counter.inc s.metrics.CacheMiss } ∧
    (Gen.lruGet s k).1.maxSize = s.maxSize ∧ (Gen.lruGet s k).1.curSize = s.curSize ∧
    (Gen.lruGet s k).1.entries = s.entries := by
  cases h : (GoMap.lookup s.entries k).2 with
  | false => rw [lruGet_miss s k h]; exact ⟨rfl, rfl, rfl, rfl⟩
  | true => rw [lruGet_hit s k h]; exact ⟨rfl, rfl, rfl, rfl⟩

/-- `Inc()` never makes a counter nil or non-nil, so both operations keep the set of configured counters -/
theorem lruGet_allSet (s : Gen.LRUCache) (k : UInt64) : AllSet (Gen.lruGet s k).1 ↔ AllSet s := by
  rw [AllSet, (lruGet_metrics s k).1, AllSet]
  cases (Gen.lruGet s k).2.2 <;> simp only [if_true, if_false, Bool.false_eq_true, Counter.isSome_inc]

theorem lruPut_allSet (sz : Ref → UInt64) (s : Gen.LRUCache) (k : UInt64) (bm : Ref) :
    AllSet (Gen.lruPut sz s k bm) ↔ AllSet s := by
  rw [AllSet, (lruPut_metrics sz s k bm).1, AllSet, Counter.isSome_inc]

/-! ### the `Cache` implementations of Updog/Model/Cache.lean -/

/-- `Gen.lruPut` / `Gen.lruGet` are the `put` / `get` of the model's `lruCacheImpl` -/
theorem lruPut_impl (sz : Ref → UInt64) (s : Gen.LRUCache) (k : UInt64) (bm : Ref) (hI : Inv s) (hA : AllSet s)
    (hno : s.curSize.toNat + (sz bm).toNat + ovh < 2 ^ 64) :
    abs (Gen.lruPut sz s k bm) = (lruCacheImpl fun b => (sz b).toNat).put (abs s) k bm :=
  lruPut_abs sz s k bm hI hA hno

theorem lruGet_impl (sz : Nat → Nat) (s : Gen.LRUCache) (k : UInt64) (hI : Inv s) (hA : AllSet s) :
    (abs (Gen.lruGet s k).1, absRes (Gen.lruGet s k).2) = (lruCacheImpl sz).get (abs s) k :=
  Prod.ext (lruGet_abs s k hI hA).1 (lruGet_abs s k hI hA).2

/-- `nullCache`: `Get` always misses, `Put` does nothing -/
theorem nullCacheGet_eq (k : UInt64) :
    Gen.nullCacheGet k = (nilRef, false) ∧ absRes (Gen.nullCacheGet k) = (nullCacheImpl.get () k).2 := ⟨rfl, rfl⟩

theorem nullCachePut_eq (k : UInt64) (bm : Ref) : Gen.nullCachePut k bm = nullCacheImpl.put () k bm := rfl

/-! ### `NewLRUCache` -/

/-- an empty cache with the given bound and counters -/
def base (max : UInt64) (m : Gen.CacheMetrics) : Gen.LRUCache :=
  { entries := GoMap.empty, lruList := LList.new, curSize := 0, maxSize := max, metrics := m }

/-- `&CacheMetrics{}`: no counters -/
def nilMetrics : Gen.CacheMetrics := { CacheHit := none, CacheMiss := none, GetCall := none, PutCall := none }

/-- four fresh counters -/
def zeroMetrics : Gen.CacheMetrics := { CacheHit := some 0, CacheMiss := some 0, GetCall := some 0, PutCall := some 0 }

theorem withCacheMetrics_eq (m : Gen.CacheMetrics) (c : Gen.LRUCache) :
    Gen.withCacheMetrics m c = { c with metrics := m } := rfl

/-- `NewLRUCache(max, WithCacheMetrics(m₁), …, WithCacheMetrics(mₙ))` is the empty cache with the last `mᵢ`
(no counters if there is no option) -/
theorem newLRUCache_eq (max : UInt64) (ms : List Gen.CacheMetrics) :
    Gen.newLRUCache max (ms.map Gen.withCacheMetrics) = base max (ms.getLast?.getD nilMetrics) := by
  have h : ∀ (ms : List Gen.CacheMetrics) (m0 : Gen.CacheMetrics),
      List.foldl (fun (cache : Gen.LRUCache) (o : Gen.LRUCache → Gen.LRUCache) => o cache) (base max m0)
        (ms.map Gen.withCacheMetrics) = base max (ms.getLast?.getD m0) := by
    intro ms
    induction ms with
    | nil => intro m0; rfl
    | cons m t ih =>
      intro m0
      rw [List.map_cons, List.foldl_cons]
      have : Gen.withCacheMetrics m (base max m0) = base max m := rfl
      rw [this, ih m]
      cases t with
      | nil => rfl
      | cons a t' =>
        rw [List.getLast?_cons_cons, List.getLast?_eq_some_getLast (List.cons_ne_nil a t')]
        rfl
  exact h ms nilMetrics

theorem base_inv (max : UInt64) (m : Gen.CacheMetrics) : Inv (base max m) :=
  ⟨List.nodup_nil, fun _ h => (List.not_mem_nil h).elim, List.nodup_nil, fun _ h => Bool.noConfusion h,
    fun _ _ _ h => (List.not_mem_nil h).elim, rfl⟩

theorem abs_base (max : UInt64) (m : Gen.CacheMetrics) :
    abs (base max m) = { Lru.empty max.toNat ovh with gets := ctr m.GetCall, puts := ctr m.PutCall,
                                                      hits := ctr m.CacheHit, misses := ctr m.CacheMiss } := rfl

/-- the cache `NewLRUCache(max, WithCacheMetrics(m))` with four fresh counters -/
def newCache (max : UInt64) : Gen.LRUCache := Gen.newLRUCache max [Gen.withCacheMetrics zeroMetrics]

theorem newCache_eq (max : UInt64) : newCache max = base max zeroMetrics := newLRUCache_eq max [zeroMetrics]

/-- **`NewLRUCache` establishes the invariant and is the model's empty cache** (no option, or fresh counters) -/
theorem newLRUCache_abs (max : UInt64) :
    Inv (Gen.newLRUCache max []) ∧ abs (Gen.newLRUCache max []) = Lru.empty max.toNat ovh ∧
    Inv (Gen.newLRUCache max [Gen.withCacheMetrics zeroMetrics]) ∧
    AllSet (Gen.newLRUCache max [Gen.withCacheMetrics zeroMetrics]) ∧
    abs (Gen.newLRUCache max [Gen.withCacheMetrics zeroMetrics]) = Lru.empty max.toNat ovh := by
  rw [show Gen.newLRUCache max [] = base max nilMetrics from newLRUCache_eq max [],
    show Gen.newLRUCache max [Gen.withCacheMetrics zeroMetrics] = base max zeroMetrics from newCache_eq max]
  exact ⟨base_inv _ _, rfl, base_inv _ _, ⟨rfl, rfl, rfl, rfl⟩, rfl⟩

theorem newLRUCache_inv (max : UInt64) (ms : List Gen.CacheMetrics) :
    Inv (Gen.newLRUCache max (ms.map Gen.withCacheMetrics)) := by
  rw [newLRUCache_eq]; exact base_inv _ _

/-! ### histories run through the generated functions -/

/-- an operation on the generated cache -/
inductive GOp where
  | get (k : UInt64)
  | put (k : UInt64) (bm : Ref)

/-- the model operation it stands for (`sz` is `GetSizeInBytes`) -/
def absOp (sz : Ref → UInt64) : GOp → LruOp
  | .get k => .get k.toNat
  | .put k bm => .put k.toNat bm (sz bm).toNat

/-- one call of the generated `Get` / `Put`; the output is the `Get` answer -/
def genStep (sz : Ref → UInt64) (s : Gen.LRUCache) : GOp → Gen.LRUCache × Option Nat
  | .get k => ((Gen.lruGet s k).1, absRes (Gen.lruGet s k).2)
  | .put k bm => (Gen.lruPut sz s k bm, none)

def genRun (sz : Ref → UInt64) (s : Gen.LRUCache) : List GOp → Gen.LRUCache × List (Option Nat)
  | [] => (s, [])
  | op :: ops => ((genRun sz (genStep sz s op).1 ops).1, (genStep sz s op).2 :: (genRun sz (genStep sz s op).1 ops).2)

/-- the `uint64` account cannot overflow while this operation runs on a cache that respects its bound -/
def Fits (sz : Ref → UInt64) (max : UInt64) : GOp → Prop
  | .get _ => True
  | .put _ bm => max.toNat + (sz bm).toNat + ovh < 2 ^ 64

theorem cur_le_of_bounded {s : Gen.LRUCache} (hI : Inv s) (hB : (abs s).Bounded) : s.curSize.toNat ≤ s.maxSize.toNat := by
  rw [hI.acct]
  rcases hB with h | h
  · exact h
  · rw [show absItems s.lruList.elems = [] from h]; exact Nat.zero_le _

/-- one generated step is one model step (invariant, counters set, bound, no overflow) -/
theorem genStep_abs (sz : Ref → UInt64) (s : Gen.LRUCache) (op : GOp) (hI : Inv s) (hA : AllSet s)
    (hB : (abs s).Bounded) (hF : Fits sz s.maxSize op) :
    abs (genStep sz s op).1 = ((abs s).step (absOp sz op)).1 ∧ (genStep sz s op).2 = ((abs s).step (absOp sz op)).2 ∧
    Inv (genStep sz s op).1 ∧ AllSet (genStep sz s op).1 ∧ (abs (genStep sz s op).1).Bounded ∧
    (genStep sz s op).1.maxSize = s.maxSize := by
  have hB' := step_bounded (abs s) (absOp sz op) hI.model hB
  -- unfold the step functions first: left to the unifier, `Gen.lruPut` would be unfolded instead
  cases op <;> simp only [genStep, absOp, Lru.step] at hB' ⊢
  case get k =>
    obtain ⟨h1, h2⟩ := lruGet_abs s k hI hA
    exact ⟨h1, h2, lruGet_inv s k hI, (lruGet_allSet s k).2 hA, h1 ▸ hB', (lruGet_metrics s k).2.1⟩
  case put k bm =>
    have hno : s.curSize.toNat + (sz bm).toNat + ovh < 2 ^ 64 :=
      Nat.lt_of_le_of_lt (Nat.add_le_add_right (Nat.add_le_add_right (cur_le_of_bounded hI hB) _) _) hF
    have h1 := lruPut_abs sz s k bm hI hA hno
    exact ⟨h1, trivial, lruPut_inv sz s k bm hI hno, (lruPut_allSet sz s k bm).2 hA, h1 ▸ hB',
      (lruPut_metrics sz s k bm).2⟩

/-- **every history run through the generated `Get`/`Put` is the same history run through the model** -/
theorem genRun_abs (sz : Ref → UInt64) (ops : List GOp) (s : Gen.LRUCache) (hI : Inv s) (hA : AllSet s)
    (hB : (abs s).Bounded) (hF : ∀ op ∈ ops, Fits sz s.maxSize op) :
    abs (genRun sz s ops).1 = ((abs s).run (ops.map (absOp sz))).1 ∧
    (genRun sz s ops).2 = ((abs s).run (ops.map (absOp sz))).2 ∧
    Inv (genRun sz s ops).1 ∧ AllSet (genRun sz s ops).1 ∧ (genRun sz s ops).1.maxSize = s.maxSize := by
  induction ops generalizing s with
  | nil => exact ⟨rfl, rfl, hI, hA, rfl⟩
  | cons op ops ih =>
    obtain ⟨h1, h2, h3, h4, h5, h6⟩ := genStep_abs sz s op hI hA hB (hF op List.mem_cons_self)
    obtain ⟨i1, i2, i3, i4, i5⟩ := ih (genStep sz s op).1 h3 h4 h5
      (fun o ho => by rw [h6]; exact hF o (List.mem_cons_of_mem _ ho))
    rw [List.map_cons, run_cons]
    simp only [genRun]
    rw [← h1, ← h2]
    exact ⟨i1, by rw [i2], i3, i4, i5.trans h6⟩

theorem genRun_new (sz : Ref → UInt64) (max : UInt64) (ops : List GOp) (hF : ∀ op ∈ ops, Fits sz max op) :
    abs (genRun sz (newCache max) ops).1 = ((Lru.empty max.toNat ovh).run (ops.map (absOp sz))).1 ∧
    (genRun sz (newCache max) ops).2 = ((Lru.empty max.toNat ovh).run (ops.map (absOp sz))).2 ∧
    Inv (genRun sz (newCache max) ops).1 ∧ AllSet (genRun sz (newCache max) ops).1 := by
  rw [newCache_eq]
  obtain ⟨h1, h2, h3, h4, _⟩ :=
    genRun_abs sz ops (base max zeroMetrics) (base_inv _ _) ⟨rfl, rfl, rfl, rfl⟩ (Or.inr rfl) hF
  exact ⟨h1, h2, h3, h4⟩

/-! ### C07 transferred to the generated code -/

/-- **Byte bound** (C07 §3) for the generated code: after every history of generated `Get`s and `Put`s on a new
cache, `curSize` is the exact account of the resident entries (64 bytes of overhead each) and is within `maxSize`,
or the cache is empty; so the bitmap bytes held never exceed `maxSize`. -/
theorem gen_byte_bound (sz : Ref → UInt64) (max : UInt64) (ops : List GOp) (hF : ∀ op ∈ ops, Fits sz max op) :
    let c := (genRun sz (newCache max) ops).1
    c.curSize.toNat = total ovh (absItems c.lruList.elems) ∧
    (c.curSize ≤ max ∨ c.lruList.elems = []) ∧
    sizes (absItems c.lruList.elems) ≤ max.toNat := by
  intro c
  obtain ⟨h1, _, hI, _⟩ := genRun_new sz max ops hF
  obtain ⟨hb, hs⟩ := C07.byte_bound_reachable max.toNat ovh (ops.map (absOp sz))
  rw [← h1] at hb hs
  refine ⟨hI.acct, ?_, hs⟩
  rcases hb with hb | hb
  · left
    rw [UInt64.le_iff_toNat_le, hI.acct]; exact hb
  · right
    exact List.map_eq_nil_iff.1 hb

/-- **Get after Put returns the bitmap when it fits** (C07 §7) for the generated code, in every state satisfying the
invariant (so in every reachable state), whatever counters are configured. -/
theorem gen_fits_then_retrievable (sz : Ref → UInt64) (s : Gen.LRUCache) (k : UInt64) (bm : Ref) (hI : Inv s)
    (hno : s.curSize.toNat + (sz bm).toNat + ovh < 2 ^ 64) (hfit : (sz bm).toNat + ovh ≤ s.maxSize.toNat) :
    (Gen.lruGet (Gen.lruPut sz s k bm) k).2 = (bm, true) := by
  obtain ⟨hput, hI'⟩ := lruPut_abs_gen sz s k bm hI hno
  have hres := (lruGet_abs_gen (Gen.lruPut sz s k bm) k hI').2
  have hmodel := C07.fits_then_retrievable (abs s) k.toNat bm (sz bm).toNat hI.model hfit
  -- the answer of the model's `get` only depends on the items
  have : ((abs (Gen.lruPut sz s k bm)).get k.toNat).2 = some bm := by
    rw [get_some_iff] at hmodel ⊢
    rw [hput]; exact hmodel
  rw [this] at hres
  unfold absRes at hres
  split at hres
  · rename_i hb
    exact Prod.ext (Option.some.inj hres) hb
  · cases hres

/-- **Exact counters** (C07 §9) for the generated code with four fresh counters -/
theorem gen_counters_exact (sz : Ref → UInt64) (max : UInt64) (ops : List GOp) (hF : ∀ op ∈ ops, Fits sz max op) :
    let r := genRun sz (newCache max) ops
    r.1.metrics.GetCall = some (numGets (ops.map (absOp sz))) ∧
    r.1.metrics.PutCall = some (numPuts (ops.map (absOp sz))) ∧
    r.1.metrics.CacheHit = some (r.2.countP Option.isSome) ∧
    ctr r.1.metrics.CacheHit + ctr r.1.metrics.CacheMiss = ctr r.1.metrics.GetCall := by
  intro r
  obtain ⟨h1, h2, _, hAll⟩ := genRun_new sz max ops hF
  obtain ⟨c1, c2, _, c4, c5⟩ := C07.counters_exact max.toNat ovh (ops.map (absOp sz))
  rw [← h1] at c1 c2 c5
  rw [← h1, ← h2] at c4
  -- a counter that is set and counts `n` is `some n`
  have key : ∀ (c : Counter) (n : Nat), c.isSome → ctr c = n → c = some n := by
    intro c n hc hn
    cases c with
    | none => cases hc
    | some m => exact congrArg some hn
  exact ⟨key _ _ hAll.1 c1, key _ _ hAll.2.1 c2, key _ _ hAll.2.2.1 c4, c5⟩

/-- **Get returns the last Put** (C07 §6) for the generated code: if, in a history on a new cache, the `Get k` at
position `pre.length` answers bitmap `b`, then the last `Put` of key `k` before it stored `b`. -/
theorem gen_get_returns_last_put (sz : Ref → UInt64) (max : UInt64) (pre post : List GOp) (k : UInt64) (b : Ref)
    (hF : ∀ op ∈ pre ++ [.get k] ++ post, Fits sz max op)
    (h : (genRun sz (newCache max) (pre ++ [.get k] ++ post)).2[pre.length]? = some (some b)) :
    lastPut (pre.map (absOp sz)) k.toNat = some b := by
  rw [(genRun_new sz max _ hF).2.1] at h
  simp only [List.map_append, List.map_cons, List.map_nil, absOp] at h
  have := C07.get_returns_last_put max.toNat ovh (pre.map (absOp sz)) (post.map (absOp sz)) k.toNat b
  rw [List.length_map] at this
  exact this h

/-! ### concrete evaluations of the generated definitions -/

section Examples

/-- bitmap `b` occupies `10 * b` bytes -/
private def szE : Ref → UInt64 := fun b => (b * 10).toUInt64

/-- a 250-byte cache; key 1 is overwritten (moves to the front, is re-accounted), the fourth `Put` evicts key 2 (the
least recently used one), `Get 1` hits with the last bitmap and moves key 1 to the front, `Get 2` misses -/
private def histE : List GOp := [.put 1 2, .put 2 3, .put 1 4, .put 3 5, .get 1, .get 2]

example : (genRun szE (newCache 250) histE).2 = [none, none, none, none, some 4, none] := by decide +kernel

example : (genRun szE (newCache 250) histE).1.lruList.elems.map (fun p => (p.1, p.2.key, p.2.size, p.2.bm)) =
    [(1, 1, 40, 4), (3, 3, 50, 5)] := by decide +kernel

example : (genRun szE (newCache 250) histE).1.curSize = 218 ∧
    (genRun szE (newCache 250) histE).1.entries.kvs = [(3, 3), (1, 1)] := by decide +kernel

example : let m := (genRun szE (newCache 250) histE).1.metrics
    (m.GetCall, m.PutCall, m.CacheHit, m.CacheMiss) = (some 2, some 4, some 1, some 1) := by decide +kernel

/-- the hypotheses of the transfer theorems hold for this history -/
example : ∀ op ∈ histE, Fits szE 250 op := by
  intro op hop
  simp only [histE, List.mem_cons, List.not_mem_nil, or_false] at hop
  rcases hop with rfl | rfl | rfl | rfl | rfl | rfl <;> simp [Fits, szE, ovh_eq]

/-- an entry larger than the whole cache empties it (and is not kept) -/
example : (Gen.lruPut szE (genRun szE (newCache 250) histE).1 9 30).lruList.elems = [] ∧
    (Gen.lruPut szE (genRun szE (newCache 250) histE).1 9 30).curSize = 0 ∧
    (Gen.lruPut szE (genRun szE (newCache 250) histE).1 9 30).entries.kvs = [] := by decide +kernel

/-- without the metrics option nothing is counted, and the cache works all the same -/
example : let c := (Gen.lruGet (Gen.lruPut szE (Gen.newLRUCache 250 []) 7 3) 7)
    c.2 = (3, true) ∧ c.1.metrics.GetCall = none ∧ c.1.metrics.CacheHit = none ∧ c.1.curSize = 94 := by decide +kernel

example : Gen.nullCacheGet 5 = (0, false) ∧ Gen.nullCachePut 5 1 = () := by decide

example : Gen.lruCacheItemSize = 24 ∧ Gen.listElementSize = 40 ∧ ovh = 64 := by decide

end Examples

end Updog.GeneratedEq
