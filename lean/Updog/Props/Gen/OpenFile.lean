/-
Equivalence of the definitions REGENERATED from the Go source (`Updog/GeneratedFns.lean`, written by
extract/translate.go on every run) with the hand-written models. If a translated Go function changes its meaning,
the generated text changes and the corresponding theorem below stops checking; if the function leaves the
translator's subset, its definition is missing and the theorem fails to elaborate.
-/
import Updog.GeneratedFns
import Updog.Proofs.GoPrelude
import Updog.Model.Create
import Updog.Model.Server

namespace Updog.GeneratedEq

/-! ### openfile.go: flags handed to os.OpenFile -/

theorem excl_eq (f : Nat) : Gen.excl f = failIfExistsFlags f := rfl

theorem noCreate_eq (f : Nat) : Gen.noCreate f = mustExistFlags f := by
  simp only [Gen.noCreate, mustExistFlags, Go.andNot_eq]; rfl

example : Gen.excl 0x42 = 0xC2 ∧ Gen.noCreate 0x42 = 2 := by
  rw [excl_eq, noCreate_eq]; decide

end Updog.GeneratedEq
