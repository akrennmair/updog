/-
Equivalence of the REGENERATED recursive-descent parser of internal/queryparser (`Updog/GeneratedFns.lean`:
`parser_peek`, `parser_next`, `parser_parseComparison`, the mutual block `parser_parseExpr … parser_parseGroupedExpr`,
`parser_parseFieldList`, `parser_parse`) with the declarative grammar `Updog.Grammar` and with the
hand-written model `Updog/Model/Parser.lean`.
-/
import Updog.Props.Gen.Items
import Updog.Props.Gen.Parser
import Updog.Proofs.Parser

namespace Updog.GeneratedEq
open Updog.Grammar

/-! ### abstraction of the parser state -/

/-- the items the parser will still see: the buffered look-ahead item (if any), then the channel content -/
def pending (p : Gen.Parser) : List Gen.Item :=
  (if p.peekCount = 1 then [Go.arrGet Gen.Item.zero p.token 0] else []) ++ p.lexer.items

/-- `List.Forall₂` spelled out with indices (for whoever has to establish it) -/
theorem forall₂_iff_getElem {α β : Type} {R : α → β → Prop} {l₁ : List α} {l₂ : List β} :
    List.Forall₂ R l₁ l₂ ↔
      l₁.length = l₂.length ∧ ∀ (k : Nat) (h₁ : k < l₁.length) (h₂ : k < l₂.length), R l₁[k] l₂[k] := by
  constructor
  · intro h
    induction h with
    | nil => exact ⟨rfl, fun k h₁ => absurd h₁ (by simp)⟩
    | cons hab _ ih =>
      refine ⟨by simp [ih.1], fun k h₁ h₂ => ?_⟩
      cases k with
      | zero => exact hab
      | succ k => exact ih.2 k (by simpa using h₁) (by simpa using h₂)
  · induction l₁ generalizing l₂ with
    | nil =>
      rintro ⟨hl, _⟩
      cases l₂ with
      | nil => exact .nil
      | cons b l₂ => simp at hl
    | cons a l₁ ih =>
      rintro ⟨hl, h⟩
      cases l₂ with
      | nil => simp at hl
      | cons b l₂ =>
        refine .cons (h 0 (by simp) (by simp)) (ih ⟨by simpa using hl, fun k h₁ h₂ => ?_⟩)
        exact h (k + 1) (by simpa using h₁) (by simpa using h₂)

/-- parser state `p` stands in front of the token list `ts` -/
def Stream (p : Gen.Parser) (ts : List Tok) : Prop :=
  (p.peekCount = 0 ∨ p.peekCount = 1) ∧ 1 ≤ p.token.length ∧ List.Forall₂ ItemTok (pending p) ts

theorem arrGet_arrSet_zero {α : Type} (z x : α) (a : List α) (h : 1 ≤ a.length) :
    Go.arrGet z (Go.arrSet a 0 x) 0 = x := by
  cases a with
  | nil => simp at h
  | cons y a => simp [Go.arrGet, Go.arrSet]

theorem arrSet_length {α : Type} (x : α) (a : List α) (i : Int) : (Go.arrSet a i x).length = a.length := by
  unfold Go.arrSet; split <;> simp

theorem parser_peek_zero {p : Gen.Parser} (hc : p.peekCount = 0) {x : Gen.Item} {r : List Gen.Item}
    (hitems : p.lexer.items = x :: r) :
    Gen.parser_peek p =
      ({ lexer := { p.lexer with items := r, lastPos := x.pos }, token := Go.arrSet p.token 0 x, peekCount := 1 },
        Go.arrGet Gen.Item.zero (Go.arrSet p.token 0 x) 0) := by
  simp [Gen.parser_peek, hc, Gen.lexer_nextItem, hitems, Go.chanRecv]

theorem parser_peek_one {p : Gen.Parser} (hc : p.peekCount = 1) :
    Gen.parser_peek p = (p, Go.arrGet Gen.Item.zero p.token 0) := by
  simp [Gen.parser_peek, hc]

/-- `p.next()` is `p.peek()` with the look-ahead buffer marked empty -/
theorem parser_next_eq {p : Gen.Parser} (hc : p.peekCount = 0 ∨ p.peekCount = 1) :
    Gen.parser_next p = ({ (Gen.parser_peek p).1 with peekCount := 0 }, (Gen.parser_peek p).2) := by
  rcases hc with hc | hc <;> simp [Gen.parser_next, Gen.parser_peek, hc]

theorem parser_peek_aux {p : Gen.Parser} {t : Tok} {ts : List Tok} (h : Stream p (t :: ts)) :
    ∃ p' i, Gen.parser_peek p = (p', i) ∧ p'.peekCount = 1 ∧ Stream p' (t :: ts) ∧ ItemTok i t := by
  obtain ⟨hc, hl, hf⟩ := h
  rcases hc with hc | hc
  · -- nothing buffered: receive one item
    simp only [pending, hc, Int.reduceEq, if_false, List.nil_append] at hf
    cases hitems : p.lexer.items with
    | nil => rw [hitems] at hf; cases hf
    | cons x r =>
      rw [hitems] at hf
      cases hf with
      | cons hx hr =>
        refine ⟨_, _, parser_peek_zero hc hitems, rfl, ?_, ?_⟩
        · refine ⟨.inr rfl, by simpa [arrSet_length] using hl, ?_⟩
          simp only [pending, if_true, arrGet_arrSet_zero _ _ _ hl]
          exact .cons hx hr
        · rw [arrGet_arrSet_zero _ _ _ hl]; exact hx
  · simp only [pending, hc, if_true] at hf
    cases hf with
    | cons hx hr =>
      refine ⟨_, _, parser_peek_one hc, hc, ⟨.inr hc, hl, ?_⟩, hx⟩
      simp only [pending, hc, if_true]
      exact .cons hx hr

theorem parser_peek_spec {p : Gen.Parser} {t : Tok} {ts : List Tok} (h : Stream p (t :: ts)) :
    ∃ p' i, Gen.parser_peek p = (p', i) ∧ Stream p' (t :: ts) ∧ ItemTok i t :=
  let ⟨p', i, h1, _, h2⟩ := parser_peek_aux h
  ⟨p', i, h1, h2⟩

theorem parser_next_spec {p : Gen.Parser} {t : Tok} {ts : List Tok} (h : Stream p (t :: ts)) :
    ∃ p' i, Gen.parser_next p = (p', i) ∧ Stream p' ts ∧ ItemTok i t := by
  obtain ⟨p', i, h1, hc, ⟨-, hl, hf⟩, hi⟩ := parser_peek_aux h
  refine ⟨{ p' with peekCount := 0 }, i, by rw [parser_next_eq h.1, h1], ⟨.inl rfl, hl, ?_⟩, hi⟩
  simp only [pending, hc, if_true] at hf
  cases hf with
  | cons _ hr => exact hr

end Updog.GeneratedEq
namespace Updog
open Grammar GeneratedEq

/-! ### token streams end with exactly one terminal token -/

theorem TermShape.exists_cons {ts : List Tok} (h : TermShape ts) : ∃ t ts', ts = t :: ts' := by
  obtain ⟨pre, u, rfl, _, _⟩ := h
  cases pre with
  | nil => exact ⟨u, [], rfl⟩
  | cons x pre => exact ⟨x, pre ++ [u], rfl⟩

/-- the first token is the terminal one and the last, or it is not terminal and the rest has the shape -/
theorem TermShape.cases_cons {t : Tok} {ts : List Tok} (h : TermShape (t :: ts)) :
    (t.isTerminal = true ∧ ts = []) ∨ (t.isTerminal = false ∧ TermShape ts) := by
  obtain ⟨pre, u, heq, hu, hpre⟩ := h
  cases pre with
  | nil => cases heq; exact .inl ⟨hu, rfl⟩
  | cons x pre =>
    cases heq
    exact .inr ⟨hpre _ List.mem_cons_self, pre, u, rfl, hu, fun y hy => hpre y (List.mem_cons_of_mem _ hy)⟩

theorem TermShape.tail {t : Tok} {ts : List Tok} (h : TermShape (t :: ts)) (ht : t.isTerminal = false) :
    TermShape ts :=
  h.cases_cons.elim (fun h' => by rw [ht] at h'; cases h'.1) (·.2)

theorem TermShape.eq_nil {t : Tok} {ts : List Tok} (h : TermShape (t :: ts)) (ht : t.isTerminal = true) :
    ts = [] :=
  h.cases_cons.elim (·.2) (fun h' => by rw [ht] at h'; cases h'.1)

/-- what the lexer guarantees about a token stream: terminal shape, placeholders are digits -/
structure GeneratedEq.TokWF (ts : List Tok) : Prop where
  shape : TermShape ts
  ok : ∀ t ∈ ts, TokOK t

theorem GeneratedEq.TokWF.tail {t : Tok} {ts : List Tok} (h : GeneratedEq.TokWF (t :: ts)) (ht : t.isTerminal = false) : GeneratedEq.TokWF ts :=
  ⟨h.shape.tail ht, fun u hu => h.ok u (List.mem_cons_of_mem _ hu)⟩

theorem GeneratedEq.TokWF.exists_cons {ts : List Tok} (h : GeneratedEq.TokWF ts) : ∃ t ts', ts = t :: ts' := h.shape.exists_cons

/-- a phrase of the grammar consumes no terminal token, so what it leaves is again a lexer output -/
theorem Grammar.wf_all :
    (∀ {ts e r}, Simple ts e r → GeneratedEq.TokWF ts → GeneratedEq.TokWF r) ∧
    (∀ {sep ts es r}, Chain sep ts es r → sep.isTerminal = false → GeneratedEq.TokWF ts → GeneratedEq.TokWF r) ∧
    (∀ {ts e r}, Grammar.Expr ts e r → GeneratedEq.TokWF ts → GeneratedEq.TokWF r) :=
  Grammar.induction (P := fun ts _ r => GeneratedEq.TokWF ts → GeneratedEq.TokWF r)
    (Q := fun sep ts _ r => sep.isTerminal = false → GeneratedEq.TokWF ts → GeneratedEq.TokWF r)
    (R := fun ts _ r => GeneratedEq.TokWF ts → GeneratedEq.TokWF r)
    (fun _ _ _ hw => ((hw.tail rfl).tail rfl).tail rfl) (fun _ _ _ _ hw => ((hw.tail rfl).tail rfl).tail rfl)
    (fun _ ih hw => ih (hw.tail rfl)) (fun _ ih hw => (ih (hw.tail rfl)).tail rfl)
    (fun _ _ ih _ hw => ih hw) (fun _ _ ih ihc hsep hw => ihc hsep ((ih hw).tail hsep))
    (fun _ _ _ ih hw => ih hw) (fun _ _ ih ihc hw => ihc rfl ((ih hw).tail rfl))
    (fun _ _ ih ihc hw => ihc rfl ((ih hw).tail rfl))

theorem Grammar.Chain.wf {sep : Tok} {ts : List Tok} {es : List PExpr} {r : List Tok} (h : Chain sep ts es r)
    (hsep : sep.isTerminal = false) (hw : GeneratedEq.TokWF ts) : GeneratedEq.TokWF r :=
  Grammar.wf_all.2.1 h hsep hw

theorem Grammar.FieldsRest.wf {ts : List Tok} {fs : List Bytes} {r : List Tok} (h : FieldsRest ts fs r) :
    GeneratedEq.TokWF ts → GeneratedEq.TokWF r := by
  induction h with
  | done _ => exact id
  | more _ ih => exact fun hw => ih ((hw.tail rfl).tail rfl)

theorem Grammar.FieldList.wf {ts : List Tok} {fs : List Bytes} {r : List Tok} (h : FieldList ts fs r) (hw : GeneratedEq.TokWF ts) :
    GeneratedEq.TokWF r := by
  cases h with
  | mk h => exact h.wf (hw.tail rfl)

end Updog
namespace Updog.GeneratedEq
open Updog.Grammar

/-! ### the type tests of the generated code, on tokens -/

theorem typ_beq {i : Gen.Item} {t : Tok} (hi : ItemTok i t) (k : Int) : (i.typ == k) = (tokCode t == k) := by
  rw [hi.1]
theorem typ_bne {i : Gen.Item} {t : Tok} (hi : ItemTok i t) (k : Int) : (i.typ != k) = (tokCode t != k) := by
  rw [hi.1]

/-- what a generated parse function may answer: out of fuel (translation artefact), or exactly the grammar's
    verdict -/
def Agrees {α : Type} (res : Go.Res (Gen.Parser × α)) (good : Gen.Parser → α → Prop) (bad : Prop) : Prop :=
  match res with
  | .ok (p', a) => good p' a
  | .error .panic => bad
  | .error .fuel => True
  | .error .returned => False

/-- `Agrees`, and moreover: out of fuel only if the fuel was not `enough` -/
def AgreesF {α : Type} (res : Go.Res (Gen.Parser × α)) (good : Gen.Parser → α → Prop) (bad : Prop)
    (enough : Prop) : Prop :=
  match res with
  | .ok (p', a) => good p' a
  | .error .panic => bad
  | .error .fuel => ¬ enough
  | .error .returned => False

@[simp] theorem agreesF_ok {α : Type} (p' : Gen.Parser) (a : α) (good : Gen.Parser → α → Prop) (bad enough : Prop) :
    AgreesF (.ok (p', a)) good bad enough = good p' a := rfl
@[simp] theorem agreesF_panic {α : Type} (good : Gen.Parser → α → Prop) (bad enough : Prop) :
    AgreesF (.error .panic) good bad enough = bad := rfl
@[simp] theorem agreesF_fuel {α : Type} (good : Gen.Parser → α → Prop) (bad enough : Prop) :
    AgreesF (.error .fuel) good bad enough = ¬ enough := rfl
@[simp] theorem agreesF_returned {α : Type} (good : Gen.Parser → α → Prop) (bad enough : Prop) :
    AgreesF (.error .returned) good bad enough = False := rfl

/-- case analysis on a result that satisfies `AgreesF`: the rule for `match f … with | .error err => .error err |
    .ok (p, a) => …` in the generated text -/
@[elab_as_elim]
theorem AgreesF.elim {α : Type} {good : Gen.Parser → α → Prop} {bad enough : Prop}
    {P : Go.Res (Gen.Parser × α) → Prop} {x : Go.Res (Gen.Parser × α)} (hx : AgreesF x good bad enough)
    (panic : bad → P (.error .panic)) (fuel : ¬ enough → P (.error .fuel))
    (ok : ∀ p a, good p a → P (.ok (p, a))) : P x := by
  cases x with
  | error err =>
    cases err with
    | panic => exact panic hx
    | fuel => exact fuel hx
    | returned => exact False.elim hx
  | ok v => exact ok v.1 v.2 hx

theorem AgreesF.agrees {α : Type} {res : Go.Res (Gen.Parser × α)} {good : Gen.Parser → α → Prop}
    {bad enough : Prop} (h : AgreesF res good bad enough) : Agrees res good bad :=
  h.elim id (fun _ => trivial) (fun _ _ hg => hg)

theorem AgreesF.fuel_ok {α : Type} {res : Go.Res (Gen.Parser × α)} {good : Gen.Parser → α → Prop}
    {bad enough : Prop} (h : AgreesF res good bad enough) (he : enough) : res ≠ .error .fuel := by
  intro hres; rw [hres] at h; exact h he

/-! ### `parseComparison` -/

theorem toInt32_natCast {n : Nat} (h : n ≤ 2147483647) : Go.toInt32 (n : Int) = (n : Int) := by
  unfold Go.toInt32; omega

theorem toInt32_zero : Go.toInt32 0 = 0 := by decide

theorem parseComparison_agreesF {p : Gen.Parser} {c : Bytes} {ts : List Tok} (hs : Stream p (.field c :: ts))
    (hw : TokWF (.field c :: ts)) :
    AgreesF (Gen.parser_parseComparison p) (fun p' e => ∃ r, Stream p' r ∧ Simple (.field c :: ts) e r)
      (∀ e r, ¬ Simple (.field c :: ts) e r) True := by
  obtain ⟨p1, i1, h1, hs1, hi1⟩ := parser_next_spec hs
  have hw1 := hw.tail rfl
  obtain ⟨t2, ts2, rfl⟩ := hw1.exists_cons
  obtain ⟨p2, i2, h2, hs2, hi2⟩ := parser_peek_spec hs1
  unfold Gen.parser_parseComparison
  simp only [h1, h2, typ_beq hi2, bne, code_eq]
  by_cases ht2 : t2 = .eq
  · subst ht2
    obtain ⟨t3, ts3, rfl⟩ := (hw1.tail rfl).exists_cons
    obtain ⟨p3, i3, h3, hs3, hi3⟩ := parser_next_spec hs2
    obtain ⟨p4, i4, h4, hs4, hi4⟩ := parser_peek_spec hs3
    obtain ⟨p5, i5, h5, hs5, hi5⟩ := parser_next_spec hs4
    have hc : i1.val = c := hi1.2
    simp only [h3, h4, h5, typ_beq hi4, code_placeholder, code_value, hc, decide_true, Bool.not_true,
      Bool.false_eq_true, if_false]
    cases hp : isPlaceholder t3 with
    | true =>
      obtain ⟨ds, rfl⟩ := isPlaceholder_iff.mp hp
      have hv : i5.val = 36 :: ds := hi5.2
      simp only [if_true, hv, decodePlaceholder_eq ds (hw.ok (.placeholder ds) (by simp)),
        toInt32_natCast (decodePlaceholder_le ds), Int.toNat_natCast]
      by_cases hlt : decodePlaceholder ds < 1
      · have : ((decodePlaceholder ds : Nat) : Int) < 1 := by omega
        simp only [this, decide_true, if_true, agreesF_panic]
        intro e r h; cases h; omega
      · have : ¬ ((decodePlaceholder ds : Nat) : Int) < 1 := by omega
        simp only [this, decide_false, Bool.false_eq_true, if_false, agreesF_ok]
        exact ⟨_, hs5, .cmpPlaceholder _ _ _ (by omega)⟩
    | false =>
      cases hv : isValue t3 with
      | true =>
        obtain ⟨body, rfl⟩ := isValue_iff.mp hv
        have hv : i5.val = 34 :: body ++ [34] := hi5.2
        simp only [Bool.false_eq_true, if_false, if_true, hv, decodeString_lexeme, toInt32_zero, Int.toNat_zero]
        exact ⟨_, hs5, .cmpValue _ _ _⟩
      | false =>
        simp only [Bool.false_eq_true, if_false]
        intro e r h
        cases h with
        | cmpValue => cases hv
        | cmpPlaceholder => cases hp
  · simp only [ht2, decide_false, Bool.not_false, if_true]
    intro e r h; cases h <;> exact ht2 rfl

/-! ### the mutual block: statements -/

/-- `{ sep simple-expr }` as the loops of `parseAndExpr` / `parseOrExpr` see it: nothing, if the next token is not
    `sep`; otherwise `sep` followed by a (greedy) chain -/
inductive Tail (sep : Tok) : List Tok → List PExpr → List Tok → Prop
  | stop {ts : List Tok} (h : ts.head? ≠ some sep) : Tail sep ts [] ts
  | go {ts : List Tok} {es : List PExpr} {r : List Tok} (h : Chain sep ts es r) : Tail sep (sep :: ts) es r

def SimpleSpec (fuel : Nat) : Prop :=
  ∀ (p : Gen.Parser) (ts : List Tok), Stream p ts → TokWF ts →
    AgreesF (Gen.parser_parseSimpleExpr fuel p) (fun p' e => ∃ r, Stream p' r ∧ Simple ts e r)
      (∀ e r, ¬ Simple ts e r) (3 * ts.length + 1 ≤ fuel)

def GroupedSpec (fuel : Nat) : Prop :=
  ∀ (p : Gen.Parser) (ts : List Tok), Stream p (.lparen :: ts) → TokWF (.lparen :: ts) →
    AgreesF (Gen.parser_parseGroupedExpr fuel p) (fun p' e => ∃ r, Stream p' r ∧ Simple (.lparen :: ts) e r)
      (∀ e r, ¬ Simple (.lparen :: ts) e r) (3 * (ts.length + 1) ≤ fuel)

def ExprSpec (fuel : Nat) : Prop :=
  ∀ (p : Gen.Parser) (ts : List Tok), Stream p ts → TokWF ts →
    AgreesF (Gen.parser_parseExpr fuel p) (fun p' e => ∃ r, Stream p' r ∧ Grammar.Expr ts e r)
      (∀ e r, ¬ Grammar.Expr ts e r) (3 * ts.length + 2 ≤ fuel)

def LoopSpec (sep : Tok) (loop : Nat → Gen.Parser → List PExpr → Go.Res (Gen.Parser × List PExpr)) (fuel : Nat) :
    Prop :=
  ∀ (p : Gen.Parser) (ts : List Tok) (exprs : List PExpr), Stream p ts → TokWF ts →
    AgreesF (loop fuel p exprs) (fun p' res => ∃ es r, res = exprs ++ es ∧ Stream p' r ∧ Tail sep ts es r)
      (∀ es r, ¬ Tail sep ts es r) (3 * ts.length + 1 ≤ fuel)

def NarySpec (sep : Tok) (mk : List PExpr → PExpr)
    (f : Nat → Gen.Parser → PExpr → Go.Res (Gen.Parser × PExpr)) (fuel : Nat) : Prop :=
  ∀ (p : Gen.Parser) (ts : List Tok) (first : PExpr), Stream p (sep :: ts) → TokWF (sep :: ts) →
    AgreesF (f fuel p first) (fun p' e => ∃ es r, e = mk (first :: es) ∧ Stream p' r ∧ Chain sep ts es r)
      (∀ es r, ¬ Chain sep ts es r) (3 * (ts.length + 1) + 2 ≤ fuel)

theorem simple_step {fuel : Nat} (ihS : SimpleSpec fuel) (ihG : GroupedSpec fuel) : SimpleSpec (fuel + 1) := by
  intro p ts hs hw
  obtain ⟨t, ts, rfl⟩ := hw.exists_cons
  obtain ⟨p1, i1, h1, hs1, hi1⟩ := parser_peek_spec hs
  rw [Gen.parser_parseSimpleExpr]
  simp only [h1, typ_beq hi1, code_lparen, code_not, code_field]
  by_cases hl : t = .lparen
  · subst hl
    simp only [decide_true, if_true]
    refine (ihG p1 ts hs1 hw).elim id ?_ (fun _ _ hg => hg)
    intro he; show ¬ _; simp only [List.length_cons] at he ⊢; omega
  by_cases hn : t = .not
  · subst hn
    obtain ⟨p2, i2, h2, hs2, hi2⟩ := parser_next_spec hs1
    simp only [h2, decide_true, decide_false, if_true, if_false, reduceCtorEq]
    refine (ihS p2 ts hs2 (hw.tail rfl)).elim ?_ ?_ ?_
    · intro hb e r h; cases h with | not h => exact hb _ _ h
    · intro he; show ¬ _; simp only [List.length_cons] at he ⊢; omega
    · rintro p3 e ⟨r, hsr, h⟩; exact ⟨r, hsr, .not h⟩
  simp only [hl, hn, decide_false, Bool.false_eq_true, if_false]
  cases hf : isField t with
  | true =>
    obtain ⟨c, rfl⟩ := isField_iff.mp hf
    exact (parseComparison_agreesF hs1 hw).elim id (fun he => absurd trivial he) (fun _ _ hg => hg)
  | false =>
    intro e r h
    cases h with
    | cmpValue => cases hf
    | cmpPlaceholder => cases hf
    | not => exact hn rfl
    | group => exact hl rfl

theorem grouped_step {fuel : Nat} (ihE : ExprSpec fuel) : GroupedSpec (fuel + 1) := by
  intro p ts hs hw
  obtain ⟨p1, i1, h1, hs1, hi1⟩ := parser_next_spec hs
  have hw1 := hw.tail rfl
  rw [Gen.parser_parseGroupedExpr]
  simp only [h1]
  refine (ihE p1 ts hs1 hw1).elim ?_ ?_ ?_
  · intro hb e r h; cases h with | group h => exact hb _ _ h
  · intro he; show ¬ _; omega
  · rintro p2 e ⟨r, hs2, hE⟩
    have hw2 := Grammar.wf_all.2.2 hE hw1
    obtain ⟨t3, r, rfl⟩ := hw2.exists_cons
    obtain ⟨p3, i3, h3, hs3, hi3⟩ := parser_peek_spec hs2
    obtain ⟨p4, i4, h4, hs4, hi4⟩ := parser_next_spec hs3
    simp only [h3, h4, typ_beq hi3, bne, code_rparen]
    by_cases hr : t3 = .rparen
    · subst hr
      simp
      exact ⟨r, hs4, .group hE⟩
    · simp [hr]
      intro e' r' h
      cases h with
      | group h => exact hr (by have := (hE.unique h).2; simp at this; exact this.1)

theorem expr_step {fuel : Nat} (ihS : SimpleSpec fuel) (ihA : NarySpec .and PExpr.and Gen.parser_parseAndExpr fuel)
    (ihO : NarySpec .or PExpr.or Gen.parser_parseOrExpr fuel) : ExprSpec (fuel + 1) := by
  intro p ts hs hw
  rw [Gen.parser_parseExpr]
  refine (ihS p ts hs hw).elim ?_ ?_ ?_
  · intro hb e r h
    cases h with
    | single h _ _ => exact hb _ _ h
    | and h _ => exact hb _ _ h
    | or h _ => exact hb _ _ h
  · intro he; show ¬ _; omega
  · rintro p1 e ⟨r, hs1, hS⟩
    have hw1 := Grammar.wf_all.1 hS hw
    have hlen := hS.length_lt
    obtain ⟨t2, r, rfl⟩ := hw1.exists_cons
    obtain ⟨p2, i2, h2, hs2, hi2⟩ := parser_peek_spec hs1
    simp only [h2, typ_beq hi2, code_and, code_or]
    by_cases ha : t2 = .and
    · subst ha
      simp only [decide_true, if_true]
      refine (ihA p2 r e hs2 hw1).elim ?_ ?_ ?_
      · intro hb e' r' h
        cases h with
        | single h hand _ => exact hand (by rw [← (hS.unique h).2]; rfl)
        | and h hc => obtain ⟨-, hr⟩ := hS.unique h; cases hr; exact hb _ _ hc
        | or h hc => cases (hS.unique h).2
      · intro he; show ¬ _; simp only [List.length_cons] at he hlen ⊢; omega
      · rintro p3 e' ⟨es, r', rfl, hs3, hc⟩
        exact ⟨r', hs3, .and hS hc⟩
    by_cases ho : t2 = .or
    · subst ho
      simp only [decide_true, decide_false, if_true, if_false, reduceCtorEq]
      refine (ihO p2 r e hs2 hw1).elim ?_ ?_ ?_
      · intro hb e' r' h
        cases h with
        | single h _ hor => exact hor (by rw [← (hS.unique h).2]; rfl)
        | and h hc => cases (hS.unique h).2
        | or h hc => obtain ⟨-, hr⟩ := hS.unique h; cases hr; exact hb _ _ hc
      · intro he; show ¬ _; simp only [List.length_cons] at he hlen ⊢; omega
      · rintro p3 e' ⟨es, r', rfl, hs3, hc⟩
        exact ⟨r', hs3, .or hS hc⟩
    simp only [ha, ho, decide_false, if_false, agreesF_ok, Bool.false_eq_true]
    exact ⟨_, hs2, .single hS (by simpa using ha) (by simpa using ho)⟩

/-- the loops of `parseAndExpr` and `parseOrExpr` are the same text up to the separator -/
theorem loop_step {sep : Tok} {code : Int} (hcode : ∀ t, (tokCode t == code) = decide (t = sep))
    (hsep : sep.isTerminal = false)
    {loop : Nat → Gen.Parser → List PExpr → Go.Res (Gen.Parser × List PExpr)} {fuel : Nat}
    (heq : ∀ p exprs, loop (fuel + 1) p exprs =
      (let (p, t1) := Gen.parser_peek p
       if (t1.typ == code) then
         let (p, _) := Gen.parser_next p
         match Gen.parser_parseSimpleExpr fuel p with
         | .error err => .error err
         | .ok (p, expr) =>
         let exprs := (exprs ++ [expr])
         loop fuel p exprs
       else
       .ok (p, exprs)))
    (ihS : SimpleSpec fuel) (ihL : LoopSpec sep loop fuel) : LoopSpec sep loop (fuel + 1) := by
  intro p ts exprs hs hw
  obtain ⟨t, ts, rfl⟩ := hw.exists_cons
  obtain ⟨p1, i1, h1, hs1, hi1⟩ := parser_peek_spec hs
  obtain ⟨p2, i2, h2, hs2, hi2⟩ := parser_next_spec hs1
  rw [heq]
  simp only [h1, h2, typ_beq hi1, hcode]
  by_cases ht : t = sep
  · subst ht
    have hw2 := hw.tail hsep
    simp only [decide_true, if_true]
    refine (ihS p2 ts hs2 hw2).elim ?_ ?_ ?_
    · intro hb es r h
      cases h with
      | stop h => exact h rfl
      | go h =>
        cases h with
        | last h _ => exact hb _ _ h
        | more h _ => exact hb _ _ h
    · intro he; show ¬ _; simp only [List.length_cons] at he ⊢; omega
    · rintro p3 e ⟨r1, hs3, hS⟩
      have hlen := hS.length_lt
      show AgreesF (loop fuel p3 (exprs ++ [e])) _ _ _
      refine (ihL p3 r1 (exprs ++ [e]) hs3 (Grammar.wf_all.1 hS hw2)).elim ?_ ?_ ?_
      · intro hb es r h
        cases h with
        | stop h => exact h rfl
        | go h =>
          cases h with
          | last h hstop => obtain ⟨_, rfl⟩ := hS.unique h; exact hb _ _ (.stop hstop)
          | more h hc => obtain ⟨_, hr⟩ := hS.unique h; cases hr; exact hb _ _ (.go hc)
      · intro he; show ¬ _; simp only [List.length_cons] at he ⊢; omega
      · rintro p4 res ⟨es, r, rfl, hs4, hT⟩
        refine ⟨e :: es, r, by rw [List.append_assoc]; rfl, hs4, .go ?_⟩
        cases hT with
        | stop h => exact .last hS h
        | go h => exact .more hS h
  · simp only [ht, decide_false, if_false, agreesF_ok, Bool.false_eq_true]
    exact ⟨[], _, (List.append_nil _).symm, hs1, .stop (by simpa using ht)⟩

theorem nary_step {sep : Tok} {mk : List PExpr → PExpr}
    {loop : Nat → Gen.Parser → List PExpr → Go.Res (Gen.Parser × List PExpr)}
    {f : Nat → Gen.Parser → PExpr → Go.Res (Gen.Parser × PExpr)} {fuel : Nat}
    (heq : ∀ p first, f (fuel + 1) p first =
      (match loop fuel p [first] with
       | .error err => .error err
       | .ok (p, exprs) => .ok (p, mk exprs)))
    (ihL : LoopSpec sep loop fuel) : NarySpec sep mk f (fuel + 1) := by
  intro p ts first hs hw
  rw [heq]
  refine (ihL p (sep :: ts) [first] hs hw).elim ?_ ?_ ?_
  · intro hb es r h; exact hb _ _ (.go h)
  · intro he; show ¬ _; simp only [List.length_cons] at he ⊢; omega
  · rintro p4 res ⟨es, r, rfl, hs4, hT⟩
    cases hT with
    | stop h => exact (h rfl).elim
    | go h => exact ⟨es, r, rfl, hs4, h⟩

/-! ### the mutual block: one induction on the fuel -/

structure AllSpec (fuel : Nat) : Prop where
  simple : SimpleSpec fuel
  grouped : GroupedSpec fuel
  expr : ExprSpec fuel
  andLoop : LoopSpec .and Gen.parser_parseAndExpr_loop1 fuel
  andExpr : NarySpec .and PExpr.and Gen.parser_parseAndExpr fuel
  orLoop : LoopSpec .or Gen.parser_parseOrExpr_loop1 fuel
  orExpr : NarySpec .or PExpr.or Gen.parser_parseOrExpr fuel

theorem allSpec (fuel : Nat) : AllSpec fuel := by
  induction fuel with
  | zero =>
    refine ⟨?_, ?_, ?_, ?_, ?_, ?_, ?_⟩
    · intro p ts _ _; rw [Gen.parser_parseSimpleExpr]; exact Nat.not_succ_le_zero _
    · intro p ts _ _; rw [Gen.parser_parseGroupedExpr]; exact Nat.not_succ_le_zero _
    · intro p ts _ _; rw [Gen.parser_parseExpr]; exact Nat.not_succ_le_zero _
    · intro p ts _ _ _; rw [Gen.parser_parseAndExpr_loop1]; exact Nat.not_succ_le_zero _
    · intro p ts _ _ _; rw [Gen.parser_parseAndExpr]; exact Nat.not_succ_le_zero _
    · intro p ts _ _ _; rw [Gen.parser_parseOrExpr_loop1]; exact Nat.not_succ_le_zero _
    · intro p ts _ _ _; rw [Gen.parser_parseOrExpr]; exact Nat.not_succ_le_zero _
  | succ fuel ih =>
    exact ⟨simple_step ih.simple ih.grouped, grouped_step ih.expr, expr_step ih.simple ih.andExpr ih.orExpr,
      loop_step code_and rfl (fun _ _ => by rw [Gen.parser_parseAndExpr_loop1]; rfl) ih.simple ih.andLoop,
      nary_step (fun _ _ => by rw [Gen.parser_parseAndExpr]; rfl) ih.andLoop,
      loop_step code_or rfl (fun _ _ => by rw [Gen.parser_parseOrExpr_loop1]; rfl) ih.simple ih.orLoop,
      nary_step (fun _ _ => by rw [Gen.parser_parseOrExpr]; rfl) ih.orLoop⟩

/-! ### field lists -/

theorem fieldLoop_agreesF (fuel : Nat) : ∀ (p : Gen.Parser) (ts : List Tok) (fields : List Bytes),
    Stream p ts → TokWF ts →
    AgreesF (Gen.parser_parseFieldList_loop1 fuel p fields)
      (fun p' res => ∃ fs r, res = fields ++ fs ∧ Stream p' r ∧ FieldsRest ts fs r)
      (∀ fs r, ¬ FieldsRest ts fs r) (ts.length ≤ fuel) := by
  induction fuel with
  | zero =>
    intro p ts fields hs hw
    obtain ⟨t, ts, rfl⟩ := hw.exists_cons
    rw [Gen.parser_parseFieldList_loop1]
    exact Nat.not_succ_le_zero _
  | succ fuel ih =>
    intro p ts fields hs hw
    obtain ⟨t, ts, rfl⟩ := hw.exists_cons
    obtain ⟨p1, i1, h1, hs1, hi1⟩ := parser_peek_spec hs
    obtain ⟨p2, i2, h2, hs2, hi2⟩ := parser_next_spec hs1
    rw [Gen.parser_parseFieldList_loop1]
    simp only [h1, h2, typ_beq hi1, code_comma]
    by_cases ht : t = .comma
    · subst ht
      have hw2 := hw.tail rfl
      obtain ⟨t6, ts, rfl⟩ := hw2.exists_cons
      obtain ⟨p3, i3, h3, hs3, hi3⟩ := parser_peek_spec hs2
      obtain ⟨p4, i4, h4, hs4, hi4⟩ := parser_next_spec hs3
      simp only [decide_true, if_true, h3, h4, typ_beq hi3, bne, code_field]
      cases hf : isField t6 with
      | true =>
        obtain ⟨c, rfl⟩ := isField_iff.mp hf
        have hv : i4.val = c := hi4.2
        simp only [Bool.not_true, Bool.false_eq_true, if_false, hv]
        refine (ih p4 ts (fields ++ [c]) hs4 (hw2.tail rfl)).elim ?_ ?_ ?_
        · intro hb fs r h
          cases h with
          | done h => exact h rfl
          | more h => exact hb _ _ h
        · intro he; show ¬ _; simp only [List.length_cons] at he ⊢; omega
        · rintro p5 res ⟨fs, r, rfl, hs5, hF⟩
          exact ⟨c :: fs, r, by rw [List.append_assoc]; rfl, hs5, .more hF⟩
      | false =>
        simp only [Bool.not_false, if_true]
        intro fs r h
        cases h with
        | done h => exact h rfl
        | more => cases hf
    · simp only [ht, decide_false, if_false, agreesF_ok, Bool.false_eq_true]
      exact ⟨[], _, (List.append_nil _).symm, hs1, .done (by simpa using ht)⟩

theorem parseFieldList_agreesF {fuel : Nat} {p : Gen.Parser} {ts : List Tok} (hs : Stream p ts) (hw : TokWF ts) :
    AgreesF (Gen.parser_parseFieldList fuel p) (fun p' fs => ∃ r, Stream p' r ∧ FieldList ts fs r)
      (∀ fs r, ¬ FieldList ts fs r) (ts.length ≤ fuel) := by
  obtain ⟨t, ts, rfl⟩ := hw.exists_cons
  obtain ⟨p1, i1, h1, hs1, hi1⟩ := parser_peek_spec hs
  obtain ⟨p2, i2, h2, hs2, hi2⟩ := parser_next_spec hs1
  rw [Gen.parser_parseFieldList]
  simp only [h1, h2, typ_beq hi1, bne, code_field]
  cases hf : isField t with
  | true =>
    obtain ⟨c, rfl⟩ := isField_iff.mp hf
    have hv : i2.val = c := hi2.2
    simp only [Bool.not_true, Bool.false_eq_true, if_false, hv, List.nil_append]
    refine (fieldLoop_agreesF fuel p2 ts [c] hs2 (hw.tail rfl)).elim ?_ ?_ ?_
    · intro hb fs r h
      cases h with
      | mk h => exact hb _ _ h
    · intro he; show ¬ _; simp only [List.length_cons] at he ⊢; omega
    · rintro p5 res ⟨fs, r, rfl, hs5, hF⟩
      exact ⟨r, hs5, .mk hF⟩
  | false =>
    simp only [Bool.not_false, if_true]
    intro fs r h
    cases h with
    | mk => cases hf

/-! ### `parser.parse` -/

/-- `AgreesF` behind `defer p.recover(&err)`: the panic has become a returned error -/
def AgreesR {α : Type} (res : Go.Res (Gen.Parser × α)) (good : Gen.Parser → α → Prop) (bad : Prop)
    (enough : Prop) : Prop :=
  match res with
  | .ok (p', a) => good p' a
  | .error .returned => bad
  | .error .fuel => ¬ enough
  | .error .panic => False

theorem AgreesF.recover {α : Type} {res : Go.Res (Gen.Parser × α)} {good : Gen.Parser → α → Prop}
    {bad enough : Prop} (h : AgreesF res good bad enough) : AgreesR (Go.recoverErr res) good bad enough :=
  h.elim id id (fun _ _ hg => hg)

@[elab_as_elim]
theorem AgreesR.elim {α : Type} {good : Gen.Parser → α → Prop} {bad enough : Prop}
    {P : Go.Res (Gen.Parser × α) → Prop} {x : Go.Res (Gen.Parser × α)} (hx : AgreesR x good bad enough)
    (returned : bad → P (.error .returned)) (fuel : ¬ enough → P (.error .fuel))
    (ok : ∀ p a, good p a → P (.ok (p, a))) : P x := by
  cases x with
  | error err =>
    cases err with
    | panic => exact False.elim hx
    | fuel => exact fuel hx
    | returned => exact returned hx
  | ok v => exact ok v.1 v.2 hx

theorem _root_.Updog.Grammar.FieldList.unique {ts : List Tok} {fs fs' : List Bytes} {r r' : List Tok}
    (h : FieldList ts fs r) (h' : FieldList ts fs' r') : fs = fs' ∧ r = r' := by
  have h1 := parseFieldList_iff.mpr h
  have h2 := parseFieldList_iff.mpr h'
  rw [h1] at h2
  simpa using h2

theorem parse_agreesR {fuel : Nat} {p : Gen.Parser} {ts : List Tok} (hs : Stream p ts) (hw : TokWF ts) :
    AgreesR (Gen.parser_parse fuel p) (fun p' q => Stream p' [.eof] ∧ Sentence ts q) (∀ q, ¬ Sentence ts q)
      (3 * ts.length + 2 ≤ fuel) := by
  unfold Gen.parser_parse
  refine AgreesF.recover ?_
  refine ((allSpec fuel).expr p ts hs hw).elim ?_ id ?_
  · intro hb q h
    cases h with
    | plain h => exact hb _ _ h
    | grouped h _ => exact hb _ _ h
  · rintro p1 e ⟨r, hs1, hE⟩
    have hw1 := Grammar.wf_all.2.2 hE hw
    have hlen := hE.length_lt
    obtain ⟨t2, r, rfl⟩ := hw1.exists_cons
    obtain ⟨p2, i2, h2, hs2, hi2⟩ := parser_peek_spec hs1
    obtain ⟨p3, i3, h3, hs3, hi3⟩ := parser_next_spec hs2
    obtain ⟨p2', i2', h2', hs2', hi2'⟩ := parser_peek_spec hs2
    simp only [h2, h3, h2', typ_beq hi2, typ_beq hi2', bne, code_semi, code_eof]
    by_cases hsemi : t2 = .semi
    · subst hsemi
      have hw3 := hw1.tail rfl
      simp only [decide_true, if_true]
      refine (@parseFieldList_agreesF fuel p3 r hs3 hw3).elim ?_ ?_ ?_
      · intro hb q h
        cases h with
        | plain h => cases (hE.unique h).2
        | grouped h hf => obtain ⟨-, hr⟩ := hE.unique h; cases hr; exact hb _ _ hf
      · intro he; show ¬ _; simp only [List.length_cons] at hlen; omega
      · rintro p4 fs ⟨r2, hs4, hF⟩
        have hw4 := hF.wf hw3
        obtain ⟨t5, r2, rfl⟩ := hw4.exists_cons
        obtain ⟨p5, i5, h5, hs5, hi5⟩ := parser_peek_spec hs4
        simp only [h5, typ_beq hi5, code_eof]
        by_cases heof : t5 = .eof
        · subst heof
          obtain rfl := hw4.shape.eq_nil rfl
          simp only [decide_true, Bool.not_true, Bool.false_eq_true, if_false, agreesF_ok]
          exact ⟨hs5, .grouped hE hF⟩
        · simp only [heof, decide_false, Bool.not_false, if_true]
          intro q h
          cases h with
          | plain h => cases (hE.unique h).2
          | grouped h hf =>
            obtain ⟨-, hr⟩ := hE.unique h; cases hr
            obtain ⟨-, hr⟩ := hF.unique hf; cases hr
            exact heof rfl
    · simp only [hsemi, decide_false, if_false, Bool.false_eq_true]
      by_cases heof : t2 = .eof
      · subst heof
        obtain rfl := hw1.shape.eq_nil rfl
        simp only [decide_true, Bool.not_true, Bool.false_eq_true, if_false, agreesF_ok]
        exact ⟨hs2', .plain hE⟩
      · simp only [heof, decide_false, Bool.not_false, if_true]
        intro q h
        cases h with
        | plain h => obtain ⟨-, hr⟩ := hE.unique h; cases hr; exact heof rfl
        | grouped h hf => obtain ⟨-, hr⟩ := hE.unique h; cases hr; exact hsemi rfl

/-! ### the theorems, one per generated parse function

Hypotheses everywhere: the parser state stands in front of `ts` (`Stream p ts`), `ts` is a lexer output
(`TermShape ts`: it ends with its only `eof` / `error` token) whose placeholders consist of digits (`TokOK`). -/

section
variable {p : Gen.Parser} {ts : List Tok}

theorem parseComparison_agrees {c : Bytes} {ts' : List Tok} (hts : ts = .field c :: ts') (hs : Stream p ts)
    (hshape : TermShape ts) (hok : ∀ t ∈ ts, TokOK t) :
    Agrees (Gen.parser_parseComparison p) (fun p' e => ∃ r, Stream p' r ∧ Simple ts e r)
      (∀ e r, ¬ Simple ts e r) := by
  subst hts; exact (parseComparison_agreesF hs ⟨hshape, hok⟩).agrees

theorem parseSimpleExpr_agrees (fuel : Nat) (hs : Stream p ts) (hshape : TermShape ts) (hok : ∀ t ∈ ts, TokOK t) :
    Agrees (Gen.parser_parseSimpleExpr fuel p) (fun p' e => ∃ r, Stream p' r ∧ Simple ts e r)
      (∀ e r, ¬ Simple ts e r) :=
  ((allSpec fuel).simple p ts hs ⟨hshape, hok⟩).agrees

theorem parseExpr_agrees (fuel : Nat) (hs : Stream p ts) (hshape : TermShape ts) (hok : ∀ t ∈ ts, TokOK t) :
    Agrees (Gen.parser_parseExpr fuel p) (fun p' e => ∃ r, Stream p' r ∧ Grammar.Expr ts e r)
      (∀ e r, ¬ Grammar.Expr ts e r) :=
  ((allSpec fuel).expr p ts hs ⟨hshape, hok⟩).agrees

/-- `parseGroupedExpr` is called in front of `(`: it parses the simple-expr `'(' expr ')'` -/
theorem parseGroupedExpr_agrees (fuel : Nat) {ts' : List Tok} (hts : ts = .lparen :: ts') (hs : Stream p ts)
    (hshape : TermShape ts) (hok : ∀ t ∈ ts, TokOK t) :
    Agrees (Gen.parser_parseGroupedExpr fuel p) (fun p' e => ∃ r, Stream p' r ∧ Simple ts e r)
      (∀ e r, ¬ Simple ts e r) := by
  subst hts; exact ((allSpec fuel).grouped p ts' hs ⟨hshape, hok⟩).agrees

/-- the loop of `parseAndExpr` with accumulator `exprs`: it appends the operands of `{ '&' simple-expr }` (`Tail`:
    nothing if the next token is not `&`, otherwise `&` and a greedy `Chain`) -/
theorem parseAndExpr_loop1_agrees (fuel : Nat) (exprs : List PExpr) (hs : Stream p ts) (hshape : TermShape ts)
    (hok : ∀ t ∈ ts, TokOK t) :
    Agrees (Gen.parser_parseAndExpr_loop1 fuel p exprs)
      (fun p' res => ∃ es r, res = exprs ++ es ∧ Stream p' r ∧ Tail .and ts es r) (∀ es r, ¬ Tail .and ts es r) :=
  ((allSpec fuel).andLoop p ts exprs hs ⟨hshape, hok⟩).agrees

theorem parseOrExpr_loop1_agrees (fuel : Nat) (exprs : List PExpr) (hs : Stream p ts) (hshape : TermShape ts)
    (hok : ∀ t ∈ ts, TokOK t) :
    Agrees (Gen.parser_parseOrExpr_loop1 fuel p exprs)
      (fun p' res => ∃ es r, res = exprs ++ es ∧ Stream p' r ∧ Tail .or ts es r) (∀ es r, ¬ Tail .or ts es r) :=
  ((allSpec fuel).orLoop p ts exprs hs ⟨hshape, hok⟩).agrees

/-- `parseAndExpr` is called in front of `&` with the first operand already parsed -/
theorem parseAndExpr_agrees (fuel : Nat) (first : PExpr) {ts' : List Tok} (hts : ts = .and :: ts')
    (hs : Stream p ts) (hshape : TermShape ts) (hok : ∀ t ∈ ts, TokOK t) :
    Agrees (Gen.parser_parseAndExpr fuel p first)
      (fun p' e => ∃ es r, e = .and (first :: es) ∧ Stream p' r ∧ Chain .and ts' es r)
      (∀ es r, ¬ Chain .and ts' es r) := by
  subst hts; exact ((allSpec fuel).andExpr p ts' first hs ⟨hshape, hok⟩).agrees

theorem parseOrExpr_agrees (fuel : Nat) (first : PExpr) {ts' : List Tok} (hts : ts = .or :: ts')
    (hs : Stream p ts) (hshape : TermShape ts) (hok : ∀ t ∈ ts, TokOK t) :
    Agrees (Gen.parser_parseOrExpr fuel p first)
      (fun p' e => ∃ es r, e = .or (first :: es) ∧ Stream p' r ∧ Chain .or ts' es r)
      (∀ es r, ¬ Chain .or ts' es r) := by
  subst hts; exact ((allSpec fuel).orExpr p ts' first hs ⟨hshape, hok⟩).agrees

theorem parseFieldList_loop1_agrees (fuel : Nat) (fields : List Bytes) (hs : Stream p ts) (hshape : TermShape ts)
    (hok : ∀ t ∈ ts, TokOK t) :
    Agrees (Gen.parser_parseFieldList_loop1 fuel p fields)
      (fun p' res => ∃ fs r, res = fields ++ fs ∧ Stream p' r ∧ FieldsRest ts fs r)
      (∀ fs r, ¬ FieldsRest ts fs r) :=
  (fieldLoop_agreesF fuel p ts fields hs ⟨hshape, hok⟩).agrees

theorem parseFieldList_agrees (fuel : Nat) (hs : Stream p ts) (hshape : TermShape ts) (hok : ∀ t ∈ ts, TokOK t) :
    Agrees (Gen.parser_parseFieldList fuel p) (fun p' fs => ∃ r, Stream p' r ∧ FieldList ts fs r)
      (∀ fs r, ¬ FieldList ts fs r) :=
  (parseFieldList_agreesF hs ⟨hshape, hok⟩).agrees

theorem parseToks_none_iff {ts : List Tok} : parseToks ts = none ↔ ∀ q, ¬ Sentence ts q := by
  constructor
  · intro h q hq; rw [parseToks_iff.mpr hq] at h; cases h
  · intro h
    cases hq : parseToks ts with
    | none => rfl
    | some q => exact absurd (parseToks_iff.mp hq) (h q)

/-- `parser.parse` (behind its `defer p.recover(&err)`): the model's `parseToks`, unless the fuel ran out -/
theorem parse_agrees (fuel : Nat) (hs : Stream p ts) (hshape : TermShape ts) (hok : ∀ t ∈ ts, TokOK t) :
    (match Gen.parser_parse fuel p with
     | .ok (p', q) => Stream p' [.eof] ∧ parseToks ts = some q
     | .error .returned => parseToks ts = none
     | .error .fuel => True
     | .error .panic => False) :=
  (parse_agreesR (fuel := fuel) hs ⟨hshape, hok⟩).elim parseToks_none_iff.mpr (fun _ => trivial)
    fun _ _ h => ⟨h.1, parseToks_iff.mpr h.2⟩

/-- the same as a disjunction -/
theorem parse_agrees' (fuel : Nat) (hs : Stream p ts) (hshape : TermShape ts) (hok : ∀ t ∈ ts, TokOK t) :
    Gen.parser_parse fuel p = .error .fuel ∨
    (∃ p' q, Gen.parser_parse fuel p = .ok (p', q) ∧ parseToks ts = some q) ∨
    (Gen.parser_parse fuel p = .error .returned ∧ parseToks ts = none) :=
  (parse_agreesR (fuel := fuel) hs ⟨hshape, hok⟩).elim (fun h => .inr (.inr ⟨rfl, parseToks_none_iff.mpr h⟩))
    (fun _ => .inl rfl) fun _ _ h => .inr (.inl ⟨_, _, rfl, parseToks_iff.mpr h.2⟩)

/-! ### in terms of the model functions -/

theorem parseSimple_none_of {ts : List Tok} (h : ∀ e r, ¬ Simple ts e r) (f : Nat) : parseSimple f ts = none := by
  cases hq : parseSimple f ts with
  | none => rfl
  | some er => exact absurd ((parse_sound_all f).1 ts er.1 er.2 hq) (h _ _)

theorem parseExpr_none_of {ts : List Tok} (h : ∀ e r, ¬ Grammar.Expr ts e r) (f : Nat) : parseExpr f ts = none := by
  cases hq : parseExpr f ts with
  | none => rfl
  | some er => exact absurd ((parse_sound_all f).2.1 ts er.1 er.2 hq) (h _ _)

theorem parseFieldList_none_of {ts : List Tok} (h : ∀ fs r, ¬ FieldList ts fs r) : parseFieldList ts = none := by
  cases hq : parseFieldList ts with
  | none => rfl
  | some er => exact absurd (parseFieldList_iff.mp hq) (h _ _)

theorem parseSimpleExpr_model (fuel : Nat) (hs : Stream p ts) (hshape : TermShape ts) (hok : ∀ t ∈ ts, TokOK t) :
    (match Gen.parser_parseSimpleExpr fuel p with
     | .ok (p', e) => ∃ r, Stream p' r ∧ parseSimple ts.length ts = some (e, r)
     | .error .panic => ∀ f, parseSimple f ts = none
     | .error .fuel => True
     | .error .returned => False) :=
  ((allSpec fuel).simple p ts hs ⟨hshape, hok⟩).elim parseSimple_none_of (fun _ => trivial)
    fun _ _ ⟨r, hsr, hS⟩ => ⟨r, hsr, hS.parse ts.length (Nat.le_add_right _ _)⟩

theorem parseExpr_model (fuel : Nat) (hs : Stream p ts) (hshape : TermShape ts) (hok : ∀ t ∈ ts, TokOK t) :
    (match Gen.parser_parseExpr fuel p with
     | .ok (p', e) => ∃ r, Stream p' r ∧ parseExpr (ts.length + 1) ts = some (e, r)
     | .error .panic => ∀ f, parseExpr f ts = none
     | .error .fuel => True
     | .error .returned => False) :=
  ((allSpec fuel).expr p ts hs ⟨hshape, hok⟩).elim parseExpr_none_of (fun _ => trivial)
    fun _ _ ⟨r, hsr, hE⟩ => ⟨r, hsr, hE.parse (ts.length + 1) (Nat.le_add_right _ _)⟩

theorem parseFieldList_model (fuel : Nat) (hs : Stream p ts) (hshape : TermShape ts) (hok : ∀ t ∈ ts, TokOK t) :
    (match Gen.parser_parseFieldList fuel p with
     | .ok (p', fs) => ∃ r, Stream p' r ∧ parseFieldList ts = some (fs, r)
     | .error .panic => parseFieldList ts = none
     | .error .fuel => True
     | .error .returned => False) :=
  (parseFieldList_agreesF hs ⟨hshape, hok⟩).elim parseFieldList_none_of (fun _ => trivial)
    fun _ _ ⟨r, hsr, hF⟩ => ⟨r, hsr, parseFieldList_iff.mpr hF⟩

/-! ### fuel suffices: a bound linear in the number of tokens -/

theorem parseSimpleExpr_fuel_ok {fuel : Nat} (hs : Stream p ts) (hshape : TermShape ts) (hok : ∀ t ∈ ts, TokOK t)
    (h : 3 * ts.length + 1 ≤ fuel) : Gen.parser_parseSimpleExpr fuel p ≠ .error .fuel :=
  ((allSpec fuel).simple p ts hs ⟨hshape, hok⟩).fuel_ok h

theorem parseExpr_fuel_ok {fuel : Nat} (hs : Stream p ts) (hshape : TermShape ts) (hok : ∀ t ∈ ts, TokOK t)
    (h : 3 * ts.length + 2 ≤ fuel) : Gen.parser_parseExpr fuel p ≠ .error .fuel :=
  ((allSpec fuel).expr p ts hs ⟨hshape, hok⟩).fuel_ok h

theorem parseAndExpr_loop1_fuel_ok {fuel : Nat} (exprs : List PExpr) (hs : Stream p ts) (hshape : TermShape ts)
    (hok : ∀ t ∈ ts, TokOK t) (h : 3 * ts.length + 1 ≤ fuel) :
    Gen.parser_parseAndExpr_loop1 fuel p exprs ≠ .error .fuel :=
  ((allSpec fuel).andLoop p ts exprs hs ⟨hshape, hok⟩).fuel_ok h

theorem parseOrExpr_loop1_fuel_ok {fuel : Nat} (exprs : List PExpr) (hs : Stream p ts) (hshape : TermShape ts)
    (hok : ∀ t ∈ ts, TokOK t) (h : 3 * ts.length + 1 ≤ fuel) :
    Gen.parser_parseOrExpr_loop1 fuel p exprs ≠ .error .fuel :=
  ((allSpec fuel).orLoop p ts exprs hs ⟨hshape, hok⟩).fuel_ok h

theorem parseFieldList_fuel_ok {fuel : Nat} (hs : Stream p ts) (hshape : TermShape ts) (hok : ∀ t ∈ ts, TokOK t)
    (h : ts.length ≤ fuel) : Gen.parser_parseFieldList fuel p ≠ .error .fuel :=
  (parseFieldList_agreesF hs ⟨hshape, hok⟩).fuel_ok h

theorem parse_fuel_ok {fuel : Nat} (hs : Stream p ts) (hshape : TermShape ts) (hok : ∀ t ∈ ts, TokOK t)
    (h : 3 * ts.length + 2 ≤ fuel) : Gen.parser_parse fuel p ≠ .error .fuel :=
  (parse_agreesR (fuel := fuel) hs ⟨hshape, hok⟩).elim (fun _ => nofun) (fun he => absurd h he) (fun _ _ _ => nofun)

end

/-! ### examples: the generated functions, run on concrete item lists -/

namespace ParserEx

/-- a parser in front of the given items (what `newParser` builds once the lexer has run) -/
def parserOn (items : List Gen.Item) : Gen.Parser :=
  { lexer := { Gen.Lexer.zero with items := items }, token := Gen.Parser.zero.token, peekCount := 0 }

def it (typ : Int) : Gen.Item := { typ := typ, pos := 0, val := [] }
def itv (typ : Int) (val : Bytes) : Gen.Item := { typ := typ, pos := 0, val := val }

/-- `a="x"` -/
def exItems1 : List Gen.Item :=
  [itv Gen.itemField [97], it Gen.itemEqual, itv Gen.itemValue [34, 120, 34], it Gen.itemEOF]

/-- `(a="x"|b=$2)&^c="y""z";a,b` -/
def exItems2 : List Gen.Item :=
  [it Gen.itemOpenParen, itv Gen.itemField [97], it Gen.itemEqual, itv Gen.itemValue [34, 120, 34], it Gen.itemOr,
   itv Gen.itemField [98], it Gen.itemEqual, itv Gen.itemPlaceholder [36, 50], it Gen.itemCloseParen, it Gen.itemAnd,
   it Gen.itemNot, itv Gen.itemField [99], it Gen.itemEqual, itv Gen.itemValue [34, 121, 34, 34, 122, 34],
   it Gen.itemSemicolon, itv Gen.itemField [97], it Gen.itemComma, itv Gen.itemField [98], it Gen.itemEOF]

/-- `a="x"&b=$2|c="y"`: `&` and `|` mixed without parentheses -/
def exItems3 : List Gen.Item :=
  [itv Gen.itemField [97], it Gen.itemEqual, itv Gen.itemValue [34, 120, 34], it Gen.itemAnd,
   itv Gen.itemField [98], it Gen.itemEqual, itv Gen.itemPlaceholder [36, 50], it Gen.itemOr,
   itv Gen.itemField [99], it Gen.itemEqual, itv Gen.itemValue [34, 121, 34], it Gen.itemEOF]

/-- `a=$0`: placeholder numbers start at 1 -/
def exItems4 : List Gen.Item :=
  [itv Gen.itemField [97], it Gen.itemEqual, itv Gen.itemPlaceholder [36, 48], it Gen.itemEOF]

mutual
/-- structural equality test on `PExpr` (which has no `DecidableEq`), for the examples -/
def peq : PExpr → PExpr → Bool
  | .eq c v n, .eq c' v' n' => c == c' && v == v' && n == n'
  | .not e, .not e' => peq e e'
  | .and es, .and es' => peqs es es'
  | .or es, .or es' => peqs es es'
  | _, _ => false
def peqs : List PExpr → List PExpr → Bool
  | [], [] => true
  | e :: es, e' :: es' => peq e e' && peqs es es'
  | _, _ => false
end

mutual
theorem peq_sound : (a b : PExpr) → peq a b = true → a = b
  | .eq c v n, .eq c' v' n', h => by
    simp only [peq, Bool.and_eq_true, beq_iff_eq] at h
    obtain ⟨⟨rfl, rfl⟩, rfl⟩ := h; rfl
  | .not e, .not e', h => by rw [peq] at h; rw [peq_sound e e' h]
  | .and es, .and es', h => by rw [peq] at h; rw [peqs_sound es es' h]
  | .or es, .or es', h => by rw [peq] at h; rw [peqs_sound es es' h]
  | .eq .., .not .., h | .eq .., .and .., h | .eq .., .or .., h
  | .not .., .eq .., h | .not .., .and .., h | .not .., .or .., h
  | .and .., .eq .., h | .and .., .not .., h | .and .., .or .., h
  | .or .., .eq .., h | .or .., .not .., h | .or .., .and .., h => nomatch h
theorem peqs_sound : (as bs : List PExpr) → peqs as bs = true → as = bs
  | [], [], _ => rfl
  | e :: es, e' :: es', h => by
    simp only [peqs, Bool.and_eq_true] at h
    rw [peq_sound e e' h.1, peqs_sound es es' h.2]
  | [], _ :: _, h | _ :: _, [], h => nomatch h
end

/-- structural equality test on `PQuery` -/
def pqeq (a b : PQuery) : Bool := peq a.expr b.expr && a.groupBy == b.groupBy

theorem pqeq_sound (a b : PQuery) (h : pqeq a b = true) : a = b := by
  obtain ⟨e, g⟩ := a; obtain ⟨e', g'⟩ := b
  simp only [pqeq, Bool.and_eq_true, beq_iff_eq] at h
  rw [peq_sound e e' h.1, h.2]

/-- the expression a parse function answered is `e` -/
def answersExpr (res : Go.Res (Gen.Parser × PExpr)) (e : PExpr) : Bool :=
  match res with
  | .ok (_, e') => peq e' e
  | _ => false

/-- the query `parser.parse` answered is `q` -/
def answersQuery (res : Go.Res (Gen.Parser × PQuery)) (q : PQuery) : Bool :=
  match res with
  | .ok (_, q') => pqeq q' q
  | _ => false

/-- how many items a parse function left unread (buffered look-ahead included) -/
def leftOver {α : Type} (res : Go.Res (Gen.Parser × α)) : Option Nat :=
  match res with
  | .ok (p', _) => some (pending p').length
  | _ => none

def failure {α : Type} (res : Go.Res α) : Option Go.Err4 :=
  match res with
  | .ok _ => none
  | .error e => some e

example : answersExpr (Gen.parser_parseSimpleExpr 4 (parserOn exItems1)) (.eq [97] [120] 0) = true := by
  decide +kernel

example : leftOver (Gen.parser_parseSimpleExpr 4 (parserOn exItems1)) = some 1 := by decide +kernel

example : answersQuery (Gen.parser_parse 20 (parserOn exItems1)) ⟨.eq [97] [120] 0, []⟩ = true := by
  decide +kernel

example : answersQuery (Gen.parser_parse 59 (parserOn exItems2))
    ⟨.and [.or [.eq [97] [120] 0, .eq [98] [] 2], .not (.eq [99] [121, 34, 122] 0)], [[97], [98]]⟩ = true := by
  decide +kernel

/-- the and-expr stops in front of `|`; `parseExpr` answers with the and-node and leaves `|c="y"` unread -/
example : answersExpr (Gen.parser_parseExpr 40 (parserOn exItems3)) (.and [.eq [97] [120] 0, .eq [98] [] 2]) = true := by
  decide +kernel

example : leftOver (Gen.parser_parseExpr 40 (parserOn exItems3)) = some 5 := by decide +kernel

/-- … so the whole query is rejected: `p.errorf` panics, `p.recover` turns the panic into the returned error -/
example : failure (Gen.parser_parse 40 (parserOn exItems3)) = some .returned := by decide +kernel

example : failure (Gen.parser_parseSimpleExpr 10 (parserOn exItems4)) = some .panic := by decide +kernel

/-- not enough fuel (`parse_fuel_ok` asks for `3 * 19 + 2 = 59` for these 19 items; their nesting depth needs 7) -/
example : failure (Gen.parser_parse 6 (parserOn exItems2)) = some .fuel := by decide +kernel

example : failure (Gen.parser_parse 7 (parserOn exItems2)) = none := by decide +kernel

end ParserEx

#print axioms parser_peek_spec
#print axioms parser_next_spec
#print axioms parseComparison_agrees
#print axioms parseSimpleExpr_agrees
#print axioms parseExpr_agrees
#print axioms parseGroupedExpr_agrees
#print axioms parseAndExpr_loop1_agrees
#print axioms parseAndExpr_agrees
#print axioms parseOrExpr_loop1_agrees
#print axioms parseOrExpr_agrees
#print axioms parseFieldList_loop1_agrees
#print axioms parseFieldList_agrees
#print axioms parse_agrees
#print axioms parse_agrees'
#print axioms parseSimpleExpr_model
#print axioms parseExpr_model
#print axioms parseFieldList_model
#print axioms parseSimpleExpr_fuel_ok
#print axioms parseExpr_fuel_ok
#print axioms parseFieldList_fuel_ok
#print axioms parse_fuel_ok

end Updog.GeneratedEq
