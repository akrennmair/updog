/-
COMPOSITION of the per-function equivalences of `Updog/Props/Gen/*.lean`.

Each file there proves one regenerated function (`Updog/GeneratedFns.lean`, namespace `Updog.Gen`) equal to its
hand-written model under refinement hypotheses (`GetColRefines`, `GroupByRefines`, "`exec` agrees with
`serverExecute`", an `execute` parameter …) that those files discharge only with model-built instances. Here the
hypotheses of one theorem are discharged by the OTHER GENERATED functions:

1. library query path: `Gen.execute` over the generated `eval` / `cacheKey` / `validateExpr` knots, the generated
   `populateGroupBy` / `groupBy`, and the generated getters of the index returned by the generated
   `OpenIndexFromBoltDatabase` — on the file written by the generated `AddRow` + `WriteToBoltDatabase` — equals
   `executeC`, and (with C01 / C02 / C03) the SQL specification;
2. server path: `Gen.serverQuery` over `Gen.ToQuery` → that `Execute` → result equals the batch semantics of
   `Model/Server.lean`;
3. driver path: text → `Gen.ParseQuery` → `Gen.stmtQuery` over that `Execute` → `Gen.newRows` equals the rows of the
   SQL specification (C12), for every DSN option combination.

Helper lemmas: `Updog/Proofs/GenCompose.lean`.
-/
import Updog.Proofs.GenCompose
import Updog.Props.EndToEnd
import Updog.Props.C12Compose
import Updog.Props.C13
import Updog.Props.C14

namespace Updog.GenCompose
open Updog.GeneratedEq Updog.Go.T3

/-! ## 1. the library query path -/

/-! ### 1a. the refinement hypotheses of `Props/Gen/Eval.lean`, discharged by generated functions -/

/-- **`GetColRefines` for the generated on-demand getter**: `Gen.onDemandGetCol` over an open database whose bucket
    `data` has value keys `'V' ‖ be64 valueIndex`, read as query.go reads a `(*roaring.Bitmap, error)`, refines the
    model index of the file — from every state of the database handle and every heap. -/
theorem onDemand_getter_refines (X : Ext) (i n : Nat) (c : Buckets) (cs : List (List PutRec)) (hp : Heap)
    (d : BucketData) (s : SchemaVal) (next : UInt32)
    (hb : bucketsGet c dataName = some d) (wk : WellKeyed d) (hnil : X.roaringFromBuffer [] = none) :
    GetColRefines (genOnDemandGetter X (idle i n c cs) hp { db := some i }) (fileIndex X d s next) := by
  apply refines_of_onDemandAnswer
  intro k
  have := (onDemandGetCol_eq X i n c cs hp d k hb wk hnil).1
  rw [answerOf_goAnswer] at this
  exact this

/-- **`GetColRefines` for the generated preloaded getter**: the getter `Gen.newPreloadedColGetter` returns, asked with
    `Gen.preloadedGetCol`, refines the model index of the file, when the bucket is in bbolt's key order (`SortedData`). -/
theorem preloaded_getter_refines (X : Ext) (i n : Nat) (c : Buckets) (cs : List (List PutRec)) (hp : Heap)
    (d : BucketData) (s : SchemaVal) (next : UInt32)
    (hb : bucketsGet c dataName = some d) (hs : SortedData d) (wk : WellKeyed d) (cg : PreloadedColGetter)
    (hcg : (Gen.newPreloadedColGetter X (idle i n c cs) hp (some i)).2.2.1 = .preloaded cg) :
    GetColRefines (genPreloadedGetter (Gen.newPreloadedColGetter X (idle i n c cs) hp (some i)).2.1 cg)
      (fileIndex X d s next) := by
  have hsp := (newPreloadedColGetter_eq X i n c cs hp d hb hs).2
  cases hpo : preloadOpen (imageOfData X d) with
  | none =>
    rw [hpo] at hsp
    rw [hcg] at hsp
    simp [ColGetter.isNil] at hsp
  | some gf =>
    rw [hpo] at hsp
    obtain ⟨_, cg', e1, e2⟩ := hsp
    rw [hcg] at e1
    injection e1 with e1
    subst e1
    refine refines_of_preloadedAnswer _ _ s next.toNat gf hpo (imageOfData_keys_nodup X d hs wk) ?_
    intro k
    have := preloadedGetCol_eq (Gen.newPreloadedColGetter X (idle i n c cs) hp (some i)).2.1 cg k
    rw [e2, answerOf_goAnswer] at this
    exact this

/-- **the generated open hands query.go an index that refines the model index of the file**, for
    `OpenIndex(file)` and `OpenIndex(file, WithPreloadedData())`: the call succeeds, the database stays open, the
    returned `*Index` carries the decoded schema and counter, and its `values.GetCol` (dispatched over the two
    generated getters) satisfies `GetColRefines`. -/
theorem opened_index_refines (X : Ext) (i n : Nat) (c : Buckets) (cs : List (List PutRec)) (hp : Heap)
    (d : BucketData) (s : SchemaVal) (next : UInt32) (ok : FileOK X c d s next)
    (hnil : X.roaringFromBuffer [] = none) (preload : Bool)
    (hs : preload = true → SortedData d) (hdec : preload = true → vDecodable X d = true) :
    ∃ n' hp' vals, Gen.openIndexFromBoltDatabase X (idle i n c cs) hp (some i) (openOpts X preload)
        = (idle i n' c cs, hp', some (openedIndex i s next vals), none) ∧
      GetColRefines (genGetCol X (idle i n' c cs) hp' vals) (fileIndex X d s next) := by
  cases preload with
  | false =>
    refine ⟨n + 1, hp, _, open_noPreload_ok X i n c cs hp d s next ok, ?_⟩
    exact onDemand_getter_refines X i (n + 1) c cs hp d s next ok.bucket ok.wellKeyed hnil
  | true =>
    obtain ⟨cg, hcg, hopen⟩ := open_preload_ok X i n c cs hp d s next ok (hs rfl) (hdec rfl)
    refine ⟨n + 2, _, _, hopen, ?_⟩
    exact preloaded_getter_refines X i (n + 1) c cs hp d s next ok.bucket (hs rfl) ok.wellKeyed cg hcg

/-- **`GroupByRefines` for the generated `populateGroupBy` + `groupBy`**, in the form `GroupByRefinesBelow` (the
    unrestricted form is false of them: `groupByRefines_unrestricted_false`): over every getter that refines the index,
    an unknown column fails, and otherwise the hidden state left by `populateGroupBy` makes `groupBy` compute the
    model's groups. -/
theorem generated_groupBy_refines (ix : Updog.Index) (sch : Gen.schema) (hs : schemaOf sch = ix.schema)
    (g : UInt64 → Option Nat × Bool) (hg : GetColRefines g ix) :
    GroupByRefinesBelow ix (genPop sch) (fun q bm => (genGrp g q bm).map groupOf) := by
  intro q cols
  have hp := populateGroupBy_pure q cols sch
  rw [hs] at hp
  rw [← hp]
  unfold popOut genPop
  cases he : (Gen.Query_populateGroupBy q cols sch).1 with
  | some e => simp
  | none =>
    simp only [Option.isSome_none, true_and]
    intro bm hbm
    unfold genGrp
    rw [errToNone_eq hg]
    exact GeneratedEq.groupBy_eq ix _ bm hbm

/-- **FINDING: the unrestricted `GroupByRefines` cannot be discharged by the generated functions.** There is an index
    (one column, one value whose bitmap has 2^64 members), a generated schema and a getter refining it for which
    `GroupByRefines ix (genPop sch) (genGrp g …)` is false: the generated `groupBy` tests and reports
    `GetCardinality()` as a `uint64` (2^64 wraps to 0, the group is dropped), the model counts in `Nat`. Roaring bitmaps
    hold at most 2^32 row ids, so this is an artefact of modelling bitmaps as unbounded `Nat`s — but it is why
    `execute_eq_executeC` of Props/Gen/Eval.lean can only be instantiated with model-built group-by functions. -/
theorem groupByRefines_unrestricted_false :
    ∃ (ix : Updog.Index) (sch : Gen.schema) (g : UInt64 → Option Nat × Bool),
      schemaOf sch = ix.schema ∧ GetColRefines g ix ∧
      ¬ GroupByRefines ix (genPop sch) (fun q bm => (genGrp g q bm).map groupOf) := by
  obtain ⟨B, hB⟩ : ∃ B, popcount B = 2 ^ 64 := ⟨2 ^ (2 ^ 64) - 1, popcount_ones _⟩
  have hcard : Go.bmCard B = 0 := by
    unfold Go.bmCard
    rw [Go.bmPopcount_eq, hB]
    rfl
  refine ⟨⟨[([97], [([120], 0)])], 0, fun _ => some B⟩, schemaTo [([97], [([120], 0)])], fun _ => (some B, false),
    schemaOf_schemaTo _, fun k => by simp only [Bool.false_eq_true, ↓reduceIte], fun h => ?_⟩
  have h1 := h [] [[97]]
  have hp : populateGroupBy [([97], [([120], (0 : UInt64))])] [[97]] = some [⟨[97], [([120], 0)]⟩] := by
    simp only [populateGroupBy, Schema.col, BEq.rfl, ↓reduceIte, Option.map_some, sortVals, List.mergeSort_singleton]
  have hq : (genPop (schemaTo [([97], [([120], (0 : UInt64))])]) [] [[97]]).1 = [⟨[97], [⟨[120], 0⟩]⟩] := by decide
  simp only [hp, hq] at h1
  have h2 := h1.2 B
  -- the generated loop drops the one group (its cardinality as a `uint64` is 0), the model keeps it with count 2^64
  simp only [genGrp, Gen.Query_groupBy, Go.len, List.length_cons, List.length_nil, Nat.zero_add,
    Int.cast_ofNat_Int, Int.reduceBEq, Bool.false_eq_true, ↓reduceIte, errToNone, Go.bmAnd, beq_iff_eq, List.foldl_cons,
    List.foldl_nil, Nat.and_self, hcard, List.map_nil, groupBy, List.isEmpty_cons, refine,
    List.flatMap_cons, hB, Nat.reducePow, reduceCtorEq, List.nil_append,
    Option.some.injEq, List.filterMap_cons_some, List.filterMap_nil, List.flatMap_nil, List.append_nil,
    List.map_cons, List.ne_cons_self] at h2

/-- **the generated group-by loop never meets the nil bitmap of the preloaded getter on a written file**: for every
    value of every resolved group-by field a getter that refines the index returns a non-nil bitmap whenever it returns
    no error — so reading `(nil, nil)` as "skip" in `Gen.Query_groupBy` (where Go would dereference nil) is harmless. -/
theorem groupBy_never_sees_nil (H : Bytes → UInt64) (X : Ext) (rows : List Row) (d : BucketData) (next : UInt32)
    (hw : HoldsWriter X d (Writer.addRows H {} rows) next) (g : UInt64 → Option Nat × Bool)
    (hg : GetColRefines g (fileIndex X d (Writer.addRows H {} rows).schema next))
    (cols : List Bytes) (fields : List GBField)
    (hf : populateGroupBy (Writer.addRows H {} rows).schema cols = some fields) :
    ∀ gbf ∈ fields, ∀ v ∈ gbf.values, (g v.2).2 = false → (g v.2).1.isSome = true := by
  intro gbf hgbf v hv herr
  obtain ⟨b, hb⟩ := populateGroupBy_present H rows cols fields hf gbf hgbf v hv
  have hk := hg v.2
  rw [herr, hw.fileIndex_eq] at hk
  simp only [Bool.false_eq_true, if_false, Writer.toIndex] at hk
  rw [hk, hb]
  rfl

/-! ### 1b. `Execute`, instantiated entirely with generated functions, is `executeC` -/

/-- **`Gen.execute` with every parameter generated = `executeC`** (abstract knots): whatever functions `k`, `f`, `v`
    play the roles of the dynamic dispatch of `cacheKey()`, `eval(idx)` and of the recursion of `validateExpr` — if on
    every node kind they run the generated method bodies — `Execute` over the generated `populateGroupBy`/`groupBy`
    and a getter that refines the index (`onDemand_getter_refines`, `preloaded_getter_refines`) returns exactly what
    `executeC` returns: new cache state, count and groups, for every cache implementation and state and every stale
    hidden state of the query object. -/
theorem execute_all_generated_eq_executeC (H : Bytes → UInt64) {σ : Type} (C : CacheImpl σ) (ix : Updog.Index)
    (g : UInt64 → Option Nat × Bool) (hg : GetColRefines g ix) (hnext : ix.next < 2 ^ 32)
    (sch : Gen.schema) (hsch : schemaOf sch = ix.schema)
    {k : Expr → UInt64} (hk : IsGenKey H k)
    {f : Expr → σ → σ × Option Nat}
    (heq : ∀ c v s, f (.eq c v) s = Gen.evalEqual H (indexEnv C ix g) c v s)
    (hnot : ∀ e s, f (.not e) s = Gen.evalNot H (indexEnv C ix g) k f e s)
    (hand : ∀ es s, f (.and es) s = Gen.evalAnd H (indexEnv C ix g) k f es s)
    (hor : ∀ es s, f (.or es) s = Gen.evalOr H (indexEnv C ix g) k f es s)
    {v : Expr → Bool} (hv : IsGenValidate exprCase v)
    (q : Query) (stale : List Gen.groupBy) (s : σ)
    (hcard : ∀ bm, (evalC H C ix s q.expr).2 = some bm → popcount bm < 2 ^ 64) :
    execView (Gen.execute (indexEnv C ix g) (genPop sch) v f (genGrp g) q.expr q.groupBy stale s)
      = executeC H C ix s q := by
  exact execute_view H C ix g (genPop sch) (genGrp g) (generated_groupBy_refines ix sch hsch g hg) v f q.expr q.groupBy
    (some q.expr) (hv.expr q.expr) stale s
    (fun e he => by cases he; exact gen_eval_eq_evalC H C ix g hk heq hnot hand hor hg hnext q.expr s)
    (fun e he => by cases he; exact hcard)

/-- **`Execute` on the index the generated open returned = `executeC`** (executable knots, Go `Expression` values with
    possibly nil operands): `genExecute` runs the generated `Execute` body with the generated `validateExpr` / `eval` /
    `cacheKey` knots, the generated `populateGroupBy` / `groupBy`, and the generated getter of the opened index
    (`genIndexEnv`). A tree with a nil operand is rejected before the cache is touched; every other query is answered
    like `executeC` on the model index of the file, cache state included. -/
theorem genExecute_eq_executeC (H : Bytes → UInt64) {σ : Type} (C : CacheImpl σ) (X : Ext) (bolt : Bolt) (hp : Heap)
    (i : Nat) (d : BucketData) (s : SchemaVal) (next : UInt32) (vals : ColGetter)
    (hg : GetColRefines (genGetCol X bolt hp vals) (fileIndex X d s next))
    (q : Go.Lib.Query) (stale : List Gen.groupBy) (st : σ)
    (hcard : ∀ e, libComplete q.Expr = some e → ∀ bm, (evalC H C (fileIndex X d s next) st e).2 = some bm →
      popcount bm < 2 ^ 64) :
    execView (genExecute H C X bolt hp (openedIndex i s next vals) q stale st) =
      match libComplete q.Expr with
      | none => (st, none)
      | some e => executeC H C (fileIndex X d s next) st ⟨e, q.GroupBy⟩ := by
  unfold genExecute
  rw [genIndexEnv_eq C X bolt hp i d s next vals, indexEnv_getCol]
  exact execute_view H C (fileIndex X d s next) (genGetCol X bolt hp vals) (genPop (schemaTo s))
    (genGrp (genGetCol X bolt hp vals)) (generated_groupBy_refines _ (schemaTo s) (schemaOf_schemaTo s) _ hg)
    (genValidate libCase (libDepth q.Expr))
    (libEval H (indexEnv C (fileIndex X d s next) (genGetCol X bolt hp vals)) (libDepth q.Expr))
    q.Expr q.GroupBy (libComplete q.Expr) (genValidate_lib _ _ (Nat.le_refl _)) stale st
    (fun e he => libEval_eq H C _ _ hg (fileIndex_next_lt X d s next) _ _ e he (Nat.le_refl _) st) hcard

/-! ### 1c. … and therefore the SQL specification -/

section written
variable (H : Bytes → UInt64) (X : Ext) (bolt : Bolt) (hp : Heap) (i : Nat) (d : BucketData) (next : UInt32)
  (vals : ColGetter) {w : Writer} (hw : HoldsWriter X d w next)
  (hg : GetColRefines (genGetCol X bolt hp vals) (fileIndex X d w.schema next))
  (hfit : ∀ e bm, eval H w.toIndex e = some bm → popcount bm < 2 ^ 64)
include hw hg hfit

/-- core of the closing theorems: `genExecute` on a file holding the index of a writer `w` whose cardinalities fit 64
    bits, in a cache state from which the cached evaluation of this query is transparent, is the model's `executeC` on
    `w.toIndex` -/
theorem genExecute_eq_execute {σ : Type} (C : CacheImpl σ) (st : σ) (e : Expr) (cols : List Bytes)
    (stale : List Gen.groupBy) (hte : (evalC H C w.toIndex st e).2 = eval H w.toIndex e) :
    execView (genExecute H C X bolt hp (openedIndex i w.schema next vals) ⟨toLib e, cols⟩ stale st)
      = executeC H C w.toIndex st ⟨e, cols⟩ := by
  have hx := genExecute_eq_executeC H C X bolt hp i d _ next vals hg ⟨toLib e, cols⟩ stale st
  rw [hw.fileIndex_eq, libComplete_toLib] at hx
  exact hx fun _ he bm hbm => by cases he; exact hfit e bm (hte ▸ hbm)

theorem genExecuteAll_eq {σ : Type} {C : CacheImpl σ} (L : CacheLaws C) {U : List Expr} (hU : SubClosed U)
    (hkey : KeyOK H w.toIndex U) :
    ∀ (qs : List (Query × List Gen.groupBy)) (st : σ), Sound H w.toIndex U L st → (∀ p ∈ qs, p.1.expr ∈ U) →
      genExecuteAll H C X bolt hp (openedIndex i w.schema next vals)
          (qs.map fun p => (⟨toLib p.1.expr, p.1.groupBy⟩, p.2)) st
        = executeAllC H C w.toIndex st (qs.map (·.1)) := by
  intro qs
  induction qs with
  | nil => intro st _ _; rfl
  | cons p r ih =>
    intro st hst hq
    obtain ⟨⟨e, cols⟩, stale⟩ := p
    have he : e ∈ U := hq (⟨e, cols⟩, stale) (List.mem_cons_self ..)
    have h1 := genExecute_eq_execute H X bolt hp i d next vals hw hg hfit C st e cols stale
      (C03.cache_transparent L hU hkey st hst e he).1
    have hs' := (C03.execute_transparent L hU hkey st hst ⟨e, cols⟩ he).2
    simp only [List.map_cons, genExecuteAll, executeAllC, h1]
    rw [ih _ hs' (fun p hp => hq p (List.mem_cons_of_mem _ hp))]

end written

/-- **`Execute`, all generated, on a file that holds the written rows = SQL, through any lawful cache.**
    `d` holds `Writer.addRows H {} rows` (`HoldsWriter`; established for the generated writer by `written_file_holds`),
    the index was opened by the generated open (`hg`: `opened_index_refines`). For every cache implementation satisfying
    the contract `CacheLaws` (null cache, LRU of any capacity) in a sound state, every expression of a sub-expression-
    closed universe `U` on which cache keys separate meanings (`KeyOK`, e.g. no 64-bit collision among the strings hashed,
    `C03.keyOK_of_no_collision`), under the collision hypotheses of C01 / C02: the answer is the specification's
    (`specExecute`: count of satisfying rows and SQL GROUP BY), and the cache state stays sound. -/
theorem genExecute_eq_sql (H : Bytes → UInt64) (X : Ext) (rows : List Row) (bolt : Bolt) (hp : Heap) (i : Nat)
    (d : BucketData) (next : UInt32) (vals : ColGetter)
    (hw : HoldsWriter X d (Writer.addRows H {} rows) next)
    (hg : GetColRefines (genGetCol X bolt hp vals) (fileIndex X d (Writer.addRows H {} rows).schema next))
    (hlen : rows.length < 2 ^ 64)
    {σ : Type} {C : CacheImpl σ} (L : CacheLaws C) {U : List Expr} (hU : SubClosed U)
    (hkey : KeyOK H (Writer.addRows H {} rows).toIndex U) (st : σ)
    (hst : Sound H (Writer.addRows H {} rows).toIndex U L st)
    (e : Expr) (he : e ∈ U) (cols : List Bytes) (stale : List Gen.groupBy)
    (ok : EndToEnd.QueryOK H rows ⟨e, cols⟩) (hD : DataNoCollision H rows) :
    (execView (genExecute H C X bolt hp (openedIndex i (Writer.addRows H {} rows).schema next vals)
        ⟨toLib e, cols⟩ stale st)).2 = specExecute rows ⟨e, cols⟩ ∧
    Sound H (Writer.addRows H {} rows).toIndex U L
      (execView (genExecute H C X bolt hp (openedIndex i (Writer.addRows H {} rows).schema next vals)
        ⟨toLib e, cols⟩ stale st)).1 := by
  rw [genExecute_eq_execute H X bolt hp i d next vals hw hg (written_fits H rows hlen) C st e cols stale
    (C03.cache_transparent L hU hkey st hst e he).1]
  have ht := C03.execute_transparent L hU hkey st hst ⟨e, cols⟩ he
  exact ⟨ht.1.trans (C02.groupBy_eq_spec H rows e cols ok.cols ok.wf ok.inj hD ok.gb), ht.2⟩

/-- **total count (C01), all generated**: without GROUP BY the answer is exactly the number of rows satisfying the
    expression and no groups; only the collision hypothesis of `C01.count_correct` is needed. -/
theorem genExecute_count_eq_specCount (H : Bytes → UInt64) (X : Ext) (rows : List Row) (bolt : Bolt) (hp : Heap) (i : Nat)
    (d : BucketData) (next : UInt32) (vals : ColGetter)
    (hw : HoldsWriter X d (Writer.addRows H {} rows) next)
    (hg : GetColRefines (genGetCol X bolt hp vals) (fileIndex X d (Writer.addRows H {} rows).schema next))
    (hlen : rows.length < 2 ^ 64)
    {σ : Type} {C : CacheImpl σ} (L : CacheLaws C) {U : List Expr} (hU : SubClosed U)
    (hkey : KeyOK H (Writer.addRows H {} rows).toIndex U) (st : σ)
    (hst : Sound H (Writer.addRows H {} rows).toIndex U L st)
    (e : Expr) (he : e ∈ U) (stale : List Gen.groupBy)
    (hcols : ∀ c ∈ e.columns, c ∈ columnsOf rows) (hwf : e.arityPos = true) (hinj : NoCollision H rows e.pairs) :
    (execView (genExecute H C X bolt hp (openedIndex i (Writer.addRows H {} rows).schema next vals)
        ⟨toLib e, []⟩ stale st)).2 = some ⟨specCount rows e, []⟩ := by
  rw [genExecute_eq_execute H X bolt hp i d next vals hw hg (written_fits H rows hlen) C st e [] stale
    (C03.cache_transparent L hU hkey st hst e he).1, (C03.execute_transparent L hU hkey st hst ⟨e, []⟩ he).1]
  exact C01.count_correct H rows e hcols hwf hinj

/-- **every query of every history through an LRU cache of any capacity, all generated, equals SQL**
    (`EndToEnd.cached_history_equals_sql` for the generated `Execute`): `genExecuteAll` threads the cache state through
    the queries; every query object brings its own stale hidden state. -/
theorem genExecute_history_eq_sql (H : Bytes → UInt64) (X : Ext) (rows : List Row) (bolt : Bolt) (hp : Heap) (i : Nat)
    (d : BucketData) (next : UInt32) (vals : ColGetter)
    (hw : HoldsWriter X d (Writer.addRows H {} rows) next)
    (hg : GetColRefines (genGetCol X bolt hp vals) (fileIndex X d (Writer.addRows H {} rows).schema next))
    (hlen : rows.length < 2 ^ 64)
    (qs : List (Query × List Gen.groupBy)) (sz : Nat → Nat) (c0 : Lru) (h0 : c0.items = [])
    (hinj : InjOn H (((qs.map (·.1)).map (·.expr)).flatMap (preimages H)))
    (hagree : KnownAgree H (Writer.addRows H {} rows).toIndex (((qs.map (·.1)).map (·.expr)).flatMap Expr.pairs))
    (hD : DataNoCollision H rows) (hq : ∀ q ∈ qs.map (·.1), EndToEnd.QueryOK H rows q) :
    (genExecuteAll H (lruCacheImpl sz) X bolt hp (openedIndex i (Writer.addRows H {} rows).schema next vals)
        (qs.map fun p => (⟨toLib p.1.expr, p.1.groupBy⟩, p.2)) c0).2
      = (qs.map (·.1)).map fun q => specExecute rows q := by
  have hkey : KeyOK H (Writer.addRows H {} rows).toIndex (subsOf ((qs.map (·.1)).map (·.expr))) :=
    C03.keyOK_of_no_collision H _ _ hinj hagree
  have hmem : ∀ p ∈ qs, p.1.expr ∈ subsOf ((qs.map (·.1)).map (·.expr)) := fun p hp =>
    subsOf_mem _ p.1.expr (List.mem_map_of_mem (List.mem_map_of_mem hp))
  have h := genExecuteAll_eq H X bolt hp i d next vals hw hg (written_fits H rows hlen) (C03.lruCache_contract sz)
    (subsOf_closed _) hkey qs c0 ((C03.lru_empty sz c0 h0).sound H _ _ _) hmem
  -- the query list is left to unification: written out, its `(·.1)` is elaborated too late for the hypotheses after it
  exact (congrArg Prod.snd h).trans (EndToEnd.cached_history_equals_sql H rows _ sz c0 h0 hinj hagree hD hq)

/-- **the file the generated writer leaves behind** (`Gen.indexWriterAddRow` for every row, then
    `Gen.writeToBoltDatabase` with any map enumeration `rng`, into a database without a bucket `data`): the database is
    open and idle, bucket `data` is in bbolt's key order and holds `Writer.addRows H {} rows`. -/
theorem written_file_holds (H : Bytes → UInt64) (X : Ext) (rows : List Row) (hlen : rows.length < 2 ^ 32)
    (hrt : ∀ b, X.roaringFromBuffer (X.roaringToBytes b) = some b)
    (hgob : X.gobDecode (X.gobEncode (Writer.addRows H {} rows).schema) = some (Writer.addRows H {} rows).schema)
    (i n : Nat) (c : Buckets) (cs : List (List PutRec)) (hfresh : bucketsGet c dataName = none)
    (rng : List (UInt64 × Ptr)) (hrng : rng.Perm (genAddRows H {} {} rows).2.values) :
    ∃ n' c' cs' d,
      (Gen.writeToBoltDatabase X rng (idle i n c cs) (genAddRows H {} {} rows).1 (genAddRows H {} {} rows).2 (some i)).1
        = idle i n' c' cs' ∧
      bucketsGet c' dataName = some d ∧ SortedData d ∧
      HoldsWriter X d (Writer.addRows H {} rows) (genAddRows H {} {} rows).2.nextRowID := by
  have hw : absWriter (genAddRows H {} {} rows).1 (genAddRows H {} {} rows).2 = Writer.addRows H {} rows :=
    (genAddRows_eq H rows {} {} (writerWF_empty H) (by simpa using hlen)).1
  generalize genAddRows H {} {} rows = g at hw hrng ⊢
  obtain ⟨hp, idx⟩ := g
  have hnd : KeysNodup (Writer.addRows H {} rows).vals := addRows_nodup H rows {} KeysNodup.nil
  have hpm : (absVals hp rng).Perm (Writer.addRows H {} rows).vals := by
    rw [← hw]; exact absVals_perm hp rng idx.values hrng
  obtain ⟨hh, hs⟩ := HoldsWriter.of_fileData X (Writer.addRows H {} rows) (absVals hp rng) idx.nextRowID hrt hgob
    ((hpm.map _).nodup_iff.mpr hnd) (fun k => ValMap.get_perm hpm hnd k) (by rw [← hw]; rfl)
  obtain ⟨_, _, htx, hcl, hid, _, _⟩ := writeToBoltDatabase_spec X rng (idle i n c cs) hp idx (some i) rfl rfl rfl _ rfl
  have hdata := writeToBoltDatabase_data X rng (idle i n c cs) hp idx (some i) rfl rfl rfl
  rw [show (idle i n c cs).committed = c from rfl, hfresh, show schemaValue hp idx.schema = (absWriter hp idx).schema from rfl,
    hw] at hdata
  generalize (Gen.writeToBoltDatabase X rng (idle i n c cs) hp idx (some i)).1 = b at htx hcl hid hdata
  obtain ⟨bid, bcl, bc, btx, bn, bcs⟩ := b
  cases htx; cases hcl; cases hid
  exact ⟨bn, bc, bcs, _, rfl, hdata, hs, hh⟩

/-- **END TO END, every step regenerated**: rows added with the generated `AddRow`, flushed with the generated
    `WriteToBoltDatabase`, the file opened with the generated `OpenIndexFromBoltDatabase` (with or without
    `WithPreloadedData()`), and queried with the generated `Execute` (generated knots, group-by functions and getters)
    through the null cache (the reader's heap `hp` is arbitrary — another process): the open succeeds and every query
    over known columns is answered exactly like the SQL specification — under the collision hypotheses of C01 / C02
    and nothing else about the hash. -/
theorem written_opened_executed_eq_sql (H : Bytes → UInt64) (X : Ext) (rows : List Row) (hlen : rows.length < 2 ^ 32)
    (hrt : ∀ b, X.roaringFromBuffer (X.roaringToBytes b) = some b)
    (hgob : X.gobDecode (X.gobEncode (Writer.addRows H {} rows).schema) = some (Writer.addRows H {} rows).schema)
    (hnil : X.roaringFromBuffer [] = none)
    (i n : Nat) (c : Buckets) (cs : List (List PutRec)) (hfresh : bucketsGet c dataName = none)
    (rng : List (UInt64 × Ptr)) (hrng : rng.Perm (genAddRows H {} {} rows).2.values) (preload : Bool)
    (hp : Heap) :
    ∃ n1 c1 cs1 n2 hp2 idx,
      (Gen.writeToBoltDatabase X rng (idle i n c cs) (genAddRows H {} {} rows).1 (genAddRows H {} {} rows).2 (some i)).1
        = idle i n1 c1 cs1 ∧
      Gen.openIndexFromBoltDatabase X (idle i n1 c1 cs1) hp (some i) (openOpts X preload)
        = (idle i n2 c1 cs1, hp2, some idx, none) ∧
      ∀ (e : Expr) (cols : List Bytes) (stale : List Gen.groupBy),
        EndToEnd.QueryOK H rows ⟨e, cols⟩ → DataNoCollision H rows →
        (execView (genExecute H nullCacheImpl X (idle i n2 c1 cs1) hp2 idx ⟨toLib e, cols⟩ stale ())).2
          = specExecute rows ⟨e, cols⟩ := by
  obtain ⟨n1, c1, cs1, d, hwr, hb, hs, hw⟩ := written_file_holds H X rows hlen hrt hgob i n c cs hfresh rng hrng
  obtain ⟨n2, hp2, vals, hopen, hg⟩ := opened_index_refines X i n1 c1 cs1 hp d _ _ (hw.fileOK hb) hnil preload
    (fun _ => hs) (fun _ => hw.vDecodable hs)
  refine ⟨n1, c1, cs1, n2, hp2, _, hwr, hopen, ?_⟩
  intro e cols stale ok hD
  rw [genExecute_eq_execute H X _ hp2 i d _ vals hw hg (written_fits H rows (Nat.lt_trans hlen (by decide))) nullCacheImpl () e cols stale
    (evalC_null H _ e), executeC_null]
  exact C02.groupBy_eq_spec H rows e cols ok.cols ok.wf ok.inj hD ok.gb

/-! ## 2. `Execute` as a Go call on the library's types: one member of a request, one prepared statement -/

/-- the Go call `genLibExecute` returns what `genExecute` computes (`o`, in the model's view), provided the count fits
    the `uint64` of `Result.Count` -/
theorem genLibExecute_view (H : Bytes → UInt64) {σ : Type} (C : CacheImpl σ) (X : Ext) (bolt : Bolt) (hp : Heap)
    (idx : Go.T3.Index) (st : σ) (q : Go.Lib.Query) (o : Option Result)
    (ho : (execView (genExecute H C X bolt hp idx q [] st)).2 = o) (hlt : ∀ r, o = some r → r.count < 2 ^ 64) :
    (toOutcome (genLibExecute H C X bolt hp idx st q)).map resultOfGo
      = match o with
        | none => .error
        | some r => .ok r := by
  subst ho
  unfold genLibExecute execView at *
  generalize (genExecute H C X bolt hp idx q [] st).2 = o at hlt ⊢
  cases o with
  | none => rfl
  | some r => simp only [toOutcome, Outcome.map, Option.map_some, resultOfGo_libResultOf r (hlt _ rfl)]

/-- what `database/sql` can observe of the `driver.Rows` a statement returned: column names and the cells of every row -/
def rowsView (r : Go.Drv.rows) : List Bytes × List (List Cell) := (r.cols, r.rows.map rowCells)

section
variable (H : Bytes → UInt64) {σ : Type} (C : CacheImpl σ) (X : Ext) (bolt : Bolt) (hp : Heap) (i : Nat) (d : BucketData)
  (s : SchemaVal) (next : UInt32) (vals : ColGetter)
  (hg : GetColRefines (genGetCol X bolt hp vals) (fileIndex X d s next)) (st : σ)
include hg

/-- **one member of a request, executed all-generated, is answered like the model's `serverExecute`**
    (`convert.ToQuery`, completeness check, library execution) -/
theorem genLibExecute_agrees (q : WQuery)
    (htr : ∀ w e, q.expr = some w → w.complete = some e →
      (executeC H C (fileIndex X d s next) st ⟨e, q.groupBy⟩).2 = execute H (fileIndex X d s next) ⟨e, q.groupBy⟩)
    (hcard : ∀ w e, q.expr = some w → w.complete = some e →
      ∀ bm, (evalC H C (fileIndex X d s next) st e).2 = some bm → popcount bm < 2 ^ 64) :
    (toOutcome (genLibExecute H C X bolt hp (openedIndex i s next vals) st (Gen.ToQuery q))).map resultOfGo
      = serverExecute H (fileIndex X d s next) q := by
  obtain ⟨hq1, hq2⟩ := ToQuery_complete q
  have hx := genExecute_eq_executeC H C X bolt hp i d s next vals hg (Gen.ToQuery q) [] st
  rw [hq1, hq2] at hx
  unfold serverExecute
  cases hw : q.expr with
  | none =>
    rw [hw] at hx
    exact genLibExecute_view H C X bolt hp _ st _ none (congrArg Prod.snd (hx fun _ h => by cases h)) (fun _ h => by cases h)
  | some w =>
    rw [hw] at hx
    cases hc : w.complete with
    | none =>
      simp only [hc] at hx ⊢
      exact genLibExecute_view H C X bolt hp _ st _ none (congrArg Prod.snd (hx fun _ h => by cases h)) (fun _ h => by cases h)
    | some e =>
      simp only [hc] at hx ⊢
      have hcard' := hcard w e hw hc
      rw [← htr w e hw hc]
      exact genLibExecute_view H C X bolt hp _ st _ _ (congrArg Prod.snd (hx fun _ h => by cases h; exact hcard'))
        (executeC_count_lt H C _ st ⟨e, q.groupBy⟩ hcard')

/-- `Gen.stmtQuery` over the all-generated `Execute` for ANY prepared query `pq`: argument check,
    `ReplacePlaceholders`, `Gen.ToQuery`, `Execute`, `Gen.newRows` -/
theorem stmtQuery_rows (pq : PQuery) (values : List Bytes)
    (htr : ∀ q', bind pq values = .ok q' →
      (executeC H C (fileIndex X d s next) st (toQuery q')).2 = execute H (fileIndex X d s next) (toQuery q'))
    (hcard : ∀ q', bind pq values = .ok q' →
      ∀ bm, (evalC H C (fileIndex X d s next) st (toExpr q'.expr)).2 = some bm → popcount bm < 2 ^ 64) :
    (toOutcome (Gen.stmtQuery (genLibExecute H C X bolt hp (openedIndex i s next vals) st) ⟨pq⟩ values)).map rowsView =
      match bind pq values with
      | .ok q' =>
        (match execute H (fileIndex X d s next) (toQuery q') with
          | some res => .ok ((Updog.newRows res q'.groupBy).cols, (Updog.newRows res q'.groupBy).rows)
          | none => .error)
      | _ => .error := by
  rw [stmtQuery_eq]
  cases hb : bind pq values with
  | ok q' =>
    have hagree := genLibExecute_agrees H C X bolt hp i d s next vals hg st (Go.Parsed.Query.toWire q')
      (fun w e hw he => by
        cases hw
        rw [complete_toWire] at he
        cases he
        exact htr q' hb)
      (fun w e hw he => by
        cases hw
        rw [complete_toWire] at he
        cases he
        exact hcard q' hb)
    rw [serverExecute_toWire] at hagree
    simp only
    generalize genLibExecute H C X bolt hp (openedIndex i s next vals) st (Gen.ToQuery (Go.Parsed.Query.toWire q')) = x
      at hagree
    generalize execute H (fileIndex X d s next) (toQuery q') = y at hagree
    cases x with
    | error err => cases y with
      | none => rfl
      | some res => cases hagree
    | ok r => cases y with
      | none => cases hagree
      | some res =>
        simp only [toOutcome, Outcome.map, Outcome.ok.injEq] at hagree
        simp only [toOutcome, Outcome.map, rowsView, (newRows_eq r q'.groupBy).1, (newRows_eq r q'.groupBy).2.1, hagree]
  | _ => rfl

end

/-! ### the server path: `Gen.serverQuery` over `Gen.ToQuery` → the generated `Execute` → result -/

/-- **the gRPC handler, every component regenerated, has the batch semantics of `Model/Server.lean`.**
    `exec` is not a parameter here: each member of the request is converted with `Gen.ToQuery` (inside
    `Gen.serverQuery`) and executed with `genLibExecute` — the generated `Execute` of item 1 on the index the generated
    open returned — and the response is built with `Gen.ToProtobufResult`. `stOf` assigns to every query the state the
    result cache is in when the query runs (`Gen.serverQuery` takes a pure `execute`; the answers do not depend on the
    state as long as it is one from which cached execution is transparent — `htr`, discharged below for the null cache
    and for every lawful cache in a sound state). -/
theorem gen_serverQuery_eq (H : Bytes → UInt64) {σ : Type} (C : CacheImpl σ) (X : Ext) (bolt : Bolt) (hp : Heap)
    (i : Nat) (d : BucketData) (s : SchemaVal) (next : UInt32) (vals : ColGetter)
    (hg : GetColRefines (genGetCol X bolt hp vals) (fileIndex X d s next))
    (stOf : Go.Lib.Query → σ) (qs : List WQuery) (hlen : qs.length < 2147483648)
    (htr : ∀ q ∈ qs, ∀ w e, q.expr = some w → w.complete = some e →
      (executeC H C (fileIndex X d s next) (stOf (Gen.ToQuery q)) ⟨e, q.groupBy⟩).2
        = execute H (fileIndex X d s next) ⟨e, q.groupBy⟩)
    (hcard : ∀ q ∈ qs, ∀ w e, q.expr = some w → w.complete = some e →
      ∀ bm, (evalC H C (fileIndex X d s next) (stOf (Gen.ToQuery q)) e).2 = some bm → popcount bm < 2 ^ 64) :
    (toOutcome (Gen.serverQuery (fun lq => genLibExecute H C X bolt hp (openedIndex i s next vals) (stOf lq) lq) ⟨qs⟩)).map
        (fun resp => resp.Results.map presultOfGo)
      = (serverQuery H (fileIndex X d s next) qs).map respOf :=
  serverQuery_eq H (fileIndex X d s next) _ qs hlen (fun q hq =>
    genLibExecute_agrees H C X bolt hp i d s next vals hg (stOf (Gen.ToQuery q)) q (htr q hq) (hcard q hq))

/-- the same for the **null cache** (the server's default): no hypothesis on the hash -/
theorem gen_serverQuery_null (H : Bytes → UInt64) (X : Ext) (bolt : Bolt) (hp : Heap)
    (i : Nat) (d : BucketData) (s : SchemaVal) (next : UInt32) (vals : ColGetter)
    (hg : GetColRefines (genGetCol X bolt hp vals) (fileIndex X d s next))
    (qs : List WQuery) (hlen : qs.length < 2147483648)
    (hcard : ∀ q ∈ qs, ∀ w e, q.expr = some w → w.complete = some e →
      ∀ bm, eval H (fileIndex X d s next) e = some bm → popcount bm < 2 ^ 64) :
    (toOutcome (Gen.serverQuery (genLibExecute H nullCacheImpl X bolt hp (openedIndex i s next vals) ()) ⟨qs⟩)).map
        (fun resp => resp.Results.map presultOfGo)
      = (serverQuery H (fileIndex X d s next) qs).map respOf :=
  gen_serverQuery_eq H nullCacheImpl X bolt hp i d s next vals hg (fun _ => ()) qs hlen
    (fun q _ w e _ _ => executeC_null H _ _)
    (fun q hq w e hw he bm hbm => hcard q hq w e hw he bm (by rw [← evalC_null H _ e]; exact hbm))

/-- … and for **every lawful cache** (an LRU of any capacity: `C03.lruCache_contract`) whose state is sound whenever
    a query runs -/
theorem gen_serverQuery_cached (H : Bytes → UInt64) {σ : Type} {C : CacheImpl σ} (L : CacheLaws C) (X : Ext)
    (bolt : Bolt) (hp : Heap) (i : Nat) (d : BucketData) (s : SchemaVal) (next : UInt32) (vals : ColGetter)
    (hg : GetColRefines (genGetCol X bolt hp vals) (fileIndex X d s next))
    {U : List Expr} (hU : SubClosed U) (hkey : KeyOK H (fileIndex X d s next) U)
    (stOf : Go.Lib.Query → σ) (hst : ∀ lq, Sound H (fileIndex X d s next) U L (stOf lq))
    (qs : List WQuery) (hlen : qs.length < 2147483648)
    (hmem : ∀ q ∈ qs, ∀ w e, q.expr = some w → w.complete = some e → e ∈ U)
    (hcard : ∀ q ∈ qs, ∀ w e, q.expr = some w → w.complete = some e →
      ∀ bm, eval H (fileIndex X d s next) e = some bm → popcount bm < 2 ^ 64) :
    (toOutcome (Gen.serverQuery (fun lq => genLibExecute H C X bolt hp (openedIndex i s next vals) (stOf lq) lq) ⟨qs⟩)).map
        (fun resp => resp.Results.map presultOfGo)
      = (serverQuery H (fileIndex X d s next) qs).map respOf :=
  gen_serverQuery_eq H C X bolt hp i d s next vals hg stOf qs hlen
    (fun q hq w e hw he => (C03.execute_transparent L hU hkey _ (hst _) ⟨e, q.groupBy⟩ (hmem q hq w e hw he)).1)
    (fun q hq w e hw he bm hbm => hcard q hq w e hw he bm (by
      rw [← (C03.cache_transparent L hU hkey _ (hst _) e (hmem q hq w e hw he)).1]; exact hbm))

/-- **on a file that holds the written rows no precondition on the batch remains**: any request of fewer than 2^31
    queries — incomplete trees, unknown columns, anything — gets from the all-generated handler exactly the answer of
    the model's `serverQuery` on `Writer.toIndex` (fewer than 2^64 rows). -/
theorem gen_serverQuery_written (H : Bytes → UInt64) (X : Ext) (rows : List Row) (bolt : Bolt) (hp : Heap) (i : Nat)
    (d : BucketData) (next : UInt32) (vals : ColGetter)
    (hw : HoldsWriter X d (Writer.addRows H {} rows) next)
    (hg : GetColRefines (genGetCol X bolt hp vals) (fileIndex X d (Writer.addRows H {} rows).schema next))
    (hrows : rows.length < 2 ^ 64) (qs : List WQuery) (hlen : qs.length < 2147483648) :
    (toOutcome (Gen.serverQuery (genLibExecute H nullCacheImpl X bolt hp
        (openedIndex i (Writer.addRows H {} rows).schema next vals) ()) ⟨qs⟩)).map
        (fun resp => resp.Results.map presultOfGo)
      = (serverQuery H (Writer.addRows H {} rows).toIndex qs).map respOf := by
  have := gen_serverQuery_null H X bolt hp i d _ next vals hg qs hlen
    fun q _ w e _ _ bm hbm => written_fits H rows hrows e bm (hw.fileIndex_eq ▸ hbm)
  rwa [hw.fileIndex_eq] at this

/-- **C13 for the generated handler**: when the all-generated handler returns a response, it holds exactly one result
    per query, in request order, each tagged with the query's id (or its 1-based position when the id is 0), each the
    protobuf conversion of what the library returns for that query. -/
theorem gen_server_batch (H : Bytes → UInt64) (X : Ext) (rows : List Row) (bolt : Bolt) (hp : Heap) (i : Nat)
    (d : BucketData) (next : UInt32) (vals : ColGetter)
    (hw : HoldsWriter X d (Writer.addRows H {} rows) next)
    (hg : GetColRefines (genGetCol X bolt hp vals) (fileIndex X d (Writer.addRows H {} rows).schema next))
    (hrows : rows.length < 2 ^ 64) (qs : List WQuery) (hlen : qs.length < 2147483648)
    (resp : Go.Pb.QueryResponse)
    (hok : Gen.serverQuery (genLibExecute H nullCacheImpl X bolt hp
        (openedIndex i (Writer.addRows H {} rows).schema next vals) ()) ⟨qs⟩ = .ok resp) :
    ∃ rs, resp.Results.map presultOfGo = respOf rs ∧ rs.length = qs.length ∧
      ∀ j (hj : j < qs.length), ∃ r, serverExecute H (Writer.addRows H {} rows).toIndex qs[j] = .ok r ∧
        rs[j]? = some (C13.expectedId qs[j] (1 + j), r) := by
  have h := gen_serverQuery_written H X rows bolt hp i d next vals hw hg hrows qs hlen
  rw [hok] at h
  cases hs : serverQuery H (Writer.addRows H {} rows).toIndex qs with
  | ok rs =>
    rw [hs] at h
    simp only [toOutcome, Outcome.map, Outcome.ok.injEq] at h
    obtain ⟨h1, h2⟩ := C13.server_batch H _ qs 1 rs hs
    exact ⟨rs, h, h1, h2⟩
  | _ => rw [hs] at h; cases h

/-- **C14 for the generated handler**: a request with a member whose expression tree is missing or incomplete
    (a nil operand anywhere) is refused as a whole with an RPC error — `validateExpr` rejects it before `eval` could
    dereference the nil — and never answered partially. -/
theorem gen_server_rejects_incomplete (H : Bytes → UInt64) (X : Ext) (rows : List Row) (bolt : Bolt) (hp : Heap) (i : Nat)
    (d : BucketData) (next : UInt32) (vals : ColGetter)
    (hw : HoldsWriter X d (Writer.addRows H {} rows) next)
    (hg : GetColRefines (genGetCol X bolt hp vals) (fileIndex X d (Writer.addRows H {} rows).schema next))
    (hrows : rows.length < 2 ^ 64) (qs : List WQuery) (hlen : qs.length < 2147483648)
    (q : WQuery) (hq : q ∈ qs) (hinc : (match q.expr with | none => none | some w => w.complete) = none) :
    (toOutcome (Gen.serverQuery (genLibExecute H nullCacheImpl X bolt hp
        (openedIndex i (Writer.addRows H {} rows).schema next vals) ()) ⟨qs⟩)) = .error := by
  have h := gen_serverQuery_written H X rows bolt hp i d next vals hw hg hrows qs hlen
  have herr : serverExecute H (Writer.addRows H {} rows).toIndex q = .error := by
    unfold serverExecute
    cases hw' : q.expr with
    | none => rfl
    | some w => rw [hw'] at hinc; simp only at hinc ⊢; rw [hinc]
  have hno := C13.server_fails_on_invalid H _ qs 1 ⟨q, hq, herr⟩
  have hnp := C14.server_never_panics H (Writer.addRows H {} rows).toIndex qs 1
  cases hs : serverQuery H (Writer.addRows H {} rows).toIndex qs with
  | ok rs => exact absurd hs (hno rs)
  | error =>
    rw [hs] at h
    generalize Gen.serverQuery _ _ = r at h ⊢
    cases r with
    | ok _ => cases h
    | error _ => rfl
  | panic => exact absurd hs hnp.1
  | hang => exact absurd hs hnp.2

/-! ### the driver path: text → `Gen.ParseQuery` → `Gen.stmtQuery` over the generated `Execute` → `Gen.newRows` -/

/-- **a prepared statement, every component regenerated**: the statement text is parsed with `Gen.ParseQuery`
    (enough fuel: it then is the model's `parseQuery`), and `Gen.stmtQuery` — argument check, `ReplacePlaceholders`,
    `Gen.ToQuery`, the generated `Execute` of item 1, `Gen.newRows` — returns: an error when too few arguments are
    bound or the library fails, and otherwise exactly the model's `newRows` (columns and cells) of the model library's
    answer to the bound query. `st` is any cache state from which cached execution of the bound query is transparent. -/
theorem gen_stmtQuery_eq (H : Bytes → UInt64) {σ : Type} (C : CacheImpl σ) (X : Ext) (bolt : Bolt) (hp : Heap)
    (i : Nat) (d : BucketData) (s : SchemaVal) (next : UInt32) (vals : ColGetter)
    (hg : GetColRefines (genGetCol X bolt hp vals) (fileIndex X d s next)) (st : σ)
    (text : Bytes) (fuel : Nat) (hfuel : 3 * text.length + 5 ≤ fuel) (pq : PQuery)
    (hparse : Gen.ParseQuery fuel text = .ok pq) (values : List Bytes)
    (htr : ∀ q', bind pq values = .ok q' →
      (executeC H C (fileIndex X d s next) st (toQuery q')).2 = execute H (fileIndex X d s next) (toQuery q'))
    (hcard : ∀ q', bind pq values = .ok q' →
      ∀ bm, (evalC H C (fileIndex X d s next) st (toExpr q'.expr)).2 = some bm → popcount bm < 2 ^ 64) :
    parseQuery text = some pq ∧
    (toOutcome (Gen.stmtQuery (genLibExecute H C X bolt hp (openedIndex i s next vals) st) ⟨pq⟩ values)).map rowsView =
      match bind pq values with
      | .ok q' =>
        (match execute H (fileIndex X d s next) (toQuery q') with
          | some res => .ok ((Updog.newRows res q'.groupBy).cols, (Updog.newRows res q'.groupBy).rows)
          | none => .error)
      | _ => .error := by
  refine ⟨?_, stmtQuery_rows H C X bolt hp i d s next vals hg st pq values htr hcard⟩
  have := ParseQuery_toOption text fuel hfuel
  rw [hparse] at this
  exact this.symm

section written
variable (H : Bytes → UInt64) (X : Ext) (bolt : Bolt) (hp : Heap) (i : Nat) (d : BucketData) (next : UInt32)
  (vals : ColGetter) {w : Writer} (hw : HoldsWriter X d w next)
  (hg : GetColRefines (genGetCol X bolt hp vals) (fileIndex X d w.schema next))
  (hfit : ∀ e bm, eval H w.toIndex e = some bm → popcount bm < 2 ^ 64)
  {σ : Type} (C : CacheImpl σ) (st : σ) (pq : PQuery) (values : List Bytes) (q' : PQuery) (hb : bind pq values = .ok q')
  (hte : (evalC H C w.toIndex st (toExpr q'.expr)).2 = eval H w.toIndex (toExpr q'.expr))
  (htx : (executeC H C w.toIndex st (toQuery q')).2 = execute H w.toIndex (toQuery q'))
include hw hg hfit hb hte htx

/-- **a statement on a file that holds the index of a writer `w`** (cardinalities fit 64 bits), through any cache in a
    state from which cached evaluation and execution of the bound query `q'` are transparent: the model's `newRows` of
    the model library's answer -/
theorem stmtQuery_written :
    (toOutcome (Gen.stmtQuery (genLibExecute H C X bolt hp (openedIndex i w.schema next vals) st) ⟨pq⟩ values)).map rowsView =
      match execute H w.toIndex (toQuery q') with
      | some res => .ok ((Updog.newRows res q'.groupBy).cols, (Updog.newRows res q'.groupBy).rows)
      | none => .error := by
  have h := stmtQuery_rows H C X bolt hp i d _ next vals hg st pq values
  rw [hw.fileIndex_eq, hb] at h
  exact h (fun _ hq => by cases hq; exact htx) (fun _ hq bm hbm => by cases hq; exact hfit _ bm (hte ▸ hbm))

/-- … and when the model library answers with the groups `groups`, a grouped statement returns the header
    `groupBy ++ ["count"]` and one row per group -/
theorem stmtQuery_grouped (n : Nat) (groups : List (Fields × Nat))
    (hex : execute H w.toIndex ⟨toExpr q'.expr, q'.groupBy⟩ = some ⟨n, groups⟩) (hne : q'.groupBy ≠ []) :
    (toOutcome (Gen.stmtQuery (genLibExecute H C X bolt hp (openedIndex i w.schema next vals) st) ⟨pq⟩ values)).map rowsView
      = .ok (q'.groupBy ++ [countCol], groups.map C12.groupRow) := by
  rw [stmtQuery_written H X bolt hp i d next vals hw hg hfit C st pq values q' hb hte htx,
    show toQuery q' = ⟨toExpr q'.expr, q'.groupBy⟩ from rfl, hex]
  simp only
  rw [C12.rows_grouped _ _ hne]
  rfl

end written

/-- **C12 for generated code: the rows of a grouped statement are the SQL answer.** On a file that holds the
    written rows, through any lawful cache in a sound state: for a prepared query `pq` and arguments that bind all
    its placeholders, if the bound query meets the hypotheses of `C02.groupBy_eq_spec` and has a
    GROUP BY clause, `Gen.stmtQuery` over the generated `Execute` succeeds and `Gen.newRows` delivers the header
    `cols ++ ["count"]` and one row per group of the specification (`SELECT cols, COUNT(*) … GROUP BY cols HAVING
    COUNT(*) > 0 ORDER BY cols`): the group's values as TEXT cells, then the count. -/
theorem gen_driver_rows_eq_sql (H : Bytes → UInt64) (X : Ext) (rows : List Row) (bolt : Bolt) (hp : Heap) (i : Nat)
    (d : BucketData) (next : UInt32) (vals : ColGetter)
    (hw : HoldsWriter X d (Writer.addRows H {} rows) next)
    (hg : GetColRefines (genGetCol X bolt hp vals) (fileIndex X d (Writer.addRows H {} rows).schema next))
    (hrows : rows.length < 2 ^ 64)
    {σ : Type} {C : CacheImpl σ} (L : CacheLaws C) {U : List Expr} (hU : SubClosed U)
    (hkey : KeyOK H (Writer.addRows H {} rows).toIndex U) (st : σ)
    (hst : Sound H (Writer.addRows H {} rows).toIndex U L st)
    (pq : PQuery) (values : List Bytes) (q' : PQuery) (hb : bind pq values = .ok q')
    (he : toExpr q'.expr ∈ U) (ok : EndToEnd.QueryOK H rows (toQuery q')) (hD : DataNoCollision H rows)
    (hne : q'.groupBy ≠ []) :
    ∃ groups, specGroups rows (toExpr q'.expr) q'.groupBy = some groups ∧
      (toOutcome (Gen.stmtQuery (genLibExecute H C X bolt hp
          (openedIndex i (Writer.addRows H {} rows).schema next vals) st) ⟨pq⟩ values)).map rowsView
        = .ok (q'.groupBy ++ [countCol], groups.map C12.groupRow) := by
  obtain ⟨groups, hsg, hex⟩ := C02.execute_eq_some H rows (toExpr q'.expr) q'.groupBy ok.cols ok.wf ok.inj hD ok.gb
  exact ⟨groups, hsg, stmtQuery_grouped H X bolt hp i d next vals hw hg (written_fits H rows hrows) C st pq values q' hb
    (C03.cache_transparent L hU hkey st hst _ he).1 (C03.execute_transparent L hU hkey st hst (toQuery q') he).1
    _ groups hex hne⟩

set_option linter.unusedVariables false in
/-- the same for a statement **without GROUP BY** (C01 through the driver): exactly one row holding the number of rows
    that satisfy the bound expression -/
theorem gen_driver_count_row (H : Bytes → UInt64) (X : Ext) (rows : List Row) (bolt : Bolt) (hp : Heap) (i : Nat)
    (d : BucketData) (next : UInt32) (vals : ColGetter)
    (hw : HoldsWriter X d (Writer.addRows H {} rows) next)
    (hg : GetColRefines (genGetCol X bolt hp vals) (fileIndex X d (Writer.addRows H {} rows).schema next))
    (hrows : rows.length < 2 ^ 64)
    {σ : Type} {C : CacheImpl σ} (L : CacheLaws C) {U : List Expr} (hU : SubClosed U)
    (hkey : KeyOK H (Writer.addRows H {} rows).toIndex U) (st : σ)
    (hst : Sound H (Writer.addRows H {} rows).toIndex U L st)
    (text : Bytes) (fuel : Nat) (hfuel : 3 * text.length + 5 ≤ fuel) (pq : PQuery)
    (hparse : Gen.ParseQuery fuel text = .ok pq) (values : List Bytes) (q' : PQuery) (hb : bind pq values = .ok q')
    (he : toExpr q'.expr ∈ U)
    (hcols : ∀ c ∈ (toExpr q'.expr).columns, c ∈ columnsOf rows) (hwf : (toExpr q'.expr).arityPos = true)
    (hinj : NoCollision H rows (toExpr q'.expr).pairs) (hgb : q'.groupBy = []) :
    (toOutcome (Gen.stmtQuery (genLibExecute H C X bolt hp
        (openedIndex i (Writer.addRows H {} rows).schema next vals) st) ⟨pq⟩ values)).map rowsView
      = .ok ([countCol], [[Cell.int (specCount rows (toExpr q'.expr))]]) := by
  rw [stmtQuery_written H X bolt hp i d next vals hw hg (written_fits H rows hrows) C st pq values q' hb
    (C03.cache_transparent L hU hkey st hst _ he).1 (C03.execute_transparent L hU hkey st hst (toQuery q') he).1,
    show toQuery q' = ⟨toExpr q'.expr, q'.groupBy⟩ from rfl, hgb, C01.count_correct H rows _ hcols hwf hinj]
  rfl

/-! ### the DSN options: preload on/off, cache on/off -/

/-- what the option list the generated `openFile` hands to `updog.OpenIndex` stands for: `WithPreloadedData()` is in it
    exactly when the configuration says preload, `WithCache(NewLRUCache(n))` exactly when it says cache of size `n` -/
theorem optionsOf_mem (c : FileConfig) :
    (Go.Lib.IndexOption.WithPreloadedData ∈ optionsOf c ↔ c.preload = true) ∧
    (∀ n : UInt64, Go.Lib.IndexOption.WithCache ⟨n⟩ ∈ optionsOf c ↔ ∃ m, c.cacheSize = some m ∧ m.toUInt64 = n) := by
  obtain ⟨pre, cs, k⟩ := c
  cases pre <;> cases cs <;> simp [optionsOf, eq_comm]

/-- **C12 end to end for every DSN the generated `openFile` accepts.** The file was written by the generated writer
    (`written_file_holds`). For option values `v` on which `Gen.openFileOpts` succeeds, the options it selects are those
    of the model's `dsnConfig` (`openFileOpts_eq`); opening with them — `WithPreloadedData()` or not — succeeds with the
    generated open; and a grouped statement run through `Gen.ParseQuery` → `Gen.stmtQuery` → the generated `Execute` →
    `Gen.newRows` delivers the SQL rows, with the result cache off (`nullCache`) as well as on (an LRU of the size the
    DSN names — in fact of ANY capacity — in any sound state, e.g. empty; its keys must not collide on the query). -/
theorem gen_driver_dsn_eq_sql (H : Bytes → UInt64) (X : Ext) (rows : List Row) (hrows : rows.length < 2 ^ 64)
    (i n : Nat) (c1 : Buckets) (cs : List (List PutRec)) (hp : Heap) (d : BucketData) (next : UInt32)
    (hb : bucketsGet c1 dataName = some d) (hs : SortedData d)
    (hw : HoldsWriter X d (Writer.addRows H {} rows) next) (hnil : X.roaringFromBuffer [] = none)
    (file : Bytes) (v : Go.Url.Values) (o : Go.Drv.OpenFileOpts) (ho : Gen.openFileOpts file v = .ok o) :
    ∃ (cfg : FileConfig) (n2 : Nat) (hp2 : Heap) (vals : ColGetter),
      dsnConfig (dsnOptsOf v) = .ok cfg ∧ o.key = ⟨file, cfg.keyOpts⟩ ∧ o.opts = optionsOf cfg ∧
      Gen.openIndexFromBoltDatabase X (idle i n c1 cs) hp (some i) (openOpts X cfg.preload)
        = (idle i n2 c1 cs, hp2, some (openedIndex i (Writer.addRows H {} rows).schema next vals), none) ∧
      ∀ (text : Bytes) (fuel : Nat), 3 * text.length + 5 ≤ fuel → ∀ (pq : PQuery), Gen.ParseQuery fuel text = .ok pq →
        ∀ (values : List Bytes) (q' : PQuery), bind pq values = .ok q' →
        EndToEnd.QueryOK H rows (toQuery q') → DataNoCollision H rows → q'.groupBy ≠ [] →
        ∃ groups, specGroups rows (toExpr q'.expr) q'.groupBy = some groups ∧
          -- result cache off
          (cfg.cacheSize = none →
            (toOutcome (Gen.stmtQuery (genLibExecute H nullCacheImpl X (idle i n2 c1 cs) hp2
                (openedIndex i (Writer.addRows H {} rows).schema next vals) ()) ⟨pq⟩ values)).map rowsView
              = .ok (q'.groupBy ++ [countCol], groups.map C12.groupRow)) ∧
          -- result cache on
          (∀ m, cfg.cacheSize = some m → ∀ (sz : Nat → Nat) (lru : Lru),
            InjOn H (preimages H (toExpr q'.expr)) →
            KnownAgree H (Writer.addRows H {} rows).toIndex (toExpr q'.expr).pairs →
            Sound H (Writer.addRows H {} rows).toIndex (subsOf [toExpr q'.expr]) (C03.lruCache_contract sz) lru →
            (toOutcome (Gen.stmtQuery (genLibExecute H (lruCacheImpl sz) X (idle i n2 c1 cs) hp2
                (openedIndex i (Writer.addRows H {} rows).schema next vals) lru) ⟨pq⟩ values)).map rowsView
              = .ok (q'.groupBy ++ [countCol], groups.map C12.groupRow)) := by
  have hoe := openFileOpts_eq file v
  rw [ho] at hoe
  cases hcfg : dsnConfig (dsnOptsOf v) with
  | ok cfg =>
    rw [hcfg] at hoe
    cases hoe
    obtain ⟨n2, hp2, vals, hopen, hg⟩ := opened_index_refines X i n c1 cs hp d _ next (hw.fileOK hb) hnil cfg.preload
      (fun _ => hs) (fun _ => hw.vDecodable hs)
    refine ⟨cfg, n2, hp2, vals, rfl, rfl, rfl, hopen, ?_⟩
    intro text fuel hfuel pq hparse values q' hbind ok hD hne
    obtain ⟨groups, hsg, hex⟩ := C02.execute_eq_some H rows (toExpr q'.expr) q'.groupBy ok.cols ok.wf ok.inj hD ok.gb
    refine ⟨groups, hsg, fun _ => ?_, fun m _ sz lru hinj hagree hsound => ?_⟩
    · exact stmtQuery_grouped H X _ hp2 i d next vals hw hg (written_fits H rows hrows) nullCacheImpl () pq values q' hbind
        (evalC_null H _ _) (executeC_null H _ _) _ groups hex hne
    · have hkey := C03.keyOK_of_no_collision H (Writer.addRows H {} rows).toIndex [toExpr q'.expr]
        (by simpa using hinj) (by simpa using hagree)
      have hmem : toExpr q'.expr ∈ subsOf [toExpr q'.expr] := subsOf_mem _ _ (by simp)
      exact stmtQuery_grouped H X _ hp2 i d next vals hw hg (written_fits H rows hrows) (lruCacheImpl sz) lru pq values q' hbind
        (C03.cache_transparent (C03.lruCache_contract sz) (subsOf_closed _) hkey lru hsound _ hmem).1
        (C03.execute_transparent (C03.lruCache_contract sz) (subsOf_closed _) hkey lru hsound (toQuery q') hmem).1
        _ groups hex hne
  | _ => rw [hcfg] at hoe; cases hoe

/-! ## non-vacuity: one concrete dataset through every composition

The dataset, hash, expressions and query history of `Proofs/ToyInstance.lean` (three rows over columns `a`, `b`;
`e1 = a=1 AND b=1`, `e2 = a=1 OR NOT b=1`), toy coders with real round trips, and a file that is WRITTEN BY THE GENERATED
WRITER. Every closing theorem is instantiated on it, and the generated pipeline is also simply run (`decide`). -/

namespace Demo
open Updog.Toy

def takeBytes : Bytes → Option (Bytes × Bytes)
  | [] => none
  | n :: r => if r.length < n.toNat then none else some (r.take n.toNat, r.drop n.toNat)

def takeVals : Nat → Bytes → Option (List (Bytes × UInt64) × Bytes)
  | 0, r => some ([], r)
  | k + 1, r =>
    match takeBytes r with
    | none => none
    | some (v, r1) =>
      if r1.length < 8 then none else
      match takeVals k (r1.drop 8) with
      | none => none
      | some (vs, r2) => some ((v, beUint64 (r1.take 8)) :: vs, r2)

def takeCols : Nat → Bytes → Option (SchemaVal × Bytes)
  | 0, r => some ([], r)
  | k + 1, r =>
    match takeBytes r with
    | none => none
    | some (c, r1) =>
      match r1 with
      | [] => none
      | n :: r2 =>
        match takeVals n.toNat r2 with
        | none => none
        | some (vs, r3) =>
          match takeCols k r3 with
          | none => none
          | some (cs, r4) => some ((c, vs) :: cs, r4)

def encBytes (b : Bytes) : Bytes := b.length.toUInt8 :: b

/-- toy coders: a bitmap `b` is `b` zero bytes and a terminator (the empty buffer does not decode); a schema is
    written with length prefixes and parsed back -/
def X : Ext where
  roaringToBytes b := List.replicate b 0 ++ [1]
  roaringFromBuffer bs := if bs.isEmpty then none else some (bs.length - 1)
  gobEncode s := s.length.toUInt8 :: s.flatMap fun cv =>
    encBytes cv.1 ++ cv.2.length.toUInt8 :: cv.2.flatMap fun vh => encBytes vh.1 ++ be64 vh.2.toNat
  gobDecode bs :=
    match bs with
    | [] => none
    | n :: r =>
      match takeCols n.toNat r with
      | some (s, []) => some s
      | _ => none

theorem X_roundtrip (b : Nat) : X.roaringFromBuffer (X.roaringToBytes b) = some b := by simp [X]
theorem X_nil : X.roaringFromBuffer [] = none := rfl

theorem X_gob : X.gobDecode (X.gobEncode (Writer.addRows toyH {} rows).schema) = some (Writer.addRows toyH {} rows).schema := by
  decide +kernel

/-- the writer after the generated `AddRow` for every row -/
def w := genAddRows toyH {} {} rows
/-- the database after the generated `WriteToBoltDatabase` into an empty file -/
def file : Bolt := (Gen.writeToBoltDatabase X w.2.values (idle 0 0 [] []) w.1 w.2 (some 0)).1
/-- the generated `OpenIndexFromBoltDatabase` on it -/
def opened (preload : Bool) := Gen.openIndexFromBoltDatabase X file w.1 (some 0) (openOpts X preload)

/-- `written_file_holds`: its hypotheses hold of the toy dataset and coders -/
theorem file_holds : ∃ n' c' cs' d, file = idle 0 n' c' cs' ∧ bucketsGet c' dataName = some d ∧ SortedData d ∧
    HoldsWriter X d (Writer.addRows toyH {} rows) w.2.nextRowID :=
  written_file_holds toyH X rows (by decide) X_roundtrip X_gob 0 0 [] [] rfl _ (List.Perm.refl _)

/-- the keys the generated writer stored: the counter, the schema, one value key per (column, value) pair -/
example : (bucketsGet file.committed dataName).map (·.map (·.1.take 1)) = some [[73], [83], [86], [86], [86], [86]] := by
  decide +kernel

/-- both ways of opening succeed on it -/
example : (opened false).2.2.2 = none ∧ (opened true).2.2.2 = none ∧ (opened false).1.closed = false := by decide +kernel

/-- what `Execute` answers on the opened index, through the null cache -/
def run (preload : Bool) (q : Go.Lib.Query) : Option Result :=
  match (opened preload).2.2.1 with
  | none => none
  | some idx => (execView (genExecute toyH nullCacheImpl X (opened preload).1 (opened preload).2.1 idx q [] ())).2

/-- the generated pipeline, run: the three queries of the toy history, on-demand and preloaded, give the answers of
    the SQL specification (that they are `specExecute` is the example of `written_opened_executed_eq_sql` below) -/
example : qs.map (fun q => run false ⟨toLib q.expr, q.groupBy⟩)
      = [some ⟨1, []⟩, some ⟨2, [([([97], [49])], 2)]⟩, some ⟨1, [([([98], [49])], 1)]⟩] ∧
    qs.map (fun q => run true ⟨toLib q.expr, q.groupBy⟩)
      = [some ⟨1, []⟩, some ⟨2, [([([97], [49])], 2)]⟩, some ⟨1, [([([98], [49])], 1)]⟩] := by decide +kernel

/-- a nil operand is refused, an unknown column is an error -/
example : run true ⟨.and [.equal [97] [49], .nil], []⟩ = none ∧ run false ⟨.equal [99] [49], []⟩ = none := by
  decide +kernel

theorem queries_ok : ∀ q ∈ qs, EndToEnd.QueryOK toyH rows q := by
  have h : ∀ q ∈ qs, (∀ c ∈ q.expr.columns, c ∈ columnsOf rows) ∧ q.expr.arityPos = true ∧
      NoCollision toyH rows q.expr.pairs ∧ ∀ c ∈ q.groupBy, c ∈ columnsOf rows := by
    unfold NoCollision
    decide +kernel
  exact fun q hq => ⟨(h q hq).1, (h q hq).2.1, (h q hq).2.2.1, (h q hq).2.2.2⟩

theorem data_ok : DataNoCollision toyH rows := by unfold DataNoCollision; decide +kernel

/-- the toy hash has no collision on the strings hashed for the cache keys of `e2` … -/
theorem injOn_e2 : InjOn toyH (preimages toyH e2) := by decide +kernel
theorem agree_e2 : KnownAgree toyH (Writer.addRows toyH {} rows).toIndex e2.pairs := by decide +kernel

/-- … so cache keys separate meanings on the sub-expressions of `e2` -/
theorem keyOK_e2 : KeyOK toyH (Writer.addRows toyH {} rows).toIndex (subsOf [e2]) :=
  C03.keyOK_of_no_collision toyH _ [e2] (by simpa using injOn_e2) (by simpa using agree_e2)

/-- the generated file, opened by the generated open with either getter: what the closing theorems assume of a file -/
theorem opened_holds (preload : Bool) : ∃ n' c' cs' d n2 hp2 vals, file = idle 0 n' c' cs' ∧
    HoldsWriter X d (Writer.addRows toyH {} rows) w.2.nextRowID ∧
    Gen.openIndexFromBoltDatabase X (idle 0 n' c' cs') w.1 (some 0) (openOpts X preload)
      = (idle 0 n2 c' cs', hp2, some (openedIndex 0 (Writer.addRows toyH {} rows).schema w.2.nextRowID vals), none) ∧
    GetColRefines (genGetCol X (idle 0 n2 c' cs') hp2 vals)
      (fileIndex X d (Writer.addRows toyH {} rows).schema w.2.nextRowID) := by
  obtain ⟨n', c', cs', d, hf, hb, hs, hw⟩ := file_holds
  obtain ⟨n2, hp2, vals, hopen, hg⟩ := opened_index_refines X 0 n' c' cs' w.1 d _ _ (hw.fileOK hb) X_nil preload
    (fun _ => hs) (fun _ => hw.vDecodable hs)
  exact ⟨n', c', cs', d, n2, hp2, vals, hf, hw, hopen, hg⟩

/-- **1a** `opened_index_refines` (hence `onDemand_getter_refines` / `preloaded_getter_refines`) and
    `generated_groupBy_refines`: the hypotheses hold of the generated file, for both getters -/
example (preload : Bool) : ∃ n' c' cs' d n2 hp2 vals, file = idle 0 n' c' cs' ∧
    Gen.openIndexFromBoltDatabase X file w.1 (some 0) (openOpts X preload)
      = (idle 0 n2 c' cs', hp2, some (openedIndex 0 (Writer.addRows toyH {} rows).schema w.2.nextRowID vals), none) ∧
    GetColRefines (genGetCol X (idle 0 n2 c' cs') hp2 vals)
      (fileIndex X d (Writer.addRows toyH {} rows).schema w.2.nextRowID) ∧
    GroupByRefinesBelow (fileIndex X d (Writer.addRows toyH {} rows).schema w.2.nextRowID)
      (genPop (schemaTo (Writer.addRows toyH {} rows).schema))
      (fun q bm => (genGrp (genGetCol X (idle 0 n2 c' cs') hp2 vals) q bm).map groupOf) := by
  obtain ⟨n', c', cs', d, n2, hp2, vals, hf, _, hopen, hg⟩ := opened_holds preload
  rw [← hf] at hopen
  exact ⟨n', c', cs', d, n2, hp2, vals, hf, hopen, hg,
    generated_groupBy_refines _ _ (schemaOf_schemaTo _) _ hg⟩

/-- `groupBy_never_sees_nil`: the group-by list `[a, b]` resolves on the generated file -/
example (g : UInt64 → Option Nat × Bool) : ∃ (d : BucketData) (fields : List GBField),
    (GetColRefines g (fileIndex X d (Writer.addRows toyH {} rows).schema w.2.nextRowID) →
      ∀ gbf ∈ fields, ∀ v ∈ gbf.values, (g v.2).2 = false → (g v.2).1.isSome = true) ∧ fields.length = 2 := by
  obtain ⟨n', c', cs', d, hf, hb, hs, hw⟩ := file_holds
  cases hp : populateGroupBy (Writer.addRows toyH {} rows).schema [[97], [98]] with
  | none => exact absurd hp (by decide +kernel)
  | some fields =>
    refine ⟨d, fields, fun hg => groupBy_never_sees_nil toyH X rows d _ hw g hg [[97], [98]] fields hp, ?_⟩
    have : (populateGroupBy (Writer.addRows toyH {} rows).schema [[97], [98]]).map List.length = some 2 := by
      decide +kernel
    rw [hp] at this
    simpa using this

/-- the two generated getters really answer differently below the abstraction: a stored value index gives the bitmap
    with both; an absent one gives `(nil, err)` on demand and `(nil, nil)` preloaded -/
example :
    (match (opened false).2.2.1, (opened true).2.2.1 with
     | some i1, some i2 =>
       let k := toyH (encodePair [97] [49])
       (genGetCol X (opened false).1 (opened false).2.1 i1.values k, genGetCol X (opened true).1 (opened true).2.1 i2.values k,
        genGetCol X (opened false).1 (opened false).2.1 i1.values 5, genGetCol X (opened true).1 (opened true).2.1 i2.values 5)
     | _, _ => ((none, true), (none, true), (none, true), (none, true)))
    = ((some 0b101, false), (some 0b101, false), (none, true), (none, false)) := by decide +kernel

/-- **1b** `execute_all_generated_eq_executeC` needs functions tied over the generated bodies: the model's
    `cacheKey` / `evalC` are such functions (`cacheKey_isGenKey`, `evalC_isGenEval`), so are the fuel knots on
    expressions of bounded depth (`genEval_eq`); and `IsGenValidate` holds of the constant `false` on `Expr` -/
example (preload : Bool) : ∃ n' c' cs' d n2 hp2 vals, file = idle 0 n' c' cs' ∧
    execView (Gen.execute
        (indexEnv (lruCacheImpl sz) (fileIndex X d (Writer.addRows toyH {} rows).schema w.2.nextRowID)
          (genGetCol X (idle 0 n2 c' cs') hp2 vals))
        (genPop (schemaTo (Writer.addRows toyH {} rows).schema)) (fun _ => false)
        (fun e s => evalC toyH (lruCacheImpl sz) (fileIndex X d (Writer.addRows toyH {} rows).schema w.2.nextRowID) s e)
        (genGrp (genGetCol X (idle 0 n2 c' cs') hp2 vals)) e2 [[97]] [] (lru 1000))
      = executeC toyH (lruCacheImpl sz) (fileIndex X d (Writer.addRows toyH {} rows).schema w.2.nextRowID) (lru 1000)
          ⟨e2, [[97]]⟩ := by
  obtain ⟨n', c', cs', d, n2, hp2, vals, hf, hw, _, hg⟩ := opened_holds preload
  have hge := evalC_isGenEval toyH (lruCacheImpl sz) _ _ hg (fileIndex_next_lt X d _ _)
  refine ⟨n', c', cs', d, n2, hp2, vals, hf, ?_⟩
  refine execute_all_generated_eq_executeC toyH (lruCacheImpl sz) _ _ hg (fileIndex_next_lt X d _ _) _
    (schemaOf_schemaTo _) (cacheKey_isGenKey toyH) hge.eq hge.not hge.and hge.or
    (fun e => by rw [validateExpr_eq]; cases e <;> simp [exprCase]) ⟨e2, [[97]]⟩ [] (lru 1000) ?_
  rw [hw.fileIndex_eq, (C03.cache_transparent (C03.lruCache_contract sz) (subsOf_closed [e2]) keyOK_e2 (lru 1000)
    ((C03.lru_empty sz _ rfl).sound toyH _ _ _) e2 (subsOf_mem _ _ List.mem_cons_self)).1]
  exact written_fits toyH rows (by decide) e2

/-- **1c** `written_opened_executed_eq_sql` (and with it `genExecute_eq_executeC`): every hypothesis holds; the
    conclusion is applied to a query of the toy history -/
example (preload : Bool) : ∃ n1 c1 cs1 n2 hp2 idx, file = idle 0 n1 c1 cs1 ∧
    Gen.openIndexFromBoltDatabase X (idle 0 n1 c1 cs1) w.1 (some 0) (openOpts X preload)
      = (idle 0 n2 c1 cs1, hp2, some idx, none) ∧
    (execView (genExecute toyH nullCacheImpl X (idle 0 n2 c1 cs1) hp2 idx ⟨toLib e2, [[97]]⟩ [] ())).2
      = specExecute rows ⟨e2, [[97]]⟩ := by
  obtain ⟨n1, c1, cs1, n2, hp2, idx, h1, h2, h3⟩ := written_opened_executed_eq_sql toyH X rows (by decide) X_roundtrip
    X_gob X_nil 0 0 [] [] rfl _ (List.Perm.refl _) preload w.1
  exact ⟨n1, c1, cs1, n2, hp2, idx, h1, h2, h3 e2 [[97]] [] (queries_ok ⟨e2, [[97]]⟩ (by simp [qs])) data_ok⟩

/-- `genExecute_history_eq_sql` and `genExecute_count_eq_specCount` through an LRU cache: the collision hypotheses
    hold of the toy hash on the toy history -/
example (preload : Bool) : ∃ n' c' cs' n2 hp2 vals, file = idle 0 n' c' cs' ∧
    (genExecuteAll toyH (lruCacheImpl sz) X (idle 0 n2 c' cs') hp2
        (openedIndex 0 (Writer.addRows toyH {} rows).schema w.2.nextRowID vals)
        (qs.map fun q => (⟨toLib q.expr, q.groupBy⟩, [])) (lru 100000)).2 = qs.map (specExecute rows) ∧
    (execView (genExecute toyH (lruCacheImpl sz) X (idle 0 n2 c' cs') hp2
        (openedIndex 0 (Writer.addRows toyH {} rows).schema w.2.nextRowID vals) ⟨toLib e1, []⟩ [] (lru 0))).2
      = some ⟨specCount rows e1, []⟩ := by
  obtain ⟨n', c', cs', d, n2, hp2, vals, hf, hw, _, hg⟩ := opened_holds preload
  refine ⟨n', c', cs', n2, hp2, vals, hf, ?_, ?_⟩
  · have := genExecute_history_eq_sql toyH X rows _ hp2 0 d _ vals hw hg (by decide) (qs.map fun q => (q, []))
      sz (lru 100000) rfl (by decide +kernel) (by decide +kernel) data_ok
      (by simpa [List.map_map, Function.comp_def] using queries_ok)
    simpa [List.map_map, Function.comp_def] using this
  · exact genExecute_count_eq_specCount toyH X rows _ hp2 0 d _ vals hw hg (by decide) (C03.lruCache_contract sz)
      (subsOf_closed [e1]) (C03.keyOK_of_no_collision toyH _ [e1] (by decide +kernel) (by decide +kernel)) (lru 0)
      ((C03.lru_empty sz _ rfl).sound toyH _ _ _) e1 (subsOf_mem _ _ (by simp)) [] (by decide) (by decide)
      (by unfold NoCollision; decide +kernel)

/-! ### the server -/

/-- the handler over the generated pipeline on the opened file -/
def serve (preload : Bool) (qs : List WQuery) : Outcome (List PResult) :=
  match (opened preload).2.2.1 with
  | none => .error
  | some idx =>
    (toOutcome (Gen.serverQuery (genLibExecute toyH nullCacheImpl X (opened preload).1 (opened preload).2.1 idx ()) ⟨qs⟩)).map
      fun resp => resp.Results.map presultOfGo

/-- a request with explicit and defaulted ids: one result per query, in order -/
example : serve true [⟨7, some (C14.ofExpr e1), []⟩, ⟨0, some (C14.ofExpr e2), [[97]]⟩] =
    .ok [⟨7, 1, []⟩, ⟨2, 2, [([([97], [49])], 2)]⟩] := by decide +kernel

/-- a member without expression, or with a nil operand, or over an unknown column fails the whole request -/
example : serve false [⟨7, some (C14.ofExpr e1), []⟩, ⟨0, some (.not none), []⟩] = .error ∧
    serve false [⟨1, none, []⟩] = .error ∧ serve true [⟨1, some (.eq [99] [49]), []⟩] = .error := by decide +kernel

/-- **2** `gen_serverQuery_written` (and through it `gen_serverQuery_null` / `gen_serverQuery_eq`), `gen_server_batch`,
    `gen_server_rejects_incomplete`: hypotheses hold -/
example (preload : Bool) (batch : List WQuery) (hlen : batch.length + 1 < 2147483648) :
    ∃ n' c' cs' n2 hp2 vals, file = idle 0 n' c' cs' ∧
    (toOutcome (Gen.serverQuery (genLibExecute toyH nullCacheImpl X (idle 0 n2 c' cs') hp2
        (openedIndex 0 (Writer.addRows toyH {} rows).schema w.2.nextRowID vals) ()) ⟨batch⟩)).map
        (fun resp => resp.Results.map presultOfGo)
      = (serverQuery toyH (tix toyH) batch).map respOf ∧
    (toOutcome (Gen.serverQuery (genLibExecute toyH nullCacheImpl X (idle 0 n2 c' cs') hp2
        (openedIndex 0 (Writer.addRows toyH {} rows).schema w.2.nextRowID vals) ())
        ⟨batch ++ [⟨0, some (.and [.unset]), []⟩]⟩)) = .error := by
  obtain ⟨n', c', cs', d, n2, hp2, vals, hf, hw, _, hg⟩ := opened_holds preload
  refine ⟨n', c', cs', n2, hp2, vals, hf, ?_, ?_⟩
  · exact gen_serverQuery_written toyH X rows _ hp2 0 d _ vals hw hg (by decide) batch (by omega)
  · exact gen_server_rejects_incomplete toyH X rows _ hp2 0 d _ vals hw hg (by decide) _
      (by simp only [List.length_append, List.length_cons, List.length_nil]; omega)
      ⟨0, some (.and [.unset]), []⟩ (by simp) (by simp [WExpr.complete, WExpr.completeList])

/-- `gen_serverQuery_cached`: an LRU in any sound state (here: fresh) for every query -/
example (preload : Bool) : ∃ n' c' cs' n2 hp2 vals, file = idle 0 n' c' cs' ∧
    (toOutcome (Gen.serverQuery (fun lq => genLibExecute toyH (lruCacheImpl sz) X (idle 0 n2 c' cs') hp2
        (openedIndex 0 (Writer.addRows toyH {} rows).schema w.2.nextRowID vals) (lru 100000) lq)
        ⟨[⟨7, some (C14.ofExpr e1), []⟩, ⟨0, some (C14.ofExpr e2), [[97]]⟩]⟩)).map
        (fun resp => resp.Results.map presultOfGo)
      = (serverQuery toyH (tix toyH) [⟨7, some (C14.ofExpr e1), []⟩, ⟨0, some (C14.ofExpr e2), [[97]]⟩]).map respOf := by
  obtain ⟨n', c', cs', d, n2, hp2, vals, hf, hw, _, hg⟩ := opened_holds preload
  refine ⟨n', c', cs', n2, hp2, vals, hf, ?_⟩
  have hix : fileIndex X d (Writer.addRows toyH {} rows).schema w.2.nextRowID = tix toyH := hw.fileIndex_eq
  have := gen_serverQuery_cached toyH (C03.lruCache_contract sz) X (idle 0 n2 c' cs') hp2 0 d _ _ vals hg
    (subsOf_closed [e1, e2])
    (by rw [hix]; exact C03.keyOK_of_no_collision toyH (tix toyH) [e1, e2] (by decide +kernel) (by decide +kernel))
    (fun _ => lru 100000) (fun _ => (C03.lru_empty sz _ rfl).sound toyH _ _ _)
    [⟨7, some (C14.ofExpr e1), []⟩, ⟨0, some (C14.ofExpr e2), [[97]]⟩] (by decide)
    (by
      intro q hq w' e hw' he
      simp only [List.mem_cons, List.not_mem_nil, or_false] at hq
      rcases hq with rfl | rfl
      all_goals
        cases hw'
        rw [C14.complete_ofExpr] at he
        cases he
        exact subsOf_mem _ _ (by simp))
    (fun q _ w' e _ _ bm hbm => written_fits toyH rows (by decide) e bm (hw.fileIndex_eq ▸ hbm))
  rwa [hix] at this

/-! ### the driver -/

/-- the statement text `a="1"|^b=$1;a` (`e2` with a placeholder, grouped by `a`) -/
def stmtText : Bytes := [97, 61, 34, 49, 34, 124, 94, 98, 61, 36, 49, 59, 97]
def stmtParsed : PQuery := ⟨.or [.eq [97] [49] 0, .not (.eq [98] [] 1)], [[97]]⟩

theorem stmt_parse : Gen.ParseQuery 50 stmtText = .ok stmtParsed :=
  parse_ok_of_check 50 stmtText stmtParsed (by decide +kernel)

/-- a prepared statement run through the generated driver code on the opened file, result cache off -/
def query (preload : Bool) (fuel : Nat) (text : Bytes) (values : List Bytes) : Outcome (List Bytes × List (List Cell)) :=
  match (opened preload).2.2.1, Gen.ParseQuery fuel text with
  | some idx, .ok pq =>
    (toOutcome (Gen.stmtQuery (genLibExecute toyH nullCacheImpl X (opened preload).1 (opened preload).2.1 idx ()) ⟨pq⟩
      values)).map rowsView
  | _, _ => .error

theorem query_of_parse (preload : Bool) (fuel : Nat) (text : Bytes) (values : List Bytes) (pq : PQuery)
    (h : Gen.ParseQuery fuel text = .ok pq) :
    query preload fuel text values = match (opened preload).2.2.1 with
      | some idx => (toOutcome (Gen.stmtQuery (genLibExecute toyH nullCacheImpl X (opened preload).1 (opened preload).2.1 idx ())
          ⟨pq⟩ values)).map rowsView
      | none => .error := by
  delta query
  rw [h]
  cases (opened preload).2.2.1 <;> rfl

/-- the generated pipeline, run: header `a, count`, one row `1, 2`; too few arguments are an error -/
example : query true 50 stmtText [[49]] = .ok ([[97], countCol], [[Cell.text [49], Cell.int 2]]) ∧
    query false 50 stmtText [[49]] = .ok ([[97], countCol], [[Cell.text [49], Cell.int 2]]) ∧
    query false 50 stmtText [] = .error := by
  simp only [query_of_parse _ _ _ _ _ stmt_parse]
  decide +kernel

/-- what the two DSNs of the examples configure: `?preload=true&lrucache=true&lrucachesize=42`, and no options -/
theorem cfg_lru : dsnConfig (dsnOptsOf [([112, 114, 101, 108, 111, 97, 100], [116, 114, 117, 101]),
    ([108, 114, 117, 99, 97, 99, 104, 101], [116, 114, 117, 101]),
    ([108, 114, 117, 99, 97, 99, 104, 101, 115, 105, 122, 101], [52, 50])])
    = .ok ⟨true, some 42, sPreload ++ sLru ++ sLruSize ++ [52, 50]⟩ := by decide +kernel

theorem cfg_plain : dsnConfig (dsnOptsOf []) = .ok ⟨false, none, []⟩ := by decide +kernel

/-- **3** `gen_driver_dsn_eq_sql`: for the DSN
    `?preload=true&lrucache=true&lrucachesize=42` and for the DSN without options, all hypotheses hold, with the cache
    on resp. off: the rows are the specification's groups -/
example (v : Go.Url.Values)
    (hv : v = [([112, 114, 101, 108, 111, 97, 100], [116, 114, 117, 101]), ([108, 114, 117, 99, 97, 99, 104, 101], [116, 114, 117, 101]),
      ([108, 114, 117, 99, 97, 99, 104, 101, 115, 105, 122, 101], [52, 50])] ∨ v = []) :
    ∃ o n' c' cs' n2 hp2 vals groups, Gen.openFileOpts [120] v = .ok o ∧ file = idle 0 n' c' cs' ∧
      specGroups rows e2 [[97]] = some groups ∧
      ((toOutcome (Gen.stmtQuery (genLibExecute toyH nullCacheImpl X (idle 0 n2 c' cs') hp2
          (openedIndex 0 (Writer.addRows toyH {} rows).schema w.2.nextRowID vals) ()) ⟨stmtParsed⟩ [[49]])).map rowsView
        = .ok ([[97], countCol], groups.map C12.groupRow) ∨
       (toOutcome (Gen.stmtQuery (genLibExecute toyH (lruCacheImpl sz) X (idle 0 n2 c' cs') hp2
          (openedIndex 0 (Writer.addRows toyH {} rows).schema w.2.nextRowID vals) (lru 42)) ⟨stmtParsed⟩ [[49]])).map rowsView
        = .ok ([[97], countCol], groups.map C12.groupRow)) := by
  obtain ⟨n', c', cs', d, hf, hb, hs, hw⟩ := file_holds
  obtain ⟨cfg, hc, hcs⟩ : ∃ cfg, dsnConfig (dsnOptsOf v) = .ok cfg ∧ (cfg.cacheSize = some 42 ∨ cfg.cacheSize = none) := by
    rcases hv with rfl | rfl
    · exact ⟨_, cfg_lru, Or.inl rfl⟩
    · exact ⟨_, cfg_plain, Or.inr rfl⟩
  have ho := openFileOpts_eq [120] v
  rw [hc] at ho
  obtain ⟨cfg', n2, hp2, vals, hcfg, _, _, _, hq⟩ := gen_driver_dsn_eq_sql toyH X rows (by decide) 0 n' c' cs' w.1 d _
    hb hs hw X_nil [120] v _ ho
  cases hc.symm.trans hcfg
  obtain ⟨groups, hsg, hoff, hon⟩ := hq stmtText 50 (by decide) stmtParsed stmt_parse [[49]]
    ⟨.or [.eq [97] [49] 0, .not (.eq [98] [49] 0)], [[97]]⟩ rfl (queries_ok ⟨e2, [[97]]⟩ (by simp [qs])) data_ok
    (by simp)
  refine ⟨_, n', c', cs', n2, hp2, vals, groups, ho, hf, hsg, ?_⟩
  rcases hcs with h | h
  · exact Or.inr (hon 42 h sz (lru 42) injOn_e2 agree_e2 ((C03.lru_empty sz _ rfl).sound toyH _ _ _))
  · exact Or.inl (hoff h)

/-- `gen_driver_count_row`: a statement without GROUP BY -/
example (preload : Bool) : ∃ n' c' cs' n2 hp2 vals, file = idle 0 n' c' cs' ∧
    (toOutcome (Gen.stmtQuery (genLibExecute toyH nullCacheImpl X (idle 0 n2 c' cs') hp2
        (openedIndex 0 (Writer.addRows toyH {} rows).schema w.2.nextRowID vals) ()) ⟨⟨stmtParsed.expr, []⟩⟩ [[49]])).map rowsView
      = .ok ([countCol], [[Cell.int (specCount rows e2)]]) := by
  obtain ⟨n', c', cs', d, n2, hp2, vals, hf, hw, _, hg⟩ := opened_holds preload
  refine ⟨n', c', cs', n2, hp2, vals, hf, ?_⟩
  exact gen_driver_count_row toyH X rows _ hp2 0 d _ vals hw hg (by decide) C03.nullCache_contract (subsOf_closed [e2])
    keyOK_e2 () (fun _ _ h => h.elim)
    [97, 61, 34, 49, 34, 124, 94, 98, 61, 36, 49] 50 (by decide) ⟨stmtParsed.expr, []⟩
    (parse_ok_of_check 50 _ _ (by decide +kernel)) [[49]] ⟨.or [.eq [97] [49] 0, .not (.eq [98] [49] 0)], []⟩
    (by rfl) (by show e2 ∈ _; exact subsOf_mem _ _ (by simp)) (by decide) (by decide)
    (by unfold NoCollision; decide +kernel) rfl

end Demo

end Updog.GenCompose
