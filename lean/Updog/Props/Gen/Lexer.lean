/-
The REGENERATED lexer of internal/queryparser (`Updog/GeneratedFns.lean`: `lexer_next … lex`, written by the Go→Lean
translator) is the rune-level model `Updog.Model.RuneLexer` (`lexAllR`), hence the byte-level model `lexAll`.

1. character classes: `Go.containsRune` on the three literals of the generated text, the white-space and letter tests
2. the primitives `lexer_next`, `lexer_peek`, `lexer_backup`, `lexer_emit` on a well-formed state (`WF`, `rem`, `adv`)
3. `lexer_acceptRun` = `acceptRunR`
4. `lexValue_loop1` = `scanStrR`
5. the state functions `lexText`, `lexField`, `lexValue`, `lexPlaceholder` = the branches of `lexTextR`
6. MAIN: `lex_eq`, `lex_eq_lexAll` (enough fuel: the items are the model's tokens), `lexAll_tokOK`, `lexAll_length_le`;
   then `Stable` (a fuel-bounded result that no longer changes) and `lex_fuel_or` (any fuel: "out of fuel" or the
   model's tokens)
7. examples evaluated by the kernel on the generated functions, `#print axioms`

Fuel is a depth bound (every callee gets the caller's fuel). The loop of `lexer.run` takes one unit per state function
call and one for the final test; a token lexed by `lexField`/`lexValue`/`lexPlaceholder` takes two calls (`lexText`
returns the state function without consuming input), so `2 * len + 2` is enough and, for `$$$…`, necessary
(`lex_eq` asks for `2 * len + 3`).
-/
import Updog.Props.Gen.Items
import Updog.Proofs.GoPreludeT4
import Updog.Proofs.RuneLexer
import Updog.Proofs.Parser
import Updog.Props.C09Runes

namespace Updog.GeneratedEq
open Updog Updog.RuneLexer

/-! ## 1. character classes -/

theorem isDigitRune_iff_mem (n : Nat) : isDigitRune n = true ↔ n ∈ List.range' 48 10 := by
  simp only [isDigitRune, Bool.and_eq_true, decide_eq_true_iff, List.mem_range'_1]
  omega

theorem isAlphaRune_iff_mem (n : Nat) : isAlphaRune n = true ↔ n ∈ List.range' 97 26 ++ List.range' 65 26 := by
  simp only [isAlphaRune, Bool.or_eq_true, Bool.and_eq_true, decide_eq_true_iff, List.mem_append, List.mem_range'_1]
  omega

theorem containsRune_space (r : Int) :
    Go.containsRune ([13, 10, 9, 32] : Bytes) r = (decide (0 ≤ r) && isSpaceRune r.toNat) :=
  Go.containsRune_eq_class (cls := [13, 10, 9, 32]) rfl (fun n => by
    simp only [isSpaceRune, Bool.or_eq_true, beq_iff_eq, List.mem_cons, List.not_mem_nil, or_false]
    omega) r

theorem containsRune_field (r : Int) :
    Go.containsRune ([48, 49, 50, 51, 52, 53, 54, 55, 56, 57, 97, 98, 99, 100, 101, 102, 103, 104, 105, 106, 107, 108, 109, 110, 111, 112, 113, 114, 115, 116, 117, 118, 119, 120, 121, 122, 65, 66, 67, 68, 69, 70, 71, 72, 73, 74, 75, 76, 77, 78, 79, 80, 81, 82, 83, 84, 85, 86, 87, 88, 89, 90, 95] : Bytes) r
      = (decide (0 ≤ r) && isFieldRune r.toNat) :=
  Go.containsRune_eq_class (cls := List.range' 48 10 ++ (List.range' 97 26 ++ List.range' 65 26) ++ [95]) (by decide +kernel)
    (fun n => by
      simp only [isFieldRune, Bool.or_eq_true, beq_iff_eq, isDigitRune_iff_mem, isAlphaRune_iff_mem, List.mem_append,
        List.mem_singleton]) r

theorem containsRune_digit (r : Int) :
    Go.containsRune ([48, 49, 50, 51, 52, 53, 54, 55, 56, 57] : Bytes) r = (decide (0 ≤ r) && isDigitRune r.toNat) :=
  Go.containsRune_eq_class (by decide +kernel) isDigitRune_iff_mem r

/-- the letter test of `lexText`, as written in the generated text, on a decoded rune -/
theorem alphaTest_nat (n : Nat) :
    (((decide ((n : Int) ≥ (97 : Int))) && (decide ((n : Int) ≤ (122 : Int)))) ||
      ((decide ((n : Int) ≥ (65 : Int))) && (decide ((n : Int) ≤ (90 : Int))))) = isAlphaRune n := by
  rw [Bool.eq_iff_iff]
  simp only [isAlphaRune, Bool.or_eq_true, Bool.and_eq_true, decide_eq_true_eq]
  omega

/-- both tests fail on `eof` -/
theorem spaceTest_eof :
    (((((-1 : Int) == (32 : Int)) || ((-1 : Int) == (10 : Int))) || ((-1 : Int) == (13 : Int))) || ((-1 : Int) == (9 : Int)))
      = false := by decide
theorem alphaTest_eof :
    (((decide ((-1 : Int) ≥ (97 : Int))) && (decide ((-1 : Int) ≤ (122 : Int)))) ||
      ((decide ((-1 : Int) ≥ (65 : Int))) && (decide ((-1 : Int) ≤ (90 : Int))))) = false := by decide

/-- comparison of a decoded rune (a `Nat` cast to `Int`) with a literal of the generated text -/
theorem natCast_beq_lit (n k : Nat) :
    (((n : Nat) : Int) == (no_index (OfNat.ofNat k) : Int)) = (n == (no_index (OfNat.ofNat k) : Nat)) := by
  rw [Bool.eq_iff_iff, beq_iff_eq, beq_iff_eq]
  exact Int.ofNat_inj

theorem natCast_beq_eof (n : Nat) : (((n : Nat) : Int) == Gen.eof) = false := by
  simp only [Gen.eof, beq_eq_false_iff_ne]; omega

theorem natCast_bne_eof (n : Nat) : (((n : Nat) : Int) != Gen.eof) = true := by
  simp only [bne, natCast_beq_eof]; rfl

/-! ## 2. the primitives on a well-formed lexer state -/

/-- well-formed lexer state: `0 ≤ start ≤ pos ≤ len(input)` -/
def WF (l : Gen.Lexer) : Prop := 0 ≤ l.start ∧ l.start ≤ l.pos ∧ l.pos ≤ l.input.length

/-- the not yet consumed input `input[pos:]` -/
def rem (l : Gen.Lexer) : Bytes := l.input.drop l.pos.toNat

/-- `l` with `k` more bytes consumed and the field `width` set to `w` -/
def adv (l : Gen.Lexer) (k : Nat) (w : Int) : Gen.Lexer := { l with pos := l.pos + (k : Int), width := w }

/-- `l` after `k` more bytes have been consumed and the lexeme `input[start:pos+k]` has been emitted with type `t` -/
def emitK (l : Gen.Lexer) (k : Nat) (w : Int) (t : Int) : Gen.Lexer :=
  { l with pos := l.pos + (k : Int), start := l.pos + (k : Int), width := w,
           items := l.items ++ [({ typ := t, pos := l.start, val := (rem l).take k } : Gen.Item)] }

@[simp] theorem adv_input (l : Gen.Lexer) (k : Nat) (w : Int) : (adv l k w).input = l.input := rfl
@[simp] theorem adv_state (l : Gen.Lexer) (k : Nat) (w : Int) : (adv l k w).state = l.state := rfl
@[simp] theorem adv_pos (l : Gen.Lexer) (k : Nat) (w : Int) : (adv l k w).pos = l.pos + (k : Int) := rfl
@[simp] theorem adv_start (l : Gen.Lexer) (k : Nat) (w : Int) : (adv l k w).start = l.start := rfl
@[simp] theorem adv_width (l : Gen.Lexer) (k : Nat) (w : Int) : (adv l k w).width = w := rfl
@[simp] theorem adv_lastPos (l : Gen.Lexer) (k : Nat) (w : Int) : (adv l k w).lastPos = l.lastPos := rfl
@[simp] theorem adv_items (l : Gen.Lexer) (k : Nat) (w : Int) : (adv l k w).items = l.items := rfl

@[simp] theorem adv_setWidth (l : Gen.Lexer) (w0 : Int) (k : Nat) (w : Int) :
    adv { l with width := w0 } k w = adv l k w := rfl

theorem adv_adv (l : Gen.Lexer) (k k' : Nat) (w w' : Int) : adv (adv l k w) k' w' = adv l (k + k') w' := by
  simp only [adv, Int.natCast_add, Int.add_assoc]

theorem adv_zero (l : Gen.Lexer) (w : Int) : adv l 0 w = { l with width := w } := by
  simp only [adv, Int.natCast_zero, Int.add_zero]

theorem WF.pos_nonneg {l : Gen.Lexer} (h : WF l) : 0 ≤ l.pos := Int.le_trans h.1 h.2.1

theorem rem_length (l : Gen.Lexer) : (rem l).length = l.input.length - l.pos.toNat := List.length_drop

theorem rem_of_eq {l l2 : Gen.Lexer} (h0 : 0 ≤ l.pos) (h1 : l2.input = l.input) {k : Nat} (h2 : l2.pos = l.pos + (k : Int)) :
    rem l2 = (rem l).drop k := by
  simp only [rem, h1, h2, List.drop_drop]
  congr 1
  omega

theorem rem_adv {l : Gen.Lexer} (h : WF l) {s : Bytes} (hs : rem l = s) (k : Nat) (w : Int) :
    rem (adv l k w) = s.drop k :=
  hs ▸ rem_of_eq (l2 := adv l k w) h.pos_nonneg rfl rfl

theorem WF.adv {l : Gen.Lexer} (h : WF l) {s : Bytes} (hs : rem l = s) {k : Nat} (hk : k ≤ s.length) (w : Int) :
    WF (adv l k w) := by
  rw [← hs, rem_length] at hk
  unfold WF at *
  simp only [adv_start, adv_pos, adv_input]
  omega

theorem lexer_next_nil {l : Gen.Lexer} (hwf : WF l) (h : rem l = []) : Gen.lexer_next l = (adv l 0 0, Gen.eof) := by
  have hp : l.pos ≥ Go.len l.input := by
    have := List.drop_eq_nil_iff.mp h
    unfold WF at hwf
    simp only [Go.len]; omega
  simp only [Gen.lexer_next, hp, decide_true, if_true, adv_zero]

theorem lexer_next_cons {l : Gen.Lexer} (hwf : WF l) {b : UInt8} {rest : Bytes} (h : rem l = b :: rest) :
    Gen.lexer_next l = (adv l (decodeRune (b :: rest)).2 (((decodeRune (b :: rest)).2 : Nat) : Int),
                        (((decodeRune (b :: rest)).1 : Nat) : Int)) := by
  have hp : ¬ (l.pos ≥ Go.len l.input) := by
    have := congrArg List.length h
    rw [rem_length] at this
    unfold WF at hwf
    simp only [Go.len, List.length_cons] at this ⊢; omega
  rw [← h]
  simp only [Gen.lexer_next, hp, decide_false]
  rfl

theorem lexer_backup_adv (l : Gen.Lexer) (k w : Nat) (h : w ≤ k) :
    Gen.lexer_backup (adv l k (w : Int)) = adv l (k - w) (w : Int) := by
  simp only [Gen.lexer_backup, adv]
  congr 1
  omega

theorem lexer_peek_nil {l : Gen.Lexer} (hwf : WF l) (h : rem l = []) : Gen.lexer_peek l = (adv l 0 0, Gen.eof) := by
  simp only [Gen.lexer_peek, lexer_next_nil hwf h]
  exact congrArg (·, Gen.eof) (lexer_backup_adv l 0 0 (Nat.le_refl _))

theorem lexer_peek_cons {l : Gen.Lexer} (hwf : WF l) {b : UInt8} {rest : Bytes} (h : rem l = b :: rest) :
    Gen.lexer_peek l = (adv l 0 (((decodeRune (b :: rest)).2 : Nat) : Int), (((decodeRune (b :: rest)).1 : Nat) : Int)) := by
  simp only [Gen.lexer_peek, lexer_next_cons hwf h]
  rw [lexer_backup_adv l _ _ (Nat.le_refl _), Nat.sub_self]

/-- `l.peek()` leaves every field but `width` unchanged, and returns the same rune as `l.next()` -/
theorem lexer_peek_spec (l : Gen.Lexer) (hwf : WF l) :
    (Gen.lexer_peek l).2 = (Gen.lexer_next l).2 ∧
    (Gen.lexer_peek l).1 = { l with width := (Gen.lexer_peek l).1.width } := by
  cases h : rem l with
  | nil => rw [lexer_peek_nil hwf h, lexer_next_nil hwf h, adv_zero]; exact ⟨rfl, rfl⟩
  | cons b rest => rw [lexer_peek_cons hwf h, lexer_next_cons hwf h, adv_zero]; exact ⟨rfl, rfl⟩

/-- `l.emit(t)`: sends `item{t, start, input[start:pos]}` and sets `start := pos` -/
theorem lexer_emit_eq (l : Gen.Lexer) (t : Int) :
    Gen.lexer_emit l t =
      { l with items := l.items ++ [({ typ := t, pos := l.start, val := Go.slice l.input l.start l.pos } : Gen.Item)],
               start := l.pos } := rfl

theorem lexer_emit_adv (l : Gen.Lexer) (h0 : 0 ≤ l.pos) (hs : l.start = l.pos) (k : Nat) (w t : Int) :
    Gen.lexer_emit (adv l k w) t = emitK l k w t := by
  simp only [lexer_emit_eq, adv, emitK, hs, Go.slice_add l.input h0 k, rem]

theorem lexer_ignore_adv (l : Gen.Lexer) (k : Nat) (w : Int) :
    Gen.lexer_ignore (adv l k w) = { l with pos := l.pos + (k : Int), start := l.pos + (k : Int), width := w } := rfl


/-! ## 3. `acceptRun` -/

theorem acceptRunR_append (v : Nat → Bool) : ∀ (n : Nat) (s : Bytes), (acceptRunR v n s).1 ++ (acceptRunR v n s).2 = s := by
  intro n
  induction n with
  | zero => intro s; cases s <;> rfl
  | succ n ih =>
    intro s
    cases s with
    | nil => rfl
    | cons b rest =>
      simp only [acceptRunR]
      split
      · rw [List.append_assoc, ih, List.take_append_drop]
      · rfl

theorem acceptRunR_snd (v : Nat → Bool) (n : Nat) (s : Bytes) :
    (acceptRunR v n s).2 = s.drop (acceptRunR v n s).1.length := by
  conv => rhs; arg 2; rw [← acceptRunR_append v n s]
  rw [List.drop_left]

theorem acceptRunR_fst (v : Nat → Bool) (n : Nat) (s : Bytes) :
    (acceptRunR v n s).1 = s.take (acceptRunR v n s).1.length := by
  conv => rhs; arg 2; rw [← acceptRunR_append v n s]
  rw [List.take_left]

theorem acceptRunR_length_le (v : Nat → Bool) (n : Nat) (s : Bytes) : (acceptRunR v n s).1.length ≤ s.length := by
  have := congrArg List.length (acceptRunR_append v n s)
  rw [List.length_append] at this
  omega

/-- the loop of `acceptRun` on the remaining input `s`: it stops one rune (of width `w`; `w = 0` at the end of the
    input) AFTER the run -/
theorem acceptRun_loop1_spec {valid : Bytes} {validR : Nat → Bool}
    (hv : ∀ r, Go.containsRune valid r = (decide (0 ≤ r) && validR r.toNat)) :
    ∀ (fuel n : Nat) (l : Gen.Lexer) (s : Bytes), WF l → rem l = s → s.length < fuel → s.length ≤ n →
      ∃ w : Nat, Gen.lexer_acceptRun_loop1 fuel valid l = .ok (adv l ((acceptRunR validR n s).1.length + w) (w : Int)) := by
  intro fuel
  induction fuel with
  | zero => intro _ _ _ _ _ h; exact absurd h (Nat.not_lt_zero _)
  | succ f ih =>
    intro n l s hwf hr hf hn
    rw [Gen.lexer_acceptRun_loop1]
    cases s with
    | nil =>
      rw [lexer_next_nil hwf hr]
      exact ⟨0, by simp only [Go.containsRune_neg valid (show Gen.eof < 0 by decide), Bool.false_eq_true, if_false]; cases n <;> rfl⟩
    | cons b rest =>
      obtain ⟨n, rfl⟩ : ∃ n', n = n' + 1 := ⟨n - 1, by simp only [List.length_cons] at hn; omega⟩
      have hw := decodeRune_width b rest
      rw [lexer_next_cons hwf hr]
      simp only [hv, Int.toNat_natCast, Int.natCast_nonneg, decide_true, Bool.true_and, acceptRunR]
      generalize decodeRune (b :: rest) = d at hw ⊢
      cases validR d.1 with
      | false => exact ⟨d.2, by simp only [Bool.false_eq_true, if_false, List.length_nil, Nat.zero_add]⟩
      | true =>
        simp only [List.length_cons] at hf hn hw
        obtain ⟨w, hw'⟩ := ih n (adv l d.2 (d.2 : Nat)) _ (hwf.adv hr hw.2 _) (rem_adv hwf hr _ _)
          (by simp only [List.length_drop, List.length_cons]; omega) (by simp only [List.length_drop, List.length_cons]; omega)
        refine ⟨w, ?_⟩
        simp only [if_true, hw', adv_adv, List.length_append, List.length_take, List.length_cons,
          Nat.min_eq_left hw.2, Nat.add_assoc]

/-- `l.acceptRun(valid)` = the model's `acceptRunR`: the position advances over the run, nothing else changes (but
    `width`, which is the width of the rune after the run) -/
theorem lexer_acceptRun_adv {valid : Bytes} {validR : Nat → Bool}
    (hv : ∀ r, Go.containsRune valid r = (decide (0 ≤ r) && validR r.toNat))
    {fuel n : Nat} {l : Gen.Lexer} {s : Bytes} (hwf : WF l) (hr : rem l = s) (hf : s.length < fuel) (hn : s.length ≤ n) :
    ∃ w : Int, Gen.lexer_acceptRun fuel l valid = .ok (adv l (acceptRunR validR n s).1.length w) := by
  obtain ⟨w, hw⟩ := acceptRun_loop1_spec hv fuel n l s hwf hr hf hn
  refine ⟨(w : Int), ?_⟩
  simp only [Gen.lexer_acceptRun, hw]
  rw [lexer_backup_adv l _ w (Nat.le_add_left _ _), Nat.add_sub_cancel]

/-- the statement of `lexer_acceptRun_adv` field by field -/
theorem lexer_acceptRun_spec (valid : Bytes) (validR : Nat → Bool)
    (hv : ∀ r, Go.containsRune valid r = (decide (0 ≤ r) && validR r.toNat))
    (fuel : Nat) (l : Gen.Lexer) (hwf : WF l) (hf : (rem l).length < fuel) :
    ∃ l', Gen.lexer_acceptRun fuel l valid = .ok l' ∧
      l'.input = l.input ∧ l'.start = l.start ∧ l'.items = l.items ∧ l'.state = l.state ∧ l'.lastPos = l.lastPos ∧
      l'.pos = l.pos + ((acceptRunR validR (rem l).length (rem l)).1.length : Int) ∧
      rem l' = (acceptRunR validR (rem l).length (rem l)).2 ∧
      Go.slice l.input l.pos l'.pos = (acceptRunR validR (rem l).length (rem l)).1 ∧ WF l' := by
  obtain ⟨w, hw⟩ := lexer_acceptRun_adv hv hwf rfl hf (Nat.le_refl _)
  refine ⟨_, hw, rfl, rfl, rfl, rfl, rfl, rfl, ?_, ?_, ?_⟩
  · rw [rem_adv hwf rfl, ← acceptRunR_snd]
  · rw [adv_pos, Go.slice_add _ hwf.pos_nonneg]
    exact (acceptRunR_fst _ _ _).symm
  · exact hwf.adv rfl (acceptRunR_length_le _ _ _) _


/-! ## 4. the loop of `lexValue` -/

theorem decodeRune_small {b : UInt8} {rest : Bytes} (h : (decodeRune (b :: rest)).1 < 128) :
    decodeRune (b :: rest) = (b.toNat, 1) := by
  rcases lt_or_toNat_ge b with hb | hb
  · exact decodeRune_ascii rest hb
  · have := (decodeRune_nonascii_nat b rest hb).1; omega

theorem decodeRune_eq_lit {b : UInt8} {rest : Bytes} {c : UInt8} (hc : c.toNat < 128)
    (h : (decodeRune (b :: rest)).1 = c.toNat) : b = c ∧ (decodeRune (b :: rest)).2 = 1 := by
  have hs := decodeRune_small (b := b) (rest := rest) (by omega)
  rw [hs] at h
  exact ⟨UInt8.toNat_inj.mp h, by rw [hs]⟩

theorem pair_match {α β γ : Type} (p : α × β) (g : α → β → γ) : (match p with | (a, b) => g a b) = g p.1 p.2 := rfl

/-- how many bytes of `s` the loop of `lexValue` consumes, given the model's answer: all of `s`, or the body and the
    closing quote -/
def scanned (s : Bytes) : Option (Bytes × Bytes) → Nat
  | none => s.length
  | some (body, _) => body.length + 1

theorem scanned_map {s s' pre : Bytes} (h : s.length = pre.length + s'.length) (o : Option (Bytes × Bytes)) :
    scanned s (o.map fun br => (pre ++ br.1, br.2)) = pre.length + scanned s' o := by
  cases o with
  | none => exact h
  | some br => simp only [Option.map_some, scanned, List.length_append, Nat.add_assoc]

/-- the loop of `lexValue` = the model's `scanStrR`. `l0` is the state in front of the `l.next()` whose result the loop
    inspects first (in `lexValue`: after the opening quote). If the model finds no closing quote the loop runs to the
    end of the input and ends with `r = eof`, `seenFinalQuote = false`; otherwise it ends with `seenFinalQuote = true`
    just after the closing quote. -/
theorem lexValue_loop1_spec :
    ∀ (fuel n : Nat) (l0 : Gen.Lexer) (s : Bytes), WF l0 → rem l0 = s → s.length < fuel → s.length ≤ n →
      ∃ r w, Gen.lexValue_loop1 fuel (Gen.lexer_next l0).2 (Gen.lexer_next l0).1 false
          = .ok (r, adv l0 (scanned s (scanStrR n s)) w, (scanStrR n s).isSome) ∧
        (scanStrR n s = none → r = Gen.eof) := by
  intro fuel
  induction fuel with
  | zero => intro _ _ _ _ _ h; exact absurd h (Nat.not_lt_zero _)
  | succ f ih =>
    intro n l0 s hwf hr hf hn
    cases s with
    | nil =>
      rw [lexer_next_nil hwf hr, Gen.lexValue_loop1]
      exact ⟨Gen.eof, 0, by cases n <;> rfl, fun _ => rfl⟩
    | cons b rest =>
      obtain ⟨n, rfl⟩ : ∃ n', n = n' + 1 := ⟨n - 1, by simp only [List.length_cons] at hn; omega⟩
      have hw := decodeRune_width b rest
      simp only [List.length_cons] at hf hn hw
      rw [lexer_next_cons hwf hr, Gen.lexValue_loop1]
      simp only [natCast_bne_eof, if_true, natCast_beq_lit, scanStrR]
      by_cases hq : (decodeRune (b :: rest)).1 = 34
      · -- a quote
        obtain ⟨rfl, hw1⟩ := decodeRune_eq_lit (c := 34) (by decide) hq
        have hwf1 := hwf.adv hr (k := 1) (Nat.le_add_left _ _) ((1 : Nat) : Int)
        have hr1 : rem (adv l0 1 ((1 : Nat) : Int)) = rest := rem_adv hwf hr _ _
        simp only [hq, hw1, beq_self_eq_true, if_true, List.drop_succ_cons, List.drop_zero, List.take_succ_cons,
          List.take_zero]
        cases rest with
        | nil =>
          rw [lexer_peek_nil hwf1 hr1, adv_adv]
          exact ⟨Gen.eof, 0, rfl, nofun⟩
        | cons c rest2 =>
          rw [lexer_peek_cons hwf1 hr1]
          simp only [bne, natCast_beq_lit, adv_adv]
          by_cases hq2 : (decodeRune (c :: rest2)).1 = 34
          · -- an escaped quote
            obtain ⟨rfl, hw2⟩ := decodeRune_eq_lit (c := 34) (by decide) hq2
            have hwf2 := hwf.adv hr (k := 1 + 0) (Nat.le_add_left _ _) ((1 : Nat) : Int)
            have hr2 : rem (adv l0 (1 + 0) ((1 : Nat) : Int)) = 34 :: rest2 := rem_adv hwf hr _ _
            have hwf3 := hwf.adv hr (k := 1 + 0 + 1) (Nat.le_add_left _ _) ((1 : Nat) : Int)
            have hr3 : rem (adv l0 (1 + 0 + 1) ((1 : Nat) : Int)) = rest2 := rem_adv hwf hr _ _
            simp only [List.length_cons] at hf hn
            obtain ⟨r, w, e, hr'⟩ := ih n _ _ hwf3 hr3 (by omega) (by omega)
            simp only [hq2, hw2, beq_self_eq_true, Bool.not_true, Bool.false_eq_true, if_false, if_true,
              lexer_next_cons hwf2 hr2, adv_adv, List.drop_succ_cons, List.drop_zero, List.take_succ_cons,
              List.take_zero, e, Option.isSome_map, Option.map_eq_none_iff,
              scanned_map (s := 34 :: 34 :: rest2) (pre := [34] ++ [34]) (s' := rest2) (Nat.add_comm _ 2)]
            exact ⟨r, w, rfl, hr'⟩
          · -- the closing quote
            simp only [beq_eq_false_iff_ne.mpr hq2, Bool.not_false, Bool.false_eq_true, if_true, if_false]
            exact ⟨_, _, rfl, nofun⟩
      · -- any other rune
        generalize decodeRune (b :: rest) = d at hq hw ⊢
        have hwf1 := hwf.adv hr hw.2 ((d.2 : Nat) : Int)
        have hr1 := rem_adv hwf hr d.2 ((d.2 : Nat) : Int)
        obtain ⟨r, w, e, hr'⟩ := ih n _ _ hwf1 hr1 (by simp only [List.length_drop, List.length_cons]; omega)
          (by simp only [List.length_drop, List.length_cons]; omega)
        simp only [hq, beq_iff_eq, if_false, e, adv_adv, Option.isSome_map, Option.map_eq_none_iff,
          scanned_map (s := b :: rest) (pre := (b :: rest).take d.2) (s' := (b :: rest).drop d.2)
            (by rw [← List.length_append, List.take_append_drop]),
          List.length_take, List.length_cons, Nat.min_eq_left hw.2]
        exact ⟨r, w, rfl, hr'⟩


/-! ## 5. the state functions -/

/-- `l` after `k` bytes have been skipped (`acceptRun`, then `ignore`) -/
def skipK (l : Gen.Lexer) (k : Nat) (w : Int) : Gen.Lexer :=
  { l with pos := l.pos + (k : Int), start := l.pos + (k : Int), width := w }

/-- `l` after `l.errorf(format)` -/
def errK (l : Gen.Lexer) (format : Bytes) : Gen.Lexer :=
  { l with items := l.items ++ [({ typ := Gen.itemError, pos := l.start, val := format } : Gen.Item)] }

theorem lexer_errorf_eq (l : Gen.Lexer) (format : Bytes) : Gen.lexer_errorf l format = (errK l format, none) := rfl

/-- the error message of `lexText` -/
def msgUnknown : Bytes := [117, 110, 107, 110, 111, 119, 110, 32, 116, 111, 107, 101, 110, 58, 32, 37, 115]

theorem lexText_eof (fuel : Nat) (l : Gen.Lexer) (hwf : WF l) (hs : l.start = l.pos) (h : rem l = []) :
    Gen.lexText fuel l = .ok (emitK l 0 0 Gen.itemEOF, none) := by
  simp only [Gen.lexText, lexer_peek_nil hwf h, lexer_emit_adv l hwf.pos_nonneg hs]
  rfl

/-- what `lexText` does inside the input, all tests expressed on the decoded rune `r` (a `Nat`) of width `w`: the same
    cascade as in the model's `lexTextR` -/
@[simp] def lexTextOn (fuel : Nat) (l : Gen.Lexer) (r w : Nat) : Go.Res (Gen.Lexer × Option Gen.StateFn) :=
      if isSpaceRune r then
        match Gen.lexer_acceptRun fuel { l with width := (w : Int) } ([13, 10, 9, 32] : Bytes) with
        | .error err => .error err
        | .ok l => .ok (Gen.lexer_ignore l, some Gen.StateFn.lexText)
      else if r == 40 then .ok (emitK l w (w : Int) Gen.itemOpenParen, some Gen.StateFn.lexText)
      else if r == 41 then .ok (emitK l w (w : Int) Gen.itemCloseParen, some Gen.StateFn.lexText)
      else if r == 38 then .ok (emitK l w (w : Int) Gen.itemAnd, some Gen.StateFn.lexText)
      else if r == 124 then .ok (emitK l w (w : Int) Gen.itemOr, some Gen.StateFn.lexText)
      else if r == 94 then .ok (emitK l w (w : Int) Gen.itemNot, some Gen.StateFn.lexText)
      else if r == 44 then .ok (emitK l w (w : Int) Gen.itemComma, some Gen.StateFn.lexText)
      else if r == 59 then .ok (emitK l w (w : Int) Gen.itemSemicolon, some Gen.StateFn.lexText)
      else if r == 61 then .ok (emitK l w (w : Int) Gen.itemEqual, some Gen.StateFn.lexText)
      else if isAlphaRune r then .ok ({ l with width := (w : Int) }, some Gen.StateFn.lexField)
      else if r == 34 then .ok ({ l with width := (w : Int) }, some Gen.StateFn.lexValue)
      else if r == 36 then .ok ({ l with width := (w : Int) }, some Gen.StateFn.lexPlaceholder)
      else .ok (errK { l with width := (w : Int) } msgUnknown, none)

theorem lexText_cons' (fuel : Nat) (l : Gen.Lexer) (hwf : WF l) (hs : l.start = l.pos) (b : UInt8) (rest : Bytes)
    (h : rem l = b :: rest) :
    Gen.lexText fuel l = lexTextOn fuel l (decodeRune (b :: rest)).1 (decodeRune (b :: rest)).2 := by
  have hnext := lexer_next_cons (l := { l with width := (((decodeRune (b :: rest)).2 : Nat) : Int) }) hwf h
  rw [adv_setWidth] at hnext
  simp only [Gen.lexText, lexer_peek_cons hwf h, adv_zero, alphaTest_nat, natCast_beq_lit, natCast_beq_eof, hnext,
    lexer_emit_adv l hwf.pos_nonneg hs, Bool.false_eq_true, ↓reduceIte, lexer_errorf_eq, msgUnknown, lexTextOn]
  rfl

theorem lexText_space (fuel : Nat) (l : Gen.Lexer) (hwf : WF l) (hs : l.start = l.pos) (b : UInt8) (rest : Bytes)
    (h : rem l = b :: rest) (hsp : isSpaceRune (decodeRune (b :: rest)).1 = true)
    (hf : rest.length + 1 < fuel) (n : Nat) (hn : rest.length + 1 ≤ n) :
    ∃ w, Gen.lexText fuel l = .ok (skipK l (acceptRunR isSpaceRune n (b :: rest)).1.length w, some Gen.StateFn.lexText) := by
  rw [lexText_cons' fuel l hwf hs b rest h]
  simp only [lexTextOn, hsp, ↓reduceIte]
  obtain ⟨w, hw⟩ := lexer_acceptRun_adv containsRune_space (fuel := fuel) (n := n)
    (l := { l with width := (((decodeRune (b :: rest)).2 : Nat) : Int) }) hwf h hf hn
  refine ⟨w, ?_⟩
  rw [hw]
  rfl

theorem acceptRunR_pos (v : Nat → Bool) (n : Nat) (b : UInt8) (rest : Bytes) (hv : v (decodeRune (b :: rest)).1 = true) :
    1 ≤ (acceptRunR v (n + 1) (b :: rest)).1.length := by
  have := (decodeRune_width b rest)
  simp only [acceptRunR, hv, ↓reduceIte, List.length_append, List.length_take, List.length_cons] at *
  omega

/-- the tactic for the eight one-character tokens -/
local macro "single_tok" hr:ident c:term : tactic =>
  `(tactic| (obtain ⟨-, hw⟩ := decodeRune_eq_lit (c := $c) (by decide) $hr
             rw [lexText_cons' _ _ ‹_› ‹_› _ _ ‹_›]
             simp [$hr:ident, hw, isSpaceRune]))

section
variable (fuel : Nat) (l : Gen.Lexer) (hwf : WF l) (hs : l.start = l.pos) (b : UInt8) (rest : Bytes)
  (h : rem l = b :: rest)
include hwf hs h

theorem lexText_lparen (hr : (decodeRune (b :: rest)).1 = 40) :
    Gen.lexText fuel l = .ok (emitK l 1 1 Gen.itemOpenParen, some Gen.StateFn.lexText) := by single_tok hr 40
theorem lexText_rparen (hr : (decodeRune (b :: rest)).1 = 41) :
    Gen.lexText fuel l = .ok (emitK l 1 1 Gen.itemCloseParen, some Gen.StateFn.lexText) := by single_tok hr 41
theorem lexText_and (hr : (decodeRune (b :: rest)).1 = 38) :
    Gen.lexText fuel l = .ok (emitK l 1 1 Gen.itemAnd, some Gen.StateFn.lexText) := by single_tok hr 38
theorem lexText_or (hr : (decodeRune (b :: rest)).1 = 124) :
    Gen.lexText fuel l = .ok (emitK l 1 1 Gen.itemOr, some Gen.StateFn.lexText) := by single_tok hr 124
theorem lexText_not (hr : (decodeRune (b :: rest)).1 = 94) :
    Gen.lexText fuel l = .ok (emitK l 1 1 Gen.itemNot, some Gen.StateFn.lexText) := by single_tok hr 94
theorem lexText_comma (hr : (decodeRune (b :: rest)).1 = 44) :
    Gen.lexText fuel l = .ok (emitK l 1 1 Gen.itemComma, some Gen.StateFn.lexText) := by single_tok hr 44
theorem lexText_semi (hr : (decodeRune (b :: rest)).1 = 59) :
    Gen.lexText fuel l = .ok (emitK l 1 1 Gen.itemSemicolon, some Gen.StateFn.lexText) := by single_tok hr 59
theorem lexText_equal (hr : (decodeRune (b :: rest)).1 = 61) :
    Gen.lexText fuel l = .ok (emitK l 1 1 Gen.itemEqual, some Gen.StateFn.lexText) := by single_tok hr 61

theorem lexText_quote (hr : (decodeRune (b :: rest)).1 = 34) :
    Gen.lexText fuel l = .ok ({ l with width := 1 }, some Gen.StateFn.lexValue) := by
  obtain ⟨-, hw⟩ := decodeRune_eq_lit (c := 34) (by decide) hr
  rw [lexText_cons' fuel l hwf hs b rest h]
  simp [hr, hw, isSpaceRune, isAlphaRune]

theorem lexText_dollar (hr : (decodeRune (b :: rest)).1 = 36) :
    Gen.lexText fuel l = .ok ({ l with width := 1 }, some Gen.StateFn.lexPlaceholder) := by
  obtain ⟨-, hw⟩ := decodeRune_eq_lit (c := 36) (by decide) hr
  rw [lexText_cons' fuel l hwf hs b rest h]
  simp [hr, hw, isSpaceRune, isAlphaRune]

theorem lexText_alpha (hr : isAlphaRune (decodeRune (b :: rest)).1 = true) :
    Gen.lexText fuel l = .ok ({ l with width := (((decodeRune (b :: rest)).2 : Nat) : Int) }, some Gen.StateFn.lexField) := by
  have key : ∀ c : Nat, (c < 65 ∨ (90 < c ∧ c < 97) ∨ 122 < c) → ((decodeRune (b :: rest)).1 == c) = false := by
    intro c hc
    simp only [isAlphaRune, Bool.or_eq_true, Bool.and_eq_true, decide_eq_true_eq] at hr
    simp only [beq_eq_false_iff_ne]
    omega
  rw [lexText_cons' fuel l hwf hs b rest h]
  simp [isSpaceRune, key, hr]

theorem lexText_unknown (h1 : isSpaceRune (decodeRune (b :: rest)).1 = false)
    (h2 : isAlphaRune (decodeRune (b :: rest)).1 = false)
    (h3 : ∀ c ∈ [40, 41, 38, 124, 94, 44, 59, 61, 34, 36], (decodeRune (b :: rest)).1 ≠ c) :
    Gen.lexText fuel l = .ok (errK { l with width := (((decodeRune (b :: rest)).2 : Nat) : Int) } msgUnknown, none) := by
  rw [lexText_cons' fuel l hwf hs b rest h]
  simp only [List.mem_cons, List.not_mem_nil, or_false, forall_eq_or_imp, forall_eq] at h3
  simp [h1, h2, h3]

end


theorem lexField_spec {fuel n : Nat} {l : Gen.Lexer} {s : Bytes} (hwf : WF l) (hs : l.start = l.pos) (hr : rem l = s)
    (hf : s.length < fuel) (hn : s.length ≤ n) :
    ∃ w, Gen.lexField fuel l
      = .ok (emitK l (acceptRunR isFieldRune n s).1.length w Gen.itemField, some Gen.StateFn.lexText) := by
  obtain ⟨w, hw⟩ := lexer_acceptRun_adv containsRune_field hwf hr hf hn
  exact ⟨w, by simp only [Gen.lexField, hw, lexer_emit_adv l hwf.pos_nonneg hs]⟩

/-- the error messages of `lexValue` and `lexPlaceholder` -/
def msgExpectedQuote : Bytes :=
  [101, 120, 112, 101, 99, 116, 101, 100, 32, 34, 44, 32, 103, 111, 116, 32, 37, 99, 32, 105, 110, 115, 116, 101, 97, 100]
def msgUnterminated : Bytes := [117, 110, 116, 101, 114, 109, 105, 110, 97, 116, 101, 100, 32, 115, 116, 114, 105, 110, 103]
def msgExpectedDollar : Bytes :=
  [101, 120, 112, 101, 99, 116, 101, 100, 32, 36, 44, 32, 103, 111, 116, 32, 37, 99, 32, 105, 110, 115, 116, 101, 97, 100]

/-- `lexValue` when the input does not start with a quote (never the case when entered from `lexText`) -/
theorem lexValue_noquote (fuel : Nat) (l : Gen.Lexer) (hwf : WF l)
    (h : rem l = [] ∨ ∃ b rest, rem l = b :: rest ∧ (decodeRune (b :: rest)).1 ≠ 34) :
    ∃ k w, Gen.lexValue fuel l = .ok (errK (adv l k w) msgExpectedQuote, none) := by
  rcases h with h | ⟨b, rest, h, hr⟩
  · exact ⟨0, 0, by simp only [Gen.lexValue, lexer_next_nil hwf h, lexer_errorf_eq]; rfl⟩
  · refine ⟨(decodeRune (b :: rest)).2, ((decodeRune (b :: rest)).2 : Nat), ?_⟩
    simp only [Gen.lexValue, lexer_next_cons hwf h, lexer_errorf_eq, bne, natCast_beq_lit, beq_eq_false_iff_ne.mpr hr,
      Bool.not_false, if_true]
    rfl

section
variable (fuel : Nat) (l : Gen.Lexer) (hwf : WF l) (hs : l.start = l.pos) (rest : Bytes)
include hwf hs

/-- `lexValue` on an opening quote: an unterminated string is an error item and the lexer stops; otherwise `"` body `"`
    is emitted as `itemValue` -/
theorem lexValue_spec (h : rem l = 34 :: rest) (hf : rest.length < fuel) (n : Nat) (hn : rest.length ≤ n) :
    ∃ w, Gen.lexValue fuel l = .ok (match scanStrR n rest with
      | none => (errK (adv l (rest.length + 1) w) msgUnterminated, none)
      | some (body, _) => (emitK l (body.length + 1 + 1) w Gen.itemValue, some Gen.StateFn.lexText)) := by
  obtain ⟨r, w, e, hr⟩ := lexValue_loop1_spec fuel n _ rest (hwf.adv h (k := 1) (Nat.le_add_left _ _) ((1 : Nat) : Int))
    (rem_adv hwf h _ _) hf hn
  refine ⟨w, ?_⟩
  simp only [Gen.lexValue, lexer_next_cons hwf h, decodeRune_ascii (b := 34) rest (by decide), e, adv_adv, Nat.add_comm 1, lexer_errorf_eq,
    lexer_emit_adv l hwf.pos_nonneg hs]
  cases hsc : scanStrR n rest with
  | none => rw [hr hsc]; rfl
  | some br => rfl

omit hs in
theorem lexValue_unterminated (h : rem l = 34 :: rest) (hf : rest.length < fuel) (n : Nat) (hn : rest.length ≤ n)
    (hsc : scanStrR n rest = none) :
    ∃ w, Gen.lexValue fuel l = .ok (errK (adv l (1 + rest.length) w) msgUnterminated, none) := by
  obtain ⟨r, w, e, hr⟩ := lexValue_loop1_spec fuel n _ rest (hwf.adv h (k := 1) (Nat.le_add_left _ _) ((1 : Nat) : Int))
    (rem_adv hwf h _ _) hf hn
  refine ⟨w, ?_⟩
  simp only [Gen.lexValue, lexer_next_cons hwf h, decodeRune_ascii (b := 34) rest (by decide), e, adv_adv,
    lexer_errorf_eq, hsc, hr hsc]
  rfl

theorem lexValue_ok (h : rem l = 34 :: rest) (hf : rest.length < fuel) (n : Nat) (hn : rest.length ≤ n)
    (body rest' : Bytes) (hsc : scanStrR n rest = some (body, rest')) :
    rest = body ++ 34 :: rest' ∧
    ∃ w, Gen.lexValue fuel l = .ok (emitK l (1 + (body.length + 1)) w Gen.itemValue, some Gen.StateFn.lexText) := by
  obtain ⟨w, e⟩ := lexValue_spec fuel l hwf hs rest h hf n hn
  rw [hsc] at e
  exact ⟨(scanStr_some ((scanStrR_eq n rest hn).symm.trans hsc)).1, w, by rw [Nat.add_comm]; exact e⟩

theorem lexPlaceholder_spec (h : rem l = 36 :: rest) (hf : rest.length < fuel) (n : Nat) (hn : rest.length ≤ n) :
    ∃ w, Gen.lexPlaceholder fuel l
      = .ok (emitK l ((acceptRunR isDigitRune n rest).1.length + 1) w Gen.itemPlaceholder, some Gen.StateFn.lexText) := by
  obtain ⟨w, hw⟩ := lexer_acceptRun_adv containsRune_digit (hwf.adv h (k := 1) (Nat.le_add_left _ _) ((1 : Nat) : Int))
    (rem_adv hwf h _ _) hf hn
  refine ⟨w, ?_⟩
  simp only [Gen.lexPlaceholder, lexer_next_cons hwf h, decodeRune_ascii (b := 36) rest (by decide), hw, adv_adv, Nat.add_comm 1,
    lexer_emit_adv l hwf.pos_nonneg hs]
  rfl

end

/-- `lexPlaceholder` when the input does not start with `$` (never the case when entered from `lexText`) -/
theorem lexPlaceholder_nodollar (fuel : Nat) (l : Gen.Lexer) (hwf : WF l)
    (h : rem l = [] ∨ ∃ b rest, rem l = b :: rest ∧ (decodeRune (b :: rest)).1 ≠ 36) :
    ∃ k w, Gen.lexPlaceholder fuel l = .ok (errK (adv l k w) msgExpectedDollar, none) := by
  rcases h with h | ⟨b, rest, h, hr⟩
  · exact ⟨0, 0, by simp only [Gen.lexPlaceholder, lexer_next_nil hwf h, lexer_errorf_eq]; rfl⟩
  · refine ⟨(decodeRune (b :: rest)).2, ((decodeRune (b :: rest)).2 : Nat), ?_⟩
    simp only [Gen.lexPlaceholder, lexer_next_cons hwf h, lexer_errorf_eq, bne, natCast_beq_lit,
      beq_eq_false_iff_ne.mpr hr, Bool.not_false, if_true]
    rfl


/-! ## 6. the whole lexer -/

theorem forall₂_snoc {α β : Type} {R : α → β → Prop} {l₁ : List α} {l₂ : List β} {a : α} {b : β}
    (h : List.Forall₂ R l₁ l₂) (hab : R a b) : List.Forall₂ R (l₁ ++ [a]) (l₂ ++ [b]) :=
  h.append (.cons hab .nil)

/-- one iteration of the loop of `lexer.run` -/
theorem run_loop1_call (F : Nat) (l : Gen.Lexer) (sf : Gen.StateFn) (hst : l.state = some sf)
    (l1 : Gen.Lexer) (t : Option Gen.StateFn) (hc : Gen.callStateFn F (some sf) l = .ok (l1, t)) :
    Gen.lexer_run_loop1 (F + 1) l = Gen.lexer_run_loop1 F { l1 with state := t } := by
  rw [Gen.lexer_run_loop1]
  simp only [hst, hc]
  simp

theorem run_loop1_none (F : Nat) (l : Gen.Lexer) (hst : l.state = none) : Gen.lexer_run_loop1 (F + 1) l = .ok l := by
  rw [Gen.lexer_run_loop1]
  simp [hst]

theorem run_loop1_stop (F : Nat) (l : Gen.Lexer) (sf : Gen.StateFn) (hst : l.state = some sf)
    (l1 : Gen.Lexer) (hc : Gen.callStateFn (F + 1) (some sf) l = .ok (l1, none)) :
    Gen.lexer_run_loop1 (F + 2) l = .ok { l1 with state := none } := by
  rw [run_loop1_call (F + 1) l sf hst l1 none hc, run_loop1_none F _ rfl]

/-- the induction hypothesis of the main theorem: the loop of `lexer.run`, started in state `lexText` on a remaining
    input of at most `n` bytes, terminates and sends the items of the model -/
def RunOK (n : Nat) : Prop :=
  ∀ (l : Gen.Lexer) (pre : List Tok) (fuel : Nat), WF l → l.start = l.pos → l.state = some Gen.StateFn.lexText →
    (rem l).length ≤ n → 2 * (rem l).length + 2 ≤ fuel → List.Forall₂ ItemTok l.items pre →
    ∃ l', Gen.lexer_run_loop1 fuel l = .ok l' ∧ List.Forall₂ ItemTok l'.items (pre ++ lexTextR n (rem l))

/-- continue in a state `l2` that is `k ≥ 1` bytes further on than `l` -/
theorem RunOK.next {n : Nat} (ih : RunOK n) {l l2 : Gen.Lexer} (hwf : WF l) {s : Bytes} (hr : rem l = s) {k : Nat}
    (h1 : l2.input = l.input) (h2 : l2.pos = l.pos + (k : Int)) (h3 : l2.start = l2.pos)
    (h4 : l2.state = some Gen.StateFn.lexText) {pre : List Tok} (hpre : List.Forall₂ ItemTok l2.items pre)
    (hk1 : 1 ≤ k) (hk2 : k ≤ s.length) (hn : s.length ≤ n + 1) {fuel : Nat} (hf : 2 * s.length ≤ fuel) :
    ∃ l', Gen.lexer_run_loop1 fuel l2 = .ok l' ∧ List.Forall₂ ItemTok l'.items (pre ++ lexTextR n (s.drop k)) := by
  have hrem : rem l2 = s.drop k := hr ▸ rem_of_eq hwf.pos_nonneg h1 h2
  have hwf2 : WF l2 := by
    rw [← hr, rem_length] at hk2
    unfold WF at *
    rw [h3, h2, h1]; omega
  rw [← hrem]
  exact ih l2 pre fuel hwf2 h3 h4 (by rw [hrem, List.length_drop]; omega) (by rw [hrem, List.length_drop]; omega) hpre

theorem lexTextR_nil (n : Nat) : lexTextR n [] = [.eof] := by cases n <;> rfl

theorem run_eof (n : Nat) (l : Gen.Lexer) (pre : List Tok) (fuel : Nat) (hwf : WF l) (hs : l.start = l.pos)
    (hst : l.state = some Gen.StateFn.lexText) (hr : rem l = []) (hf : 2 ≤ fuel)
    (hpre : List.Forall₂ ItemTok l.items pre) :
    ∃ l', Gen.lexer_run_loop1 fuel l = .ok l' ∧ List.Forall₂ ItemTok l'.items (pre ++ lexTextR n (rem l)) := by
  obtain ⟨F, rfl⟩ : ∃ F, fuel = F + 2 := ⟨fuel - 2, by omega⟩
  refine ⟨_, run_loop1_stop F l _ hst _ (lexText_eof (F + 1) l hwf hs hr), ?_⟩
  rw [hr, lexTextR_nil]
  exact forall₂_snoc hpre ⟨rfl, trivial⟩

section
variable {n : Nat} (ih : RunOK n) (l : Gen.Lexer) (pre : List Tok) (F : Nat) (hwf : WF l)
  (hst : l.state = some Gen.StateFn.lexText) (hpre : List.Forall₂ ItemTok l.items pre) (b : UInt8) (rest : Bytes)
  (hr : rem l = b :: rest) (hn : rest.length ≤ n) (hF : 2 * (rest.length + 1) ≤ F)
include ih hwf hst hpre hr hn hF

/-- a one-character token: one iteration -/
theorem RunOK.single (t : Int) (tok : Tok) (hit : ∀ p v, ItemTok ({ typ := t, pos := p, val := v } : Gen.Item) tok)
    (hc : Gen.lexText (F + 1) l = .ok (emitK l 1 1 t, some Gen.StateFn.lexText)) :
    ∃ l', Gen.lexer_run_loop1 (F + 2) l = .ok l' ∧ List.Forall₂ ItemTok l'.items (pre ++ tok :: lexTextR n rest) := by
  rw [run_loop1_call (F + 1) l _ hst _ _ hc, List.append_cons]
  exact ih.next (l2 := { emitK l 1 1 t with state := some Gen.StateFn.lexText }) hwf hr (k := 1) rfl rfl rfl rfl
    (forall₂_snoc hpre (hit _ _)) (Nat.le_refl _) (Nat.le_add_left _ _) (Nat.succ_le_succ hn) (Nat.le_succ_of_le hF)

variable (hs : l.start = l.pos)
include hs

/-- a token lexed by a second state function (`lexField`, `lexValue`, `lexPlaceholder`): two iterations; `hc2` is
    what that function does in any state in front of the same input -/
theorem RunOK.two (sf : Gen.StateFn) (w0 : Int)
    (hc1 : Gen.lexText (F + 1) l = .ok ({ l with width := w0 }, some sf)) (k : Nat) (t : Int) (tok : Tok)
    (hc2 : ∀ l1 : Gen.Lexer, WF l1 → l1.start = l1.pos → rem l1 = b :: rest →
      ∃ w, Gen.callStateFn F (some sf) l1 = .ok (emitK l1 k w t, some Gen.StateFn.lexText))
    (hit : ItemTok ({ typ := t, pos := l.start, val := (b :: rest).take k } : Gen.Item) tok)
    (hk1 : 1 ≤ k) (hk2 : k ≤ rest.length + 1) :
    ∃ l', Gen.lexer_run_loop1 (F + 2) l = .ok l' ∧
      List.Forall₂ ItemTok l'.items (pre ++ tok :: lexTextR n ((b :: rest).drop k)) := by
  obtain ⟨w, hc2⟩ := hc2 { ({ l with width := w0 } : Gen.Lexer) with state := some sf } hwf hs hr
  rw [run_loop1_call (F + 1) l _ hst _ _ hc1, run_loop1_call F _ sf rfl _ _ hc2, List.append_cons]
  refine ih.next (l2 := { emitK _ k w t with state := some Gen.StateFn.lexText })
    hwf hr (k := k) rfl rfl rfl rfl (forall₂_snoc hpre ?_) hk1 hk2 (Nat.succ_le_succ hn) hF
  show ItemTok ({ typ := t, pos := l.start, val := (rem l).take k } : Gen.Item) tok
  rw [hr]; exact hit

omit ih hn hF in
/-- an error in the second state function: two iterations, then the loop ends -/
theorem RunOK.twoStop (hF1 : 1 ≤ F) (sf : Gen.StateFn) (w0 : Int)
    (hc1 : Gen.lexText (F + 1) l = .ok ({ l with width := w0 }, some sf)) (msg : Bytes)
    (hc2 : ∀ l1 : Gen.Lexer, WF l1 → l1.start = l1.pos → rem l1 = b :: rest →
      ∃ k w, Gen.callStateFn F (some sf) l1 = .ok (errK (adv l1 k w) msg, none)) :
    ∃ l', Gen.lexer_run_loop1 (F + 2) l = .ok l' ∧ List.Forall₂ ItemTok l'.items (pre ++ [.error]) := by
  obtain ⟨k, w, hc2⟩ := hc2 { ({ l with width := w0 } : Gen.Lexer) with state := some sf } hwf hs hr
  obtain ⟨F', rfl⟩ : ∃ F', F = F' + 1 := ⟨F - 1, by omega⟩
  rw [run_loop1_call (F' + 1 + 1) l _ hst _ _ hc1, run_loop1_stop F' _ sf rfl _ hc2]
  exact ⟨_, rfl, forall₂_snoc hpre ⟨rfl, trivial⟩⟩

end


/-- MAIN INDUCTION: the loop of `lexer.run` sends the items of `lexTextR` -/
theorem runOK : ∀ n, RunOK n := by
  intro n
  induction n with
  | zero =>
    intro l pre fuel hwf hs hst hn hf hpre
    have hr : rem l = [] := List.length_eq_zero_iff.mp (Nat.le_zero.mp hn)
    exact run_eof 0 l pre fuel hwf hs hst hr (by omega) hpre
  | succ n ih =>
    intro l pre fuel hwf hs hst hn hf hpre
    cases hr : rem l with
    | nil =>
      have := run_eof (n + 1) l pre fuel hwf hs hst hr (by omega) hpre
      rw [hr] at this
      exact this
    | cons b rest =>
      rw [hr] at hn hf
      simp only [List.length_cons] at hn hf
      obtain ⟨F, rfl⟩ : ∃ F, fuel = F + 2 := ⟨fuel - 2, by omega⟩
      have hn' : rest.length ≤ n := by omega
      have hF : 2 * (rest.length + 1) ≤ F := by omega
      -- one branch of the cascade for a one-rune token `c`: the decoded rune is that byte, of width 1
      have punct : ∀ (c : Nat) (t : Int) (tok : Tok) (X : List Tok), c < 128 →
          (∀ p v, ItemTok ({ typ := t, pos := p, val := v } : Gen.Item) tok) →
          ((decodeRune (b :: rest)).1 = c → Gen.lexText (F + 1) l = .ok (emitK l 1 1 t, some Gen.StateFn.lexText)) →
          ((decodeRune (b :: rest)).1 ≠ c →
            ∃ l', Gen.lexer_run_loop1 (F + 2) l = .ok l' ∧ List.Forall₂ ItemTok l'.items (pre ++ X)) →
          ∃ l', Gen.lexer_run_loop1 (F + 2) l = .ok l' ∧ List.Forall₂ ItemTok l'.items
            (pre ++ if (decodeRune (b :: rest)).1 = c then
              tok :: lexTextR n ((b :: rest).drop (decodeRune (b :: rest)).2) else X) := by
        intro c t tok X hc hit hlex hX
        by_cases hrc : (decodeRune (b :: rest)).1 = c
        · rw [if_pos hrc, congrArg Prod.snd (decodeRune_small (hrc ▸ hc))]
          exact ih.single l pre F hwf hst hpre b rest hr hn' hF t tok hit (hlex hrc)
        · rw [if_neg hrc]; exact hX hrc
      simp only [lexTextR]
      by_cases c1 : isSpaceRune (decodeRune (b :: rest)).1 = true
      · -- white space
        rw [if_pos c1]
        obtain ⟨w, hc⟩ := lexText_space (F + 1) l hwf hs b rest hr c1 (by omega) (b :: rest).length (Nat.le_refl _)
        rw [run_loop1_call (F + 1) l _ hst _ _ hc]
        have hk1 := acceptRunR_pos isSpaceRune rest.length b rest c1
        have hk2 := acceptRunR_length_le isSpaceRune (b :: rest).length (b :: rest)
        rw [acceptRunR_snd isSpaceRune (b :: rest).length (b :: rest)]
        exact ih.next (l2 := { skipK l (acceptRunR isSpaceRune (b :: rest).length (b :: rest)).1.length w with
            state := some Gen.StateFn.lexText }) hwf hr rfl rfl rfl rfl hpre hk1 hk2 (Nat.succ_le_succ hn')
          (Nat.le_succ_of_le hF)
      rw [if_neg c1]
      simp only [beq_iff_eq]
      refine punct 40 _ .lparen _ (by decide) (fun _ _ => ⟨rfl, trivial⟩) (lexText_lparen (F + 1) l hwf hs b rest hr) fun c2 => ?_
      refine punct 41 _ .rparen _ (by decide) (fun _ _ => ⟨rfl, trivial⟩) (lexText_rparen (F + 1) l hwf hs b rest hr) fun c3 => ?_
      refine punct 38 _ .and _ (by decide) (fun _ _ => ⟨rfl, trivial⟩) (lexText_and (F + 1) l hwf hs b rest hr) fun c4 => ?_
      refine punct 124 _ .or _ (by decide) (fun _ _ => ⟨rfl, trivial⟩) (lexText_or (F + 1) l hwf hs b rest hr) fun c5 => ?_
      refine punct 94 _ .not _ (by decide) (fun _ _ => ⟨rfl, trivial⟩) (lexText_not (F + 1) l hwf hs b rest hr) fun c6 => ?_
      refine punct 44 _ .comma _ (by decide) (fun _ _ => ⟨rfl, trivial⟩) (lexText_comma (F + 1) l hwf hs b rest hr) fun c7 => ?_
      refine punct 59 _ .semi _ (by decide) (fun _ _ => ⟨rfl, trivial⟩) (lexText_semi (F + 1) l hwf hs b rest hr) fun c8 => ?_
      refine punct 61 _ .eq _ (by decide) (fun _ _ => ⟨rfl, trivial⟩) (lexText_equal (F + 1) l hwf hs b rest hr) fun c9 => ?_
      by_cases c10 : isAlphaRune (decodeRune (b :: rest)).1 = true
      · -- a field name
        rw [if_pos c10, acceptRunR_snd isFieldRune (b :: rest).length (b :: rest)]
        exact ih.two l pre F hwf hst hpre b rest hr hn' hF hs _ _ (lexText_alpha (F + 1) l hwf hs b rest hr c10) _ _
          (.field _) (fun _ h1 h2 h3 => lexField_spec h1 h2 h3 (by simp only [List.length_cons]; omega) (Nat.le_refl _))
          ⟨rfl, (acceptRunR_fst _ _ _).symm⟩ (acceptRunR_pos isFieldRune rest.length b rest (by simp [isFieldRune, c10]))
          (acceptRunR_length_le isFieldRune _ (b :: rest))
      rw [if_neg c10]
      by_cases c11 : (decodeRune (b :: rest)).1 = 34
      · -- a string value
        obtain ⟨rfl, hw1⟩ := decodeRune_eq_lit (c := 34) (by decide) c11
        rw [if_pos c11]
        simp only [hw1, List.drop_succ_cons, List.drop_zero]
        have hc1 := lexText_quote (F + 1) l hwf hs 34 rest hr c11
        cases hsc : scanStrR rest.length rest with
        | none =>
          refine RunOK.twoStop l pre F hwf hst hpre 34 rest hr hs (by omega) _ _ hc1 msgUnterminated fun l1 h1 h2 h3 => ?_
          have h := lexValue_spec F l1 h1 h2 rest h3 (by omega) _ (Nat.le_refl _)
          rw [hsc] at h
          exact ⟨_, h⟩
        | some br =>
          obtain ⟨body, rest'⟩ := br
          have e : 34 :: rest = (34 :: body ++ [34]) ++ rest' := by
            rw [(scanStr_some ((scanStrR_eq _ rest (Nat.le_refl _)).symm.trans hsc)).1]; simp
          have hlen : (34 :: body ++ [34]).length = body.length + 1 + 1 := by simp
          have := ih.two l pre F hwf hst hpre 34 rest hr hn' hF hs _ _ hc1 (body.length + 1 + 1) _ (.value body)
            (fun l1 h1 h2 h3 => by
              have h := lexValue_spec F l1 h1 h2 rest h3 (by omega) _ (Nat.le_refl _)
              rw [hsc] at h
              exact h)
            ⟨rfl, by rw [e, List.take_left' hlen]⟩ (by omega) (by have := congrArg List.length e; simp at this; omega)
          rw [e, List.drop_left' hlen] at this
          exact this
      rw [if_neg c11]
      by_cases c12 : (decodeRune (b :: rest)).1 = 36
      · -- a placeholder
        obtain ⟨rfl, hw1⟩ := decodeRune_eq_lit (c := 36) (by decide) c12
        rw [if_pos c12]
        simp only [hw1, List.drop_succ_cons, List.drop_zero]
        have := ih.two l pre F hwf hst hpre 36 rest hr hn' hF hs _ _ (lexText_dollar (F + 1) l hwf hs 36 rest hr c12)
          ((acceptRunR isDigitRune rest.length rest).1.length + 1) _ (.placeholder _)
          (fun l1 h1 h2 h3 => lexPlaceholder_spec F l1 h1 h2 rest h3 (by omega) _ (Nat.le_refl _))
          ⟨rfl, by rw [List.take_succ_cons, ← acceptRunR_fst]⟩ (by omega)
          (by have := acceptRunR_length_le isDigitRune rest.length rest; omega)
        rw [List.drop_succ_cons, ← acceptRunR_snd] at this
        exact this
      -- anything else
      rw [if_neg c12]
      have hc := lexText_unknown (F + 1) l hwf hs b rest hr (by simpa using c1) (by simpa using c10)
        (by simp only [List.mem_cons, List.not_mem_nil, or_false, forall_eq_or_imp, forall_eq]
            exact ⟨c2, c3, c4, c5, c6, c7, c8, c9, c11, c12⟩)
      exact ⟨_, run_loop1_stop F l _ hst _ hc, forall₂_snoc hpre ⟨rfl, trivial⟩⟩


/-- the state in which `lexer.run` enters its loop -/
def initLexer (s : Bytes) : Gen.Lexer :=
  { input := s, state := some Gen.StateFn.lexText, pos := 0, start := 0, width := 0, lastPos := 0, items := [] }

theorem lex_unfold (fuel : Nat) (s : Bytes) : Gen.lex fuel s = Gen.lexer_run_loop1 fuel (initLexer s) := by
  simp only [Gen.lex, Gen.lexer_run, Gen.Lexer.zero, Go.chanClose, initLexer]
  cases Gen.lexer_run_loop1 fuel _ <;> rfl

/-- with enough fuel the generated lexer terminates and its items are, one by one, the tokens of the rune-level model -/
theorem lex_eq (s : Bytes) (fuel : Nat) (h : 2 * s.length + 3 ≤ fuel) :
    ∃ l, Gen.lex fuel s = .ok l ∧ List.Forall₂ ItemTok l.items (lexAllR s) := by
  rw [lex_unfold]
  have hwf : WF (initLexer s) := by
    unfold WF initLexer; simp
  exact runOK s.length (initLexer s) [] fuel hwf rfl rfl (Nat.le_refl _) (by show 2 * s.length + 2 ≤ fuel; omega) .nil

/-- … hence of the byte-level model -/
theorem lex_eq_lexAll (s : Bytes) (fuel : Nat) (h : 2 * s.length + 3 ≤ fuel) :
    ∃ l, Gen.lex fuel s = .ok l ∧ List.Forall₂ ItemTok l.items (lexAll s) := by
  rw [← C09.lexAllR_eq_lexAll]
  exact lex_eq s fuel h

/-- the placeholder tokens of the model lexer carry digits only -/
theorem lexAll_tokOK (s : Bytes) : ∀ t ∈ lexAll s, TokOK t := by
  refine lexAll_induction (P := fun ts => ∀ t ∈ ts, TokOK t) ?_ ?_ (fun t ts ht ih => ?_) s
  · exact List.forall_mem_cons.mpr ⟨trivial, nofun⟩
  · exact List.forall_mem_cons.mpr ⟨trivial, nofun⟩
  · refine List.forall_mem_cons.mpr ⟨?_, ih⟩
    cases t <;> first | trivial | exact fun d hd => by simpa [isDigit, UInt8.le_iff_toNat_le] using ht d hd

/-- the model lexer emits at most one token per byte, plus the final one -/
theorem lexAll_length_le (s : Bytes) : (lexAll s).length ≤ s.length + 1 := by
  fun_induction lexAll s with
  | case2 c rest _ ih => exact Nat.le_trans ih (Nat.succ_le_succ (Nat.le_succ_of_le (dropWhile_length_le isSpace rest)))
  | case1 | case12 | case15 => exact Nat.succ_le_succ (Nat.zero_le _)
  | case11 c rest => rename_i ih; exact Nat.succ_le_succ (Nat.le_trans ih (Nat.succ_le_succ (dropWhile_length_le _ rest)))
  | case13 => rename_i hlt ih; exact Nat.succ_le_succ (Nat.le_trans ih (Nat.le_succ_of_le hlt))
  | case14 c rest => rename_i ih; exact Nat.succ_le_succ (Nat.le_trans ih (Nat.succ_le_succ (dropWhile_length_le _ rest)))
  | _ => rename_i ih; exact Nat.succ_le_succ ih


/-! ### every fuel: "out of fuel" or the final answer -/

/-- a fuel-bounded computation is STABLE at fuel `n`: either it runs out of fuel there, or it has one value at every
    fuel `m ≥ n`. (The generated lexer has no other error: `callStateFn` is only called on a non-nil state.) -/
def Stable {α : Type} (f : Nat → Go.Res α) (n : Nat) : Prop :=
  f n = .error .fuel ∨ ∃ v, ∀ m, n ≤ m → f m = .ok v

theorem Stable.of_const {α : Type} {f : Nat → Go.Res α} {v : α} (h : ∀ m, f m = .ok v) (n : Nat) : Stable f n :=
  .inr ⟨v, fun m _ => h m⟩

/-- a loop: one unit of fuel per iteration -/
theorem Stable.succ {α : Type} {f g : Nat → Go.Res α} (h : ∀ m, f (m + 1) = g m) {n : Nat} (hg : Stable g n) :
    Stable f (n + 1) := by
  rcases hg with hg | ⟨v, hv⟩
  · exact .inl ((h n).trans hg)
  · refine .inr ⟨v, fun m hm => ?_⟩
    obtain ⟨m', rfl⟩ : ∃ m', m = m' + 1 := ⟨m - 1, by omega⟩
    exact (h m').trans (hv m' (by omega))

/-- a loop that ends: the same value at every positive fuel -/
theorem Stable.succ_const {α : Type} {f : Nat → Go.Res α} {v : α} (h : ∀ m, f (m + 1) = .ok v) {n : Nat} :
    Stable f (n + 1) :=
  .succ (g := fun _ => .ok v) h (.of_const (fun _ => rfl) n)

/-- `g m = match f m with | .error err => .error err | .ok v => k m v` -/
theorem Stable.bind {α β : Type} {f : Nat → Go.Res α} {k : Nat → α → Go.Res β} {g : Nat → Go.Res β} {n : Nat}
    (hf : Stable f n) (hk : ∀ v, Stable (fun m => k m v) n) (hg : ∀ m, g m = (f m).bind (k m)) : Stable g n := by
  rcases hf with hf | ⟨v, hv⟩
  · exact .inl (by rw [hg, hf]; rfl)
  · rcases hk v with h | ⟨u, hu⟩
    · exact .inl (by rw [hg, hv n (Nat.le_refl _)]; exact h)
    · exact .inr ⟨u, fun m hm => by rw [hg, hv m hm]; exact hu m hm⟩

/-- `g m = match f m with | .error err => .error err | .ok v => .ok (k v)` -/
theorem Stable.map {α β : Type} {f : Nat → Go.Res α} {k : α → β} {g : Nat → Go.Res β} {n : Nat}
    (hf : Stable f n) (hg : ∀ m, g m = (f m).map k) : Stable g n :=
  hf.bind (k := fun _ v => .ok (k v)) (fun _ => .of_const (fun _ => rfl) n) fun m => by rw [hg]; cases f m <;> rfl

/-- what a stable computation returns with enough fuel, it returns at `n` already, unless it runs out of fuel there -/
theorem Stable.eq_of_large {α : Type} {f : Nat → Go.Res α} {n : Nat} (h : Stable f n) {N : Nat} (hN : n ≤ N) {v : α}
    (hv : f N = .ok v) : f n = .error .fuel ∨ f n = .ok v := by
  rcases h with h | ⟨u, hu⟩
  · exact .inl h
  · rw [hu N hN] at hv
    cases hv
    exact .inr (hu n (Nat.le_refl _))

theorem acceptRun_loop1_stable (valid : Bytes) : ∀ (n : Nat) (l : Gen.Lexer),
    Stable (fun m => Gen.lexer_acceptRun_loop1 m valid l) n := by
  intro n
  induction n with
  | zero => intro l; exact .inl rfl
  | succ n ih =>
    intro l
    by_cases hc : Go.containsRune valid (Gen.lexer_next l).2 = true
    · exact .succ (fun m => by simp only [Gen.lexer_acceptRun_loop1]; rw [if_pos hc]) (ih _)
    · exact .succ_const fun m => by simp only [Gen.lexer_acceptRun_loop1]; rw [if_neg hc]

theorem acceptRun_stable (valid : Bytes) (n : Nat) (l : Gen.Lexer) : Stable (fun m => Gen.lexer_acceptRun m l valid) n :=
  (acceptRun_loop1_stable valid n l).map fun m => by
    simp only [Gen.lexer_acceptRun]; cases Gen.lexer_acceptRun_loop1 m valid l <;> rfl

/-- `acceptRun` for EVERY fuel: out of fuel, or the model's run -/
theorem lexer_acceptRun_fuel_or (valid : Bytes) (validR : Nat → Bool)
    (hv : ∀ r, Go.containsRune valid r = (decide (0 ≤ r) && validR r.toNat))
    (fuel : Nat) (l : Gen.Lexer) (hwf : WF l) :
    Gen.lexer_acceptRun fuel l valid = .error .fuel ∨
    ∃ w : Int, Gen.lexer_acceptRun fuel l valid
      = .ok (adv l (acceptRunR validR (rem l).length (rem l)).1.length w) := by
  obtain ⟨w, hw⟩ := lexer_acceptRun_adv hv (fuel := fuel + ((rem l).length + 1)) hwf rfl (by omega) (Nat.le_refl _)
  exact ((acceptRun_stable valid fuel l).eq_of_large (Nat.le_add_right _ _) hw).imp_right fun h => ⟨w, h⟩

theorem lexValue_loop1_stable : ∀ (n : Nat) (r : Int) (l : Gen.Lexer) (q : Bool),
    Stable (fun m => Gen.lexValue_loop1 m r l q) n := by
  intro n
  induction n with
  | zero => intro r l q; exact .inl rfl
  | succ n ih =>
    intro r l q
    by_cases h1 : (r != Gen.eof) = true
    · by_cases h2 : (r == (34 : Int)) = true
      · by_cases h3 : ((Gen.lexer_peek l).2 != (34 : Int)) = true
        · exact .succ_const fun m => by simp only [Gen.lexValue_loop1]; rw [if_pos h1, if_pos h2, if_pos h3]
        · exact .succ (fun m => by simp only [Gen.lexValue_loop1]; rw [if_pos h1, if_pos h2, if_neg h3]) (ih _ _ _)
      · exact .succ (fun m => by simp only [Gen.lexValue_loop1]; rw [if_pos h1, if_neg h2]) (ih _ _ _)
    · exact .succ_const fun m => by simp only [Gen.lexValue_loop1]; rw [if_neg h1]

def IsOk {α : Type} (x : Go.Res α) : Prop := ∃ v, x = .ok v

theorem isOk_ite {α : Type} {c : Prop} [Decidable c] {a b : Go.Res α} (ha : IsOk a) (hb : IsOk b) :
    IsOk (if c then a else b) := by
  split <;> assumption

theorem Stable.of_isOk {α : Type} {x : Go.Res α} (h : IsOk x) (n : Nat) : Stable (fun _ => x) n :=
  h.elim fun _ hv => .of_const (fun _ => hv) n

theorem Stable.ite {α : Type} {c : Prop} [Decidable c] {f : Nat → Go.Res α} {x : Go.Res α} {n : Nat}
    (hf : c → Stable f n) (hx : ¬ c → IsOk x) : Stable (fun m => if c then f m else x) n := by
  by_cases hc : c
  · simp only [if_pos hc]; exact hf hc
  · simp only [if_neg hc]; exact .of_isOk (hx hc) n

theorem lexText_stable (n : Nat) (l : Gen.Lexer) : Stable (fun m => Gen.lexText m l) n := by
  simp only [Gen.lexText]
  refine Stable.ite (fun _ => ?_) (fun _ => ?_)
  · exact (acceptRun_stable [13, 10, 9, 32] n (Gen.lexer_peek l).1).map fun m => by
      cases Gen.lexer_acceptRun m (Gen.lexer_peek l).1 [13, 10, 9, 32] <;> rfl
  · repeat (first | apply isOk_ite | exact ⟨_, rfl⟩)

theorem lexField_stable (n : Nat) (l : Gen.Lexer) : Stable (fun m => Gen.lexField m l) n :=
  (acceptRun_stable _ n l).map fun m => by simp only [Gen.lexField]; cases Gen.lexer_acceptRun m l _ <;> rfl

theorem lexValue_stable (n : Nat) (l : Gen.Lexer) : Stable (fun m => Gen.lexValue m l) n := by
  by_cases h1 : ((Gen.lexer_next l).2 != (34 : Int)) = true
  · exact .of_const (fun m => by simp only [Gen.lexValue]; rw [if_pos h1]) n
  · exact (lexValue_loop1_stable n _ _ false).bind (fun _ => .of_isOk (isOk_ite ⟨_, rfl⟩ ⟨_, rfl⟩) n)
      fun m => by
        simp only [Gen.lexValue]; rw [if_neg h1]
        cases Gen.lexValue_loop1 m _ _ false <;> rfl

theorem lexPlaceholder_stable (n : Nat) (l : Gen.Lexer) : Stable (fun m => Gen.lexPlaceholder m l) n := by
  by_cases h1 : ((Gen.lexer_next l).2 != (36 : Int)) = true
  · exact .of_const (fun m => by simp only [Gen.lexPlaceholder]; rw [if_pos h1]) n
  · exact (acceptRun_stable [48, 49, 50, 51, 52, 53, 54, 55, 56, 57] n (Gen.lexer_next l).1).map fun m => by
      simp only [Gen.lexPlaceholder]; rw [if_neg h1]
      cases Gen.lexer_acceptRun m _ _ <;> rfl

theorem callStateFn_stable (n : Nat) (sf : Gen.StateFn) (l : Gen.Lexer) :
    Stable (fun m => Gen.callStateFn m (some sf) l) n := by
  cases sf
  · exact lexText_stable n l
  · exact lexField_stable n l
  · exact lexValue_stable n l
  · exact lexPlaceholder_stable n l

theorem run_loop1_stable : ∀ (n : Nat) (l : Gen.Lexer), Stable (fun m => Gen.lexer_run_loop1 m l) n := by
  intro n
  induction n with
  | zero => intro l; exact .inl rfl
  | succ n ih =>
    intro l
    cases hst : l.state with
    | none => exact .succ_const fun m => run_loop1_none m l hst
    | some sf =>
      refine Stable.succ (g := fun m => (Gen.callStateFn m (some sf) l).bind
        fun v => Gen.lexer_run_loop1 m { v.1 with state := v.2 }) (fun m => ?_)
        ((callStateFn_stable n sf l).bind (fun v => ih _) (fun _ => rfl))
      rw [Gen.lexer_run_loop1]
      simp only [hst]
      cases Gen.callStateFn m (some sf) l <;> rfl

/-- for EVERY fuel: either the translation artefact "out of fuel", or the model's answer -/
theorem lex_fuel_or (s : Bytes) (fuel : Nat) :
    Gen.lex fuel s = .error .fuel ∨ ∃ l, Gen.lex fuel s = .ok l ∧ List.Forall₂ ItemTok l.items (lexAllR s) := by
  obtain ⟨l, hl, hall⟩ := lex_eq s (fuel + (2 * s.length + 3)) (by omega)
  rw [lex_unfold] at hl ⊢
  exact ((run_loop1_stable fuel (initLexer s)).eq_of_large (Nat.le_add_right _ _) hl).imp_right fun h => ⟨l, h, hall⟩

/-! ## 7. examples (the generated lexer itself, evaluated by the kernel) and axioms -/

/-- the type codes of the items `lex` sends -/
def lexTypes (fuel : Nat) (s : Bytes) : Option (List Int) := (Gen.lex fuel s).toOption.map (·.items.map (·.typ))
/-- the lexemes of the items `lex` sends -/
def lexVals (fuel : Nat) (s : Bytes) : Option (List Bytes) := (Gen.lex fuel s).toOption.map (·.items.map (·.val))

/-- why `lex` did not return normally, if it did not -/
def lexErr (fuel : Nat) (s : Bytes) : Option Go.Err4 :=
  match Gen.lex fuel s with
  | .error e => some e
  | .ok _ => none

/-- `a = "ü"`: field, `=`, value, EOF -/
example : lexTypes 40 [97, 32, 61, 32, 34, 0xC3, 0xBC, 34] = some [10, 7, 11, 1] := by decide +kernel
example : lexVals 40 [97, 32, 61, 32, 34, 0xC3, 0xBC, 34] = some [[97], [61], [34, 0xC3, 0xBC, 34], []] := by decide +kernel
/-- the same input with too little fuel: the translation artefact, not an answer -/
example : lexErr 5 [97, 32, 61, 32, 34, 0xC3, 0xBC, 34] = some .fuel := by decide +kernel
/-- `a = "ü`: unterminated string: field, `=`, error -/
example : lexTypes 40 [97, 32, 61, 32, 34, 0xC3, 0xBC] = some [10, 7, 0] := by decide +kernel
/-- `a=$12`: field, `=`, placeholder `$12`, EOF -/
example : lexTypes 40 [97, 61, 36, 49, 50] = some [10, 7, 12, 1] := by decide +kernel
example : lexVals 40 [97, 61, 36, 49, 50] = some [[97], [61], [36, 49, 50], []] := by decide +kernel
/-- `a=\xff`: an invalid byte outside a string: field, `=`, error ("unknown token") -/
example : lexTypes 40 [97, 61, 0xFF] = some [10, 7, 0] := by decide +kernel
/-- `a="\xff"`: an invalid byte inside a string is kept -/
example : lexVals 40 [97, 61, 34, 0xFF, 34] = some [[97], [61], [34, 0xFF, 34], []] := by decide +kernel
/-- `(a="x""y"|^b=$1),c;`: all token kinds, an escaped quote -/
example : lexTypes 80 [40, 97, 61, 34, 120, 34, 34, 121, 34, 124, 94, 98, 61, 36, 49, 41, 44, 99, 59] =
    some [2, 10, 7, 11, 5, 6, 10, 7, 12, 3, 8, 10, 9, 1] := by decide +kernel
/-- the items agree with the model on these inputs (instances of `lex_eq`) -/
example : lexAllR [97, 32, 61, 32, 34, 0xC3, 0xBC, 34] = [.field [97], .eq, .value [0xC3, 0xBC], .eof] := by decide +kernel
/-- the fuel bound of `lex_eq` is sharp up to one unit: `$$$` (three placeholders without digits, two iterations of the
    loop of `lexer.run` each) needs `2 * length + 2` -/
example : lexErr (2 * 3 + 1) [36, 36, 36] = some .fuel ∧ lexErr (2 * 3 + 2) [36, 36, 36] = none := by decide +kernel

#print axioms lex_eq
#print axioms lex_eq_lexAll
#print axioms lex_fuel_or
#print axioms lexAll_tokOK
#print axioms lexAll_length_le

end Updog.GeneratedEq
