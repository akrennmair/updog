/-
cmd/updog/create.go `createCmd`, cmd/updog/main.go (the `RunE` of the `create` sub-command, the exit status),
REGENERATED (`Gen.createCmd`, `Gen.createCmd_k1`, `Gen.createCmd_for1`, `Gen.createRunE`, `Gen.mainExit`) and run on
the explicit world of `Updog/Basic/GoPreludeT8.lean`: for EVERY environment `env` (what the CSV reader yields, which
external calls fail) and EVERY initial file system `fs`, with fuel for the record loop:

* `create_terminates`            — the command never blocks (the deferred `idx.Close()` runs before `tempDB.Close()`);
* `create_existing_untouched`    — no file that existed before is ever opened for writing or removed (both modes;
                                   normal mode relative to a writer whose `Flush` opens exclusively);
* `create_existing_output_fails` — an existing output ⇒ an error is returned; in big mode before any record is read;
* `create_malformed_fails`       — a reader error at any position (or an empty input) ⇒ error, no `Flush`, no complete
                                   index; what is left behind in each mode;
* `create_success`               — `nil` is returned ⇒ the reader ended with `io.EOF`, `AddRow` was called once per
                                   record, in order, with `Gen.recordRow header record`, then `Flush` once — and nothing else
                                   happened to the data;
* `create_temp_removed`          — a temporary file that was created is gone at the end, on every path;
* `create_table`                 — every row of the hand-written decision table `Model/CreateCmd.lean` (16 rows) is what
                                   the regenerated code does in an environment without other failures;
* `mainExit_status`, `main_create_exit_status` — `main` turns a returned error into exit status 1, `nil` into 0.
-/
import Updog.Proofs.GenCreateCmd
import Updog.Model.CreateCmd
import Updog.Props.Gen.OpenFile

namespace Updog.GeneratedEq
open Updog.Go Updog.Go.Cmd

/- Evaluating `Gen.createCmd` along one path from the initial world: the equations of the primitives on a running world
   (`Proofs/GoPreludeT8.lean`) rewrite each call, given the facts that select the path. -/
attribute [local simp] osOpen_run csvRead_some csvRead_none osCreateTemp_run fileClose_run boltOpen_refused boltOpen_opened
  newBigIndexWriter_run boltClose_run osRemove_run posixOpen_mustExist posixOpen_excl setAt_idem setAt_const

/-- an environment in which nothing fails except what the decision table of `Model/CreateCmd.lean` talks about (the CSV
    and an existing output): the input opens; in big mode a fresh temporary file — not the output path itself — is created
    and opens as a database; bbolt, the writers' `AddRow` and `Flush` have no failure of their own; `Flush` of the
    in-memory writer opens exclusively -/
structure Benign (env : Env) (fs : Bytes → Bool) (cfg : createConfig) : Prop where
  input : (fs cfg.inputFile && !env.unreadable cfg.inputFile) = true
  temp : cfg.big = true → ∃ n, env.tempName = some n ∧ fs n = false ∧ n ≠ cfg.outputFile ∧ env.boltFails n = false
  boltOut : env.boltFails cfg.outputFile = false
  writer : env.bigWriterFails = false
  addRow : ∀ k, env.addRowFails k = false
  flush : env.flushFails = false
  excl : env.flushExcl = true

/-- what a run of `createCmd` from the world `World.start env fs` must satisfy; `R` = (returned error, final world) -/
structure CreateSpec (toLower : Nat → Nat) (env : Env) (fs : Bytes → Bool) (cfg : createConfig)
    (R : Option Err5 × World) : Prop where
  terminates : R.2.stopped = none
  env_same : R.2.env = env
  existing_safe : (cfg.big = true ∨ env.flushExcl = true) →
    ∀ p, fs p = true → R.2.fs.present p = true ∧ R.2.fs.touched p = false
  existing_output : fs cfg.outputFile = true → (cfg.big = true ∨ env.flushExcl = true) → R.1 ≠ none
  big_before_records : cfg.big = true → fs cfg.outputFile = true → R.2.data.length ≤ 1
  malformed : (env.csvEnd ≠ .EOF ∨ env.csv = []) → R.1 ≠ none ∧ ∀ b, Event.flush b ∉ R.2.trace
  malformed_normal : cfg.big = false → (env.csvEnd ≠ .EOF ∨ env.csv = []) → R.2.fs = (World.start env fs).fs
  big_present : cfg.big = true → ∀ p, p ≠ cfg.outputFile → R.2.fs.present p = fs p
  success : R.1 = none → env.csvEnd = .EOF ∧ ∃ h recs, env.csv = h :: recs ∧
    R.2.data = .csvRead (some h) :: (rowEvents (Gen.normalizeHeader toLower h) recs ++ [.csvRead none, .flush true]) ∧
    R.2.fs.complete cfg.outputFile = true ∧ R.2.fs.present cfg.outputFile = true
  failure_incomplete : R.1 ≠ none → ∀ p, R.2.fs.complete p = false
  temp_removed : ∀ n, Event.createTemp (some n) ∈ R.2.trace → R.2.fs.present n = false
  temp_only_big : cfg.big = false → ∀ o, Event.createTemp o ∉ R.2.trace
  header_fail_fs : env.csv = [] → R.2.fs = (World.start env fs).fs
  exact_ok : Benign env fs cfg → env.csv ≠ [] → env.csvEnd = .EOF → fs cfg.outputFile = false → R.1 = none
  touched_out : Benign env fs cfg → R.2.fs.touched cfg.outputFile = false
  big_output_created : Benign env fs cfg → cfg.big = true → env.csv ≠ [] → fs cfg.outputFile = false →
    R.2.fs.present cfg.outputFile = true

section
variable (toLower : Nat → Nat) (fuel : Nat) (g : globalConfig) (cfg : createConfig) (env : Env) (fs : Bytes → Bool)

/-- the specification for a run that returned an error before a writer's `Flush` could be reached: what has to be known
    of the final world `W`. Either nothing happened to the file system and no temporary file was asked for, or this is big mode
    past the header; a benign environment only fails like this on an empty input or an existing output. -/
theorem CreateSpec.of_failure (e : Err5) (W : World) (hs : W.stopped = none) (henv : W.env = env)
    (hdata : W.data.length ≤ 1) (hflush : ∀ b, Event.flush b ∉ W.trace) (hcomplete : ∀ p, W.fs.complete p = false)
    (hsafe : ∀ p, fs p = true → W.fs.present p = true ∧ W.fs.touched p = false)
    (hpresent : ∀ p, p ≠ cfg.outputFile → W.fs.present p = fs p)
    (htemp : ∀ n, Event.createTemp (some n) ∈ W.trace → W.fs.present n = false)
    (hmode : (W.fs = (World.start env fs).fs ∧ ∀ o, Event.createTemp o ∉ W.trace) ∨ (cfg.big = true ∧ env.csv ≠ []))
    (hbenign : Benign env fs cfg → env.csv = [] ∨ fs cfg.outputFile = true) :
    CreateSpec toLower env fs cfg (some e, W) where
  terminates := hs
  env_same := henv
  existing_safe _ := hsafe
  existing_output _ _ := Option.some_ne_none e
  big_before_records _ _ := hdata
  malformed _ := ⟨Option.some_ne_none e, hflush⟩
  malformed_normal hb _ := hmode.elim (·.1) fun h => by rw [hb] at h; cases h.1
  big_present _ := hpresent
  success h := by cases h
  failure_incomplete _ := hcomplete
  temp_removed := htemp
  temp_only_big hb := hmode.elim (·.2) fun h => by rw [hb] at h; cases h.1
  header_fail_fs hc := hmode.elim (·.1) fun h => absurd hc h.2
  exact_ok hB hne _ ho := (hbenign hB).elim (absurd · hne) fun h => by rw [ho] at h; cases h
  touched_out hB := (hbenign hB).elim
    (fun hc => hmode.elim (fun h => by rw [h.1]; rfl) fun h => absurd hc h.2) fun h => (hsafe _ h).2
  big_output_created hB _ hne ho := (hbenign hB).elim (absurd · hne) fun h => by rw [ho] at h; cases h

/-! ### the paths that end before a writer exists -/

theorem spec_noInput (hin : (fs cfg.inputFile && !env.unreadable cfg.inputFile) = false) :
    CreateSpec toLower env fs cfg (Gen.createCmd toLower fuel (World.start env fs) g cfg) := by
  have hR : ∃ e, Gen.createCmd toLower fuel (World.start env fs) g cfg =
      (some e, { World.start env fs with trace := [.osOpen cfg.inputFile false] }) := by
    simp [Gen.createCmd, World.start, log, hin]
  obtain ⟨e, hR⟩ := hR
  rw [hR]
  exact .of_failure toLower cfg env fs e _ rfl rfl (by simp [World.data, Event.isData]) (by simp) (fun _ => rfl)
    (fun _ hp => ⟨hp, rfl⟩) (fun _ _ => rfl) (by simp) (Or.inl ⟨rfl, by simp⟩) (fun hB => by rw [hB.input] at hin; cases hin)

theorem spec_noHeader (hin : (fs cfg.inputFile && !env.unreadable cfg.inputFile) = true) (hh : env.csv = []) :
    CreateSpec toLower env fs cfg (Gen.createCmd toLower fuel (World.start env fs) g cfg) := by
  have hR : ∃ e, Gen.createCmd toLower fuel (World.start env fs) g cfg =
      (some e, { World.start env fs with
        trace := [.osOpen cfg.inputFile true, .csvRead none, .fileClose cfg.inputFile] }) := by
    simp [Gen.createCmd, World.start, csvNewReader, log, hin, hh]
  obtain ⟨e, hR⟩ := hR
  rw [hR]
  exact .of_failure toLower cfg env fs e _ rfl rfl (by simp [World.data, Event.isData, List.filter_cons]) (by simp) (fun _ => rfl)
    (fun _ hp => ⟨hp, rfl⟩) (fun _ _ => rfl) (by simp) (Or.inl ⟨rfl, by simp⟩) (fun _ => Or.inl hh)

/-! ### normal mode -/

/-- the world after the input was opened and the header line `h` read -/
def afterHeader (w : World) (inp : Bytes) (h : List Bytes) : World :=
  log { log w (.osOpen inp true) with csvPos := w.csvPos + 1 } (.csvRead (some h))

theorem not_loop_of_createTemp {e : Event} {o : Option Bytes} (h : e = .createTemp o) : e.isLoop = false := by
  subst h; rfl

section
variable (hin : (fs cfg.inputFile && !env.unreadable cfg.inputFile) = true)
  (h : List Bytes) (recs : List (List Bytes)) (hh : env.csv = h :: recs) (hb : cfg.big = false)
include hin hh hb

/-- normal mode, once the header is read: `NewIndexWriter(output)` (touches nothing), then the rest of the function
    (`Gen.createCmd_k1`), then the deferred `f.Close()` -/
theorem createCmd_normal (hfuel : env.csv.length ≤ fuel) :
    ∃ K, TailMem (Gen.normalizeHeader toLower h) (afterHeader (World.start env fs) cfg.inputFile h) cfg.outputFile recs K ∧
      Gen.createCmd toLower fuel (World.start env fs) g cfg = (K.1, (fileClose K.2 ⟨cfg.inputFile⟩).1) :=
  ⟨_, k1_mem toLower fuel g _ ⟨⟨cfg.inputFile⟩⟩ _ rfl recs (by simp [afterHeader, World.start, hh])
      (by rw [hh] at hfuel; simp at hfuel; omega) cfg.outputFile rfl,
    by simp [Gen.createCmd, World.start, csvNewReader, log, hin, hh, hb, afterHeader, newIndexWriter]⟩

theorem spec_normal (hfuel : env.csv.length ≤ fuel) :
    CreateSpec toLower env fs cfg (Gen.createCmd toLower fuel (World.start env fs) g cfg) := by
  obtain ⟨K, TM, hR⟩ := createCmd_normal toLower fuel g cfg env fs hin h recs hh hb hfuel
  rw [hR]
  obtain ⟨evs, htr, hevs, hdata, hnoflush, hbad⟩ := TM.trace
  have hoth : ∀ p, p ≠ cfg.outputFile → K.2.fs.present p = fs p ∧ K.2.fs.touched p = false ∧ K.2.fs.complete p = false :=
    TM.other
  have hblk : fs cfg.outputFile = true → env.flushExcl = true → K.1 ≠ none ∧ K.2.fs = (World.start env fs).fs := TM.blocked
  simp only [fileClose_run _ TM.stopped]
  have hnoTemp : ∀ o, Event.createTemp o ∉ (log K.2 (.fileClose cfg.inputFile)).trace := by
    intro o hm
    simp [htr, afterHeader, World.start] at hm
    rcases hevs _ hm with hl | hl <;> cases hl
  refine ⟨TM.stopped, TM.env, ?_, ?_, by simp [hb], ?_, ?_, by simp [hb], ?_, ?_, ?_, ?_,
    (fun hc => by rw [hh] at hc; cases hc), ?_, ?_, (fun _ hbb => by simp [hb] at hbb)⟩
  · -- existing_safe
    rintro (hbb | hx) p hp
    · simp [hb] at hbb
    · by_cases hpo : p = cfg.outputFile
      · subst hpo
        simp [(hblk hp hx).2, World.start, hp]
      · simp [hoth p hpo, hp]
  · -- existing_output
    rintro ho (hbb | hx)
    · simp [hb] at hbb
    · exact (hblk ho hx).1
  · -- malformed
    rintro (hc | hc)
    · refine ⟨(TM.badInput (Or.inl hc)).1, fun b hm => ?_⟩
      simp [htr, afterHeader, World.start] at hm
      exact absurd (hbad (Or.inl hc) _ hm) (by simp [Event.isLoop])
    · rw [hh] at hc; cases hc
  · -- malformed_normal
    rintro _ (hc | hc)
    · exact (TM.badInput (Or.inl hc)).2
    · rw [hh] at hc; cases hc
  · -- success
    intro hn
    obtain ⟨h1, h2, h3, _⟩ := TM.ok hn
    refine ⟨h1, h, recs, hh, ?_, h2, h3⟩
    simp [World.data, htr, afterHeader, World.start, List.filter_append, hdata hn, List.filter_cons, Event.isData]
  · -- failure_incomplete
    intro hn p
    by_cases hpo : p = cfg.outputFile
    · subst hpo; exact TM.failed hn
    · exact (hoth p hpo).2.2
  · -- temp_removed
    intro n hm; exact absurd hm (hnoTemp _)
  · intro _ o; exact hnoTemp o
  · -- exact_ok
    intro hB _ he ho
    exact TM.exact he (fun j _ => hB.addRow _) hB.flush hB.boltOut (by simp [afterHeader, World.start, ho])
  · -- touched_out
    intro hB
    cases hq : K.2.fs.touched cfg.outputFile with
    | false => exact hq
    | true =>
      rcases TM.touched hq with ht' | ⟨_, ht'⟩
      · cases ht'
      · rw [show (afterHeader (World.start env fs) cfg.inputFile h).env.flushExcl = true from hB.excl] at ht'; cases ht'

end

/-! ### big mode: the paths that end before the record loop -/

theorem ne_of_fresh {fs : Bytes → Bool} {n p : Bytes} (hn : fs n = false) (hp : fs p = true) : p ≠ n := by
  intro hc; rw [hc, hn] at hp; cases hp

/-- big mode, the world after a failure once the temporary file `n` was created and closed: the events `mid`, then the
    deferred `os.Remove` and `f.Close()`. `P`: which files exist before the removal. -/
def bigFailed (env : Env) (inp n : Bytes) (h : List Bytes) (P : Bytes → Bool) (mid : List Event) : World :=
  { env := env,
    fs := { present := setAt P n false, touched := setAt (fun _ => false) n true, complete := fun _ => false,
            txOpen := fun _ => false },
    csvPos := 1, rowsAdded := 0, stopped := none,
    trace := [.osOpen inp true, .csvRead (some h), .createTemp (some n), .fileClose n] ++ mid ++ [.remove n true, .fileClose inp] }

/-- big mode, the world in which the rest of the function (`Gen.createCmd_k1`) starts: the input is open and its
    header `h` read; the temporary file `n` was created, closed and opened (must exist) as a database; the output `out` was
    created by the exclusive open — BEFORE any record is read —; the big writer holds a write transaction on `n` -/
def bigSetup (env : Env) (fs : Bytes → Bool) (inp out n : Bytes) (h : List Bytes) : World :=
  { env := env,
    fs := { present := setAt (setAt fs n true) out true, touched := setAt (fun _ => false) n true,
            complete := fun _ => false, txOpen := setAt (fun _ => false) n true },
    csvPos := 1, rowsAdded := 0, stopped := none,
    trace := [.osOpen inp true, .csvRead (some h), .createTemp (some n), .fileClose n,
              .boltOpen n 384 .mustExist true, .boltOpen out 420 .excl true, .newBigWriter out n true] }

/-- the deferred calls of big mode, in the order in which they run: `idx.Close()`, `db.Close()`, `tempDB.Close()`,
    `os.Remove(tempFile.Name())`, `f.Close()` -/
def bigCleanup (w : World) (inp out n : Bytes) : World :=
  (fileClose (osRemove (boltClose (boltClose (bigWriterClose w ⟨⟨out⟩, ⟨n⟩⟩).1 ⟨out⟩).1 ⟨n⟩).1 n).1 ⟨inp⟩).1

/-- the deferred calls of big mode on a running world in which only the temporary database has an open write
    transaction and the temporary file exists: the transaction is rolled back FIRST, so neither `Close` blocks; the
    temporary file is removed; five events -/
theorem bigCleanup_run (w : World) (inp out n : Bytes) (hs : w.stopped = none)
    (htx : ∀ p, w.fs.txOpen p = true → p = n) (hp : w.fs.present n = true) :
    bigCleanup w inp out n =
      { w with fs := { present := setAt w.fs.present n false, touched := setAt w.fs.touched n true,
                       complete := setAt w.fs.complete n false, txOpen := setAt w.fs.txOpen n false },
               trace := w.trace ++ [.bigWriterClose n, .boltClose out, .boltClose n, .remove n true, .fileClose inp] } := by
  have h1 : setAt w.fs.txOpen n false out = false := by
    by_cases ho : out = n
    · subst ho; simp
    · rw [setAt_other _ _ _ _ ho]
      cases hq : w.fs.txOpen out with
      | false => rfl
      | true => exact absurd (htx _ hq) ho
  simp [bigCleanup, bigWriterClose, boltClose, osRemove, fileClose, act, hs, log, h1, hp]

section
variable (hin : (fs cfg.inputFile && !env.unreadable cfg.inputFile) = true)
  (h : List Bytes) (recs : List (List Bytes)) (hh : env.csv = h :: recs) (hb : cfg.big = true)
include hin hh hb

theorem spec_big_noTemp (ht : ∀ n, env.tempName = some n → fs n = true) :
    CreateSpec toLower env fs cfg (Gen.createCmd toLower fuel (World.start env fs) g cfg) := by
  have hR : ∃ e, Gen.createCmd toLower fuel (World.start env fs) g cfg =
      (some e, { World.start env fs with
        trace := [.osOpen cfg.inputFile true, .csvRead (some h), .createTemp none, .fileClose cfg.inputFile], csvPos := 1 }) := by
    cases hq : env.tempName with
    | none => simp [Gen.createCmd, World.start, csvNewReader, log, hin, hh, hb, hq]
    | some n => simp [Gen.createCmd, World.start, csvNewReader, log, hin, hh, hb, hq, ht n hq]
  obtain ⟨e, hR⟩ := hR
  rw [hR]
  refine .of_failure toLower cfg env fs e _ rfl rfl (by simp [World.data, Event.isData, List.filter_cons]) (by simp) (fun _ => rfl)
    (fun _ hp => ⟨hp, rfl⟩) (fun _ _ => rfl) (by simp) (Or.inr ⟨hb, by simp [hh]⟩) (fun hB => ?_)
  obtain ⟨n, h1, h2, -⟩ := hB.temp hb
  rw [ht n h1] at h2; cases h2

variable (n : Bytes) (ht : env.tempName = some n) (hn : fs n = false)
include ht hn

omit hin in
/-- big mode, a failure after the temporary file was created: `mid` has opening, closing and writer events only; files
    exist as at the start except the temporary one and perhaps an output that did not exist -/
theorem spec_big_afterTemp (P : Bytes → Bool) (mid : List Event)
    (hR : ∃ e, Gen.createCmd toLower fuel (World.start env fs) g cfg = (some e, bigFailed env cfg.inputFile n h P mid))
    (hmid : ∀ e ∈ mid, e.isData = false ∧ ∀ o, e ≠ .createTemp o)
    (hP : ∀ p, p ≠ n → p ≠ cfg.outputFile → P p = fs p) (hPo : fs cfg.outputFile = true → P cfg.outputFile = true)
    (hbenign : Benign env fs cfg → fs cfg.outputFile = true) :
    CreateSpec toLower env fs cfg (Gen.createCmd toLower fuel (World.start env fs) g cfg) := by
  obtain ⟨e, hR⟩ := hR
  rw [hR]
  have hmd : mid.filter Event.isData = [] := List.filter_eq_nil_iff.mpr fun e he => by simp [(hmid e he).1]
  refine .of_failure toLower cfg env fs e _ rfl rfl ?_ ?_ (fun _ => rfl) (fun p hp => ?_) (fun p hpo => ?_) ?_
    (Or.inr ⟨hb, by simp [hh]⟩) (fun hB => Or.inr (hbenign hB))
  · simp [World.data, bigFailed, List.filter_append, hmd, Event.isData, List.filter_cons]
  · intro b hm
    simp [bigFailed] at hm
    simpa [Event.isData] using (hmid _ hm).1
  · have hpn := ne_of_fresh hn hp
    have : P p = true := by
      by_cases hpo : p = cfg.outputFile
      · rw [hpo] at hp ⊢; exact hPo hp
      · rw [hP p hpn hpo]; exact hp
    simp [bigFailed, setAt_other _ _ _ _ hpn, this]
  · by_cases hpn : p = n
    · subst hpn; simp [bigFailed, hn]
    · simp [bigFailed, setAt_other _ _ _ _ hpn, hP p hpn hpo]
  · intro m hm
    simp [bigFailed] at hm
    rcases hm with rfl | hm
    · simp [bigFailed]
    · exact absurd rfl ((hmid _ hm).2 _)

theorem spec_big_tempDB (hbn : env.boltFails n = true) :
    CreateSpec toLower env fs cfg (Gen.createCmd toLower fuel (World.start env fs) g cfg) := by
  refine spec_big_afterTemp toLower fuel g cfg env fs h recs hh hb n ht hn (setAt fs n true)
    [.boltOpen n 384 .mustExist false] (by simp [Gen.createCmd, World.start, openFile, csvNewReader, log, bigFailed, hin, hh, hb, ht, hn, hbn]) (by simp [Event.isData])
    (fun p hpn _ => setAt_other _ _ _ _ hpn) (fun ho => by rw [setAt_other _ _ _ _ (ne_of_fresh hn ho)]; exact ho) (fun hB => ?_)
  obtain ⟨m, h1, -, -, h2⟩ := hB.temp hb
  rw [ht] at h1; cases h1; rw [h2] at hbn; cases hbn

variable (hbn : env.boltFails n = false)
include hbn

/-- big mode, the exclusive open of the output fails: an existing output (i), the temporary file happens to have the
    output's name (ii), or bbolt fails on the freshly created file (iii) -/
theorem spec_big_outFails (ho : fs cfg.outputFile = true ∨ cfg.outputFile = n ∨ env.boltFails cfg.outputFile = true) :
    CreateSpec toLower env fs cfg (Gen.createCmd toLower fuel (World.start env fs) g cfg) := by
  by_cases hpo : setAt fs n true cfg.outputFile = true
  · refine spec_big_afterTemp toLower fuel g cfg env fs h recs hh hb n ht hn (setAt fs n true)
      [.boltOpen n 384 .mustExist true, .boltOpen cfg.outputFile 420 .excl false, .boltClose n]
      (by simp [Gen.createCmd, World.start, openFile, csvNewReader, log, bigFailed, hin, hh, hb, ht, hn, hbn, hpo]) (by simp [Event.isData])
      (fun p hpn _ => setAt_other _ _ _ _ hpn) (fun _ => hpo) (fun hB => ?_)
    obtain ⟨m, h1, -, h2, -⟩ := hB.temp hb
    rw [ht] at h1; cases h1
    rwa [setAt_other _ _ _ _ (Ne.symm h2)] at hpo
  · have ho2 : cfg.outputFile ≠ n := fun hc => hpo (by rw [hc]; exact setAt_same _ _ _)
    have ho3 : env.boltFails cfg.outputFile = true := by
      rcases ho with ho | ho | ho
      · exact absurd (by rw [setAt_other _ _ _ _ ho2]; exact ho) hpo
      · exact absurd ho ho2
      · exact ho
    exact spec_big_afterTemp toLower fuel g cfg env fs h recs hh hb n ht hn (setAt (setAt fs n true) cfg.outputFile true)
      [.boltOpen n 384 .mustExist true, .boltOpen cfg.outputFile 420 .excl false, .boltClose n]
      (by simp [Gen.createCmd, World.start, openFile, csvNewReader, log, bigFailed, hin, hh, hb, ht, hn, hbn, hpo, ho3, setAt_other _ _ _ _ (Ne.symm ho2)])
      (by simp [Event.isData]) (fun p hpn hpo' => by rw [setAt_other _ _ _ _ hpo', setAt_other _ _ _ _ hpn])
      (fun _ => setAt_same _ _ _) (fun hB => by rw [hB.boltOut] at ho3; cases ho3)

variable (ho1 : fs cfg.outputFile = false) (ho2 : cfg.outputFile ≠ n) (ho3 : env.boltFails cfg.outputFile = false)
include ho1 ho2 ho3

theorem spec_big_writerFails (hw : env.bigWriterFails = true) :
    CreateSpec toLower env fs cfg (Gen.createCmd toLower fuel (World.start env fs) g cfg) :=
  spec_big_afterTemp toLower fuel g cfg env fs h recs hh hb n ht hn (setAt (setAt fs n true) cfg.outputFile true)
    [.boltOpen n 384 .mustExist true, .boltOpen cfg.outputFile 420 .excl true, .newBigWriter cfg.outputFile n false,
      .boltClose cfg.outputFile, .boltClose n]
    (by simp [Gen.createCmd, World.start, openFile, csvNewReader, log, bigFailed, hin, hh, hb, ht, hn, hbn, ho1, ho3, hw, setAt_other _ _ _ _ ho2, setAt_other _ _ _ _ (Ne.symm ho2)])
    (by simp [Event.isData]) (fun p hpn hpo' => by rw [setAt_other _ _ _ _ hpo', setAt_other _ _ _ _ hpn])
    (fun _ => setAt_same _ _ _) (fun hB => by rw [hB.writer] at hw; cases hw)

/-! ### big mode: the record loop is reached -/

theorem createCmd_big (hw : env.bigWriterFails = false) (hfuel : env.csv.length ≤ fuel) :
    ∃ K, TailBig (Gen.normalizeHeader toLower h) (bigSetup env fs cfg.inputFile cfg.outputFile n h) cfg.outputFile n recs K ∧
      Gen.createCmd toLower fuel (World.start env fs) g cfg = (K.1, bigCleanup K.2 cfg.inputFile cfg.outputFile n) :=
  ⟨_, k1_big toLower fuel g _ ⟨⟨cfg.inputFile⟩⟩ _ rfl recs (by simp [bigSetup, hh])
      (by rw [hh] at hfuel; simp at hfuel; omega) cfg.outputFile n,
    by simp [Gen.createCmd, World.start, openFile, csvNewReader, log, bigSetup, bigCleanup, hin, hh, hb, ht, hn, hbn, ho1, ho3, hw,
      setAt_other _ _ _ _ ho2]⟩

theorem spec_big_tail (hw : env.bigWriterFails = false) (hfuel : env.csv.length ≤ fuel) :
    CreateSpec toLower env fs cfg (Gen.createCmd toLower fuel (World.start env fs) g cfg) := by
  have ho2' : n ≠ cfg.outputFile := fun hc => ho2 hc.symm
  obtain ⟨K, TB, hR⟩ := createCmd_big toLower fuel g cfg env fs hin h recs hh hb n ht hn hbn ho1 ho2 ho3 hw hfuel
  rw [hR]
  obtain ⟨evs, htr, hevs, hdata, hnoflush, hbad⟩ := TB.trace
  have hKtx : ∀ p, K.2.fs.txOpen p = true → p = n := fun p hp => by
    have := TB.txOpen p hp
    by_cases hpn : p = n
    · exact hpn
    · simp [bigSetup, setAt_other _ _ _ _ hpn] at this
  have hKp : K.2.fs.present = setAt (setAt fs n true) cfg.outputFile true := TB.present
  have hKt : K.2.fs.touched = setAt (fun _ => false) n true := TB.touched
  simp only [bigCleanup_run K.2 cfg.inputFile cfg.outputFile n TB.stopped hKtx (by simp [hKp, setAt_other _ _ _ _ ho2'])]
  refine ⟨TB.stopped, TB.env, ?_, ?_, ?_, ?_, by simp [hb], ?_, ?_, ?_, ?_, by simp [hb],
    (fun hc => by rw [hh] at hc; cases hc), ?_, ?_, ?_⟩
  · -- existing_safe
    intro _ p hp
    have hpn : p ≠ n := ne_of_fresh hn hp
    have hpo : p ≠ cfg.outputFile := fun hc => by rw [hc, ho1] at hp; cases hp
    simp [hKp, hKt, setAt_other _ _ _ _ hpn, setAt_other _ _ _ _ hpo, hp]
  · intro ho; rw [ho1] at ho; cases ho
  · intro _ ho; rw [ho1] at ho; cases ho
  · -- malformed
    rintro (hc | hc)
    · refine ⟨TB.badInput (Or.inl hc), fun b hm => ?_⟩
      simp [htr, bigSetup] at hm
      exact hbad (Or.inl hc) b hm
    · rw [hh] at hc; cases hc
  · -- big_present
    intro _ p hpo
    by_cases hpn : p = n
    · subst hpn; simp [hn]
    · simp [setAt_other _ _ _ _ hpn, hKp, setAt_other _ _ _ _ hpo]
  · -- success
    intro hn'
    obtain ⟨h1, h2⟩ := TB.ok hn'
    refine ⟨h1, h, recs, hh, ?_, ?_, ?_⟩
    · simp [World.data, htr, bigSetup, List.filter_append, hdata hn', List.filter_cons, Event.isData]
    · simp [h2, bigSetup, setAt_other _ _ _ _ ho2]
    · simp [hKp, setAt_other _ _ _ _ ho2]
  · -- failure_incomplete
    intro hn' p
    by_cases hpn : p = n
    · subst hpn; simp
    · simp [setAt_other _ _ _ _ hpn, TB.failed hn', bigSetup]
  · -- temp_removed
    intro m hm
    simp [htr, bigSetup] at hm
    rcases hm with rfl | hm
    · simp
    · rcases hevs _ hm with hl | ⟨b, hl⟩ <;> cases hl
  · -- exact_ok
    intro hB _ he _
    exact TB.exact he (fun j _ => hB.addRow _) hB.flush
  · -- touched_out
    intro _
    simp [setAt_other _ _ _ _ ho2, hKt]
  · -- big_output_created
    intro _ _ _ _
    simp [setAt_other _ _ _ _ ho2, hKp]

end

/-! ### every path -/

/-- **the regenerated `createCmd`, over every environment and every initial file system** (fuel: at least the number
    of records the reader yields) -/
theorem createCmd_spec (hfuel : env.csv.length ≤ fuel) :
    CreateSpec toLower env fs cfg (Gen.createCmd toLower fuel (World.start env fs) g cfg) := by
  rcases Bool.eq_false_or_eq_true (fs cfg.inputFile && !env.unreadable cfg.inputFile) with hin | hin
  · cases hh : env.csv with
    | nil => exact spec_noHeader toLower fuel g cfg env fs hin hh
    | cons h recs =>
      rcases Bool.eq_false_or_eq_true cfg.big with hb | hb
      · by_cases hnt : ∀ n, env.tempName = some n → fs n = true
        · exact spec_big_noTemp toLower fuel g cfg env fs hin h recs hh hb hnt
        obtain ⟨n, ht, hn⟩ : ∃ n, env.tempName = some n ∧ fs n = false := by simpa using hnt
        rcases Bool.eq_false_or_eq_true (env.boltFails n) with hbn | hbn
        · exact spec_big_tempDB toLower fuel g cfg env fs hin h recs hh hb n ht hn hbn
        by_cases ho : fs cfg.outputFile = true ∨ cfg.outputFile = n ∨ env.boltFails cfg.outputFile = true
        · exact spec_big_outFails toLower fuel g cfg env fs hin h recs hh hb n ht hn hbn ho
        have ⟨ho1, ho2, ho3⟩ : fs cfg.outputFile = false ∧ cfg.outputFile ≠ n ∧ env.boltFails cfg.outputFile = false := by
          simpa [not_or] using ho
        rcases Bool.eq_false_or_eq_true env.bigWriterFails with hw | hw
        · exact spec_big_writerFails toLower fuel g cfg env fs hin h recs hh hb n ht hn hbn ho1 ho2 ho3 hw
        · exact spec_big_tail toLower fuel g cfg env fs hin h recs hh hb n ht hn hbn ho1 ho2 ho3 hw hfuel
      · exact spec_normal toLower fuel g cfg env fs hin h recs hh hb hfuel
  · exact spec_noInput toLower fuel g cfg env fs hin

/-! ## the theorems

All of them are about `Gen.createCmd toLower fuel (World.start env fs) g cfg`: the regenerated function run from the
initial world of environment `env` and file system `fs`; `hfuel : env.csv.length ≤ fuel`. -/

/-- **Termination.** `createCmd` never blocks and never panics, in any environment, in both modes — in particular
    `--big` on a malformed CSV: the deferred `idx.Close()` (registered last, so run first) rolls the temporary write
    transaction back before the deferred `tempDB.Close()` waits for it. The fuel never runs out either. -/
theorem create_terminates (hfuel : env.csv.length ≤ fuel) :
    (Gen.createCmd toLower fuel (World.start env fs) g cfg).2.stopped = none :=
  (createCmd_spec toLower fuel g cfg env fs hfuel).terminates

/-- **(1) Existing files are never written or removed.** In big mode, and in normal mode relative to a writer whose
    `Flush` opens its output exclusively (`env.flushExcl`): every file that existed before the run still exists and was
    neither opened for writing nor removed — the output path in particular, whatever else happens. -/
theorem create_existing_untouched (hfuel : env.csv.length ≤ fuel) (hx : cfg.big = true ∨ env.flushExcl = true)
    (p : Bytes) (hp : fs p = true) :
    (Gen.createCmd toLower fuel (World.start env fs) g cfg).2.fs.present p = true ∧
    (Gen.createCmd toLower fuel (World.start env fs) g cfg).2.fs.touched p = false :=
  (createCmd_spec toLower fuel g cfg env fs hfuel).existing_safe hx p hp

/-- **(1) An existing output makes the command fail**: an error is returned, no complete index is claimed anywhere,
    and in big mode the failure comes BEFORE any record is read (at most the header line was read). -/
theorem create_existing_output_fails (hfuel : env.csv.length ≤ fuel) (hx : cfg.big = true ∨ env.flushExcl = true)
    (ho : fs cfg.outputFile = true) :
    (Gen.createCmd toLower fuel (World.start env fs) g cfg).1 ≠ none ∧
    (∀ p, (Gen.createCmd toLower fuel (World.start env fs) g cfg).2.fs.complete p = false) ∧
    (cfg.big = true → (Gen.createCmd toLower fuel (World.start env fs) g cfg).2.data.length ≤ 1) := by
  have S := createCmd_spec toLower fuel g cfg env fs hfuel
  exact ⟨S.existing_output ho hx, S.failure_incomplete (S.existing_output ho hx), fun hb => S.big_before_records hb ho⟩

/-- without the exclusive open in `Flush` the claim fails: a normal-mode run over an existing output can succeed, and
    then it has written into the existing file (so the hypothesis `flushExcl` of (1) is needed) -/
theorem create_nonexclusive_touches :
    ∃ (env : Env) (fs : Bytes → Bool) (cfg : createConfig), fs cfg.outputFile = true ∧
      (Gen.createCmd id 5 (World.start env fs) ⟨[], [], 0, false⟩ cfg).1 = none ∧
      (Gen.createCmd id 5 (World.start env fs) ⟨[], [], 0, false⟩ cfg).2.fs.touched cfg.outputFile = true :=
  ⟨⟨fun _ => false, [[[97]], [[49]]], .EOF, none, fun _ => false, false, fun _ => false, false, false⟩,
    fun _ => true, ⟨[111], [105], false⟩, rfl, by decide, by decide⟩

/-- **(2) A malformed CSV makes the command fail.** If the reader's answer after the last record is not `io.EOF` — a
    parse error at ANY position — or the input has no header line at all: an error is returned, `Flush` is never called,
    and no complete index is claimed. What is left behind: in normal mode NOTHING (the file system is exactly as
    before); in big mode every path other than the output is as before (the temporary file is gone), and the output —
    opened before the records are read — may be a new, incomplete file. -/
theorem create_malformed_fails (hfuel : env.csv.length ≤ fuel) (hbad : env.csvEnd ≠ .EOF ∨ env.csv = []) :
    (Gen.createCmd toLower fuel (World.start env fs) g cfg).1 ≠ none ∧
    (∀ b, Event.flush b ∉ (Gen.createCmd toLower fuel (World.start env fs) g cfg).2.trace) ∧
    (∀ p, (Gen.createCmd toLower fuel (World.start env fs) g cfg).2.fs.complete p = false) ∧
    (cfg.big = false → (Gen.createCmd toLower fuel (World.start env fs) g cfg).2.fs = (World.start env fs).fs) ∧
    (cfg.big = true → ∀ p, p ≠ cfg.outputFile → (Gen.createCmd toLower fuel (World.start env fs) g cfg).2.fs.present p = fs p) := by
  have S := createCmd_spec toLower fuel g cfg env fs hfuel
  exact ⟨(S.malformed hbad).1, (S.malformed hbad).2, S.failure_incomplete (S.malformed hbad).1,
    fun hb => S.malformed_normal hb hbad, fun hb => S.big_present hb⟩

/-- **(3) `nil` is returned only after every record became a row, in order, and `Flush` ran once.** If the command
    returns `nil` then the reader ended with `io.EOF`, and what happened to the data is EXACTLY: the header line `h` was
    read; for every further record `r`, in order: it was read and `AddRow` was called — successfully — with
    `Gen.recordRow (Gen.normalizeHeader toLower h) r`; the reader reported the end; `Flush` was called once and succeeded —
    nothing before, between or after (no record skipped, none added twice, no `Flush` before the loop ended with
    `io.EOF`). The output is then a complete index. -/
theorem create_success (hfuel : env.csv.length ≤ fuel)
    (hnil : (Gen.createCmd toLower fuel (World.start env fs) g cfg).1 = none) :
    env.csvEnd = .EOF ∧ ∃ h recs, env.csv = h :: recs ∧
      (Gen.createCmd toLower fuel (World.start env fs) g cfg).2.data =
        .csvRead (some h) :: (rowEvents (Gen.normalizeHeader toLower h) recs ++ [.csvRead none, .flush true]) ∧
      (Gen.createCmd toLower fuel (World.start env fs) g cfg).2.fs.complete cfg.outputFile = true ∧
      (Gen.createCmd toLower fuel (World.start env fs) g cfg).2.fs.present cfg.outputFile = true :=
  (createCmd_spec toLower fuel g cfg env fs hfuel).success hnil

theorem filterMap_of_data {β : Type} (f : Event → Option β) (hf : ∀ e, e.isData = false → f e = none) (l : List Event) :
    l.filterMap f = (l.filter Event.isData).filterMap f := by
  induction l with
  | nil => rfl
  | cons e l ih => cases hd : e.isData <;> simp [List.filterMap_cons, hd, ih, hf e]

theorem rowEvents_addRows (header : List Bytes) (recs : List (List Bytes)) :
    ((rowEvents header recs).filterMap fun e => match e with | .addRow row ok => some (row, ok) | _ => none)
      = recs.map fun r => (Gen.recordRow header r, true) := by
  induction recs with
  | nil => simp [rowEvents]
  | cons r rs ih => simp [rowEvents] at ih ⊢; exact ih

/-- the rows handed to `AddRow` on a successful run are the model's `createRows` of the CSV (`Model/Create.lean`),
    whenever no record is longer than the header (`encoding/csv` guarantees equal lengths) and `toLower` lower-cases
    like `unicode.ToLower` on the runes that matter (`Props/Gen/CreateRow.lean`: `normalizeHeader_eq`) -/
theorem create_success_rows (hfuel : env.csv.length ≤ fuel)
    (hnil : (Gen.createCmd toLower fuel (World.start env fs) g cfg).1 = none) :
    ∃ h recs, env.csv = h :: recs ∧
      ((Gen.createCmd toLower fuel (World.start env fs) g cfg).2.trace.filterMap fun e =>
          match e with | .addRow row ok => some (row, ok) | _ => none)
        = recs.map fun r => (Gen.recordRow (Gen.normalizeHeader toLower h) r, true) := by
  obtain ⟨_, h, recs, hh, hd, _, _⟩ := create_success toLower fuel g cfg env fs hfuel hnil
  refine ⟨h, recs, hh, ?_⟩
  rw [filterMap_of_data _ (fun e he => by cases e <;> first | rfl | cases he)]
  simp only [World.data] at hd
  rw [hd]
  simp only [List.filterMap_cons, List.filterMap_append, List.filterMap_nil, List.append_nil]
  exact rowEvents_addRows _ recs

/-- **(4) The temporary file is removed on every path.** Whatever happens — success, a failing open, a malformed
    record, a failing `AddRow` or `Flush` —, every file `os.CreateTemp` created during the run is gone at the end, and
    (`create_terminates`) the end is reached. Normal mode creates none. -/
theorem create_temp_removed (hfuel : env.csv.length ≤ fuel) (n : Bytes)
    (hc : Event.createTemp (some n) ∈ (Gen.createCmd toLower fuel (World.start env fs) g cfg).2.trace) :
    (Gen.createCmd toLower fuel (World.start env fs) g cfg).2.fs.present n = false ∧ cfg.big = true := by
  have S := createCmd_spec toLower fuel g cfg env fs hfuel
  refine ⟨S.temp_removed n hc, ?_⟩
  cases hb : cfg.big with
  | true => rfl
  | false => exact absurd hc (S.temp_only_big hb _)

/-! ### (5) the decision table of `Model/CreateCmd.lean` -/

/-- the row of the table an environment / file system / configuration belongs to -/
def tableIn (env : Env) (fs : Bytes → Bool) (cfg : createConfig) : CreateIn :=
  ⟨!env.csv.isEmpty, env.csvEnd == .EOF, fs cfg.outputFile, cfg.big⟩

/-- what the table records of a run: exit status as `main` computes it, "an existing output was touched", "the output is a
    complete index", "the process terminates" — plus the extra observation of `CreateRun` -/
def observe (fs : Bytes → Bool) (cfg : createConfig) (R : Option Err5 × World) : CreateRun :=
  ⟨⟨if R.1.isSome then 1 else 0, R.2.fs.touched cfg.outputFile, R.2.fs.complete cfg.outputFile, R.2.stopped.isNone⟩,
   R.2.fs.present cfg.outputFile && !fs cfg.outputFile && !R.2.fs.complete cfg.outputFile⟩

/-- **(5) Every row of the hand-written decision table is what the regenerated code does.** In every benign
    environment (`Benign`: nothing fails except what the table is about) the regenerated `createCmd` produces exactly the
    outcome `createRun .repaired` lists for the row the inputs belong to — all 16 rows (header readable?, CSV
    well-formed?, output exists?, `--big`?) are instances: exit status, existing output untouched, complete index,
    termination, and whether a new incomplete output is left behind. -/
theorem create_table (hfuel : env.csv.length ≤ fuel) (hB : Benign env fs cfg) :
    observe fs cfg (Gen.createCmd toLower fuel (World.start env fs) g cfg) = createRun .repaired (tableIn env fs cfg) := by
  have S := createCmd_spec toLower fuel g cfg env fs hfuel
  generalize Gen.createCmd toLower fuel (World.start env fs) g cfg = R at S
  have hx : cfg.big = true ∨ env.flushExcl = true := Or.inr hB.excl
  simp only [observe, S.terminates, S.touched_out hB, Option.isNone_none]
  cases hcsv : env.csv with
  | nil =>
    have hm := S.malformed (Or.inr hcsv)
    have hfs := S.header_fail_fs hcsv
    have hsome := Option.isSome_iff_ne_none.mpr hm.1
    simp [tableIn, hcsv, createRun, hsome, hfs, World.start]
  | cons h recs =>
    have hne : env.csv ≠ [] := by rw [hcsv]; simp
    by_cases he : env.csvEnd = .EOF
    · cases ho : fs cfg.outputFile with
      | true =>
        have hf := S.existing_output ho hx
        have hc := S.failure_incomplete hf cfg.outputFile
        have hsome := Option.isSome_iff_ne_none.mpr hf
        cases hb : cfg.big <;> simp [tableIn, hcsv, he, ho, hb, createRun, openOutput, CreateImpl.repaired, hsome, hc]
      | false =>
        have hok := S.exact_ok hB hne he ho
        obtain ⟨_, _, _, _, _, hc, hp⟩ := S.success hok
        cases hb : cfg.big <;>
          simp [tableIn, hcsv, he, ho, hb, createRun, openOutput, CreateImpl.repaired, hok, hc, hp, bigDefersReturn]
    · have hm := S.malformed (Or.inl he)
      have hc := S.failure_incomplete hm.1 cfg.outputFile
      have hsome := Option.isSome_iff_ne_none.mpr hm.1
      have hbeq : (env.csvEnd == Err5.EOF) = false := by simpa using he
      cases hb : cfg.big with
      | false =>
        have hfs := S.malformed_normal hb (Or.inl he)
        simp [tableIn, hcsv, hbeq, hb, createRun, hsome, hfs, World.start]
      | true =>
        cases ho : fs cfg.outputFile with
        | true =>
          simp [tableIn, hcsv, hbeq, hb, ho, createRun, openOutput, CreateImpl.repaired, hsome, hc]
        | false =>
          have hp := S.big_output_created hB hb hne ho
          simp [tableIn, hcsv, hbeq, hb, ho, createRun, openOutput, CreateImpl.repaired, hsome, hc, hp, bigDefersReturn]

/-- the table's `createCmd` (the outcome without the extra observation) -/
theorem create_table_out (hfuel : env.csv.length ≤ fuel) (hB : Benign env fs cfg) :
    (observe fs cfg (Gen.createCmd toLower fuel (World.start env fs) g cfg)).toCreateOut = Updog.createCmd (tableIn env fs cfg) := by
  rw [create_table toLower fuel g cfg env fs hfuel hB]; rfl

end

/-- every one of the 16 rows of the table is the row of some benign environment (so `create_table` instantiates each) -/
theorem tableIn_surjective (i : CreateIn) :
    ∃ (env : Env) (fs : Bytes → Bool) (cfg : createConfig), Benign env fs cfg ∧ env.csv.length ≤ 2 ∧ tableIn env fs cfg = i := by
  obtain ⟨hdr, csv, out, big⟩ := i
  refine ⟨⟨fun _ => false, if hdr then [[[97]], [[49]]] else [], if csv then .EOF else .ext 1, some [116], fun _ => false, false,
      fun _ => false, false, true⟩,
    fun p => p == [105] || (out && p == [111]), ⟨[111], [105], big⟩, ?_, ?_, ?_⟩
  · exact ⟨rfl, fun _ => ⟨[116], rfl, by cases out <;> rfl, (by decide : ([116] : Bytes) ≠ [111]), rfl⟩, rfl, rfl, fun _ => rfl, rfl, rfl⟩
  · cases hdr <;> simp
  · cases hdr <;> cases csv <;> cases out <;> rfl

/-! ### cmd/updog/main.go: the `create` sub-command's `RunE`, the exit status -/

section
variable (toLower : Nat → Nat) (fuel : Nat) (g : globalConfig) (c : createConfig)

/-- no positional argument, or more than one: an error, and nothing at all happens -/
theorem createRunE_badArgs (w : World) (args : List Bytes) (h : args.length ≠ 1) :
    ∃ e, Gen.createRunE toLower fuel w g c args = (some e, c, w) := by
  cases args with
  | nil => simp [Gen.createRunE, Go.len]
  | cons a rest =>
    cases rest with
    | nil => simp at h
    | cons b rest =>
      have h1 : ((rest.length : Int) + 1 + 1 > 1) := by omega
      have h0 : ¬ ((rest.length : Int) + 1 + 1 = 0) := by omega
      simp [Gen.createRunE, Go.len, h1, h0]

/-- exactly one argument: it becomes `createCfg.inputFile`, and `createCmd` runs with the global configuration and that
    create configuration; its error is the error of `RunE` -/
theorem createRunE_one (w : World) (a : Bytes) :
    Gen.createRunE toLower fuel w g c [a] =
      ((Gen.createCmd toLower fuel w g { c with inputFile := a }).1, { c with inputFile := a },
       (Gen.createCmd toLower fuel w g { c with inputFile := a }).2) := by
  simp [Gen.createRunE, Go.len, indexL]

/-- **`main` turns a returned error into exit status 1 and `nil` into 0.** For every `execute` (what
    `rootCmd.Execute()` does) that comes back (the process is not stopped inside it): the regenerated end of `main`
    calls `os.Exit(1)` exactly when the returned error is non-nil; otherwise `main` returns, which is exit status 0. -/
theorem mainExit_status (execute : World → World × Option Err5) (w : World) (hback : (execute w).1.stopped = none) :
    (mainReturns (Gen.mainExit execute w)).exitStatus = some (if (execute w).2.isSome then 1 else 0) := by
  cases he : (execute w).2 with
  | none => simp [Gen.mainExit, he, mainReturns, hback, World.exitStatus]
  | some e => simp [Gen.mainExit, he, mainReturns, osExit, act, hback, World.exitStatus]

/-- **`updog create IN`: error ⇒ exit status 1, `nil` ⇒ 0**, for every environment and file system: cobra's `Execute`
    (`cobraExecute`, trusted) runs the regenerated `RunE`, which runs the regenerated `createCmd`; the regenerated end of
    `main` turns its result into the exit status. The process always gets there (`create_terminates`). -/
theorem main_create_exit_status (env : Env) (fs : Bytes → Bool) (a : Bytes) (hfuel : env.csv.length ≤ fuel) :
    (mainReturns (Gen.mainExit
        (cobraExecute fun w => ((Gen.createRunE toLower fuel w g c [a]).1, (Gen.createRunE toLower fuel w g c [a]).2.2))
        (World.start env fs))).exitStatus
      = some (if (Gen.createCmd toLower fuel (World.start env fs) g { c with inputFile := a }).1.isSome then 1 else 0) := by
  rw [mainExit_status]
  · simp [cobraExecute, createRunE_one]
  · simp only [cobraExecute, createRunE_one]
    exact create_terminates toLower fuel g { c with inputFile := a } env fs hfuel

/-- C19, last sentence, for the regenerated code: a malformed CSV or an existing output (with a writer whose `Flush`
    opens exclusively, or `--big`) makes the process exit with status 1 -/
theorem main_create_fails_nonzero (env : Env) (fs : Bytes → Bool) (a : Bytes) (hfuel : env.csv.length ≤ fuel)
    (hbad : (env.csvEnd ≠ .EOF ∨ env.csv = []) ∨ (fs c.outputFile = true ∧ (c.big = true ∨ env.flushExcl = true))) :
    (mainReturns (Gen.mainExit
        (cobraExecute fun w => ((Gen.createRunE toLower fuel w g c [a]).1, (Gen.createRunE toLower fuel w g c [a]).2.2))
        (World.start env fs))).exitStatus = some 1 := by
  rw [main_create_exit_status toLower fuel g c env fs a hfuel]
  have S := createCmd_spec toLower fuel g { c with inputFile := a } env fs hfuel
  rw [if_pos (Option.isSome_iff_ne_none.mpr (hbad.elim (fun h => (S.malformed h).1) fun h => S.existing_output h.1 h.2))]

end

/-! ### examples: the regenerated command, run -/

namespace CreateDemo

/-- input `in` with header `A b` / `c`, two records; a fresh temp name `t`; nothing else fails -/
def env (ending : Err5) : Env :=
  { unreadable := fun _ => false, csv := [[[65, 32, 98], [99]], [[49], [50]], [[51], [52]]], csvEnd := ending,
    tempName := some [116], boltFails := fun _ => false, bigWriterFails := false, addRowFails := fun _ => false,
    flushFails := false, flushExcl := true }
def files (outExists : Bool) : Bytes → Bool := fun p => p == [105] || (outExists && p == [111])
def cfg (big : Bool) : createConfig := ⟨[111], [105], big⟩
def run (ending : Err5) (outExists big : Bool) : Option Err5 × World :=
  Gen.createCmd (fun r => if 65 ≤ r ∧ r ≤ 90 then r + 32 else r) 10 (World.start (env ending) (files outExists)) ⟨[], [], 0, true⟩ (cfg big)

/-- big mode, all well: the whole trace — exclusive open of the output BEFORE the first record is read, the rows with
    normalised column names `a_b`, `c`, one flush, the deferred calls in LIFO order, temp file removed -/
example : (run .EOF false true).1 = none ∧ (run .EOF false true).2.trace =
    [.osOpen [105] true, .csvRead (some [[65, 32, 98], [99]]), .createTemp (some [116]), .fileClose [116],
     .boltOpen [116] 384 .mustExist true, .boltOpen [111] 420 .excl true, .newBigWriter [111] [116] true,
     .csvRead (some [[49], [50]]), .addRow [([97, 95, 98], [49]), ([99], [50])] true,
     .csvRead (some [[51], [52]]), .addRow [([97, 95, 98], [51]), ([99], [52])] true,
     .csvRead none, .printf [70, 108, 117, 115, 104, 105, 110, 103, 32, 100, 97, 116, 97, 46, 46, 46, 10], .flush true,
     .printf [70, 108, 117, 115, 104, 105, 110, 103, 32, 100, 111, 110, 101],
     .bigWriterClose [116], .boltClose [111], .boltClose [116], .remove [116] true, .fileClose [105]] := by
  decide

/-- normal mode on an existing output: the rows are collected, `Flush`'s exclusive open fails, the file is untouched -/
example : (run .EOF true false).1.isSome = true ∧ (run .EOF true false).2.fs.touched [111] = false ∧
    (run .EOF true false).2.trace.getLast? = some (.fileClose [105]) ∧
    Event.boltOpen [111] 420 .excl false ∈ (run .EOF true false).2.trace := by
  decide

/-- big mode on a malformed CSV (parse error after the two records): error, no flush, the temp file is removed, the
    new incomplete output stays, the process terminates -/
example : (run (.ext 7) false true).1.isSome = true ∧ (run (.ext 7) false true).2.stopped = none ∧
    (run (.ext 7) false true).2.fs.present [116] = false ∧ (run (.ext 7) false true).2.fs.present [111] = true ∧
    (run (.ext 7) false true).2.fs.complete [111] = false ∧ Event.flush true ∉ (run (.ext 7) false true).2.trace := by
  decide

/-- the exit status through the regenerated `RunE` and end of `main` -/
example : (mainReturns (Gen.mainExit (cobraExecute fun w => ((Gen.createRunE id 10 w ⟨[], [], 0, false⟩ (cfg true) [[105]]).1,
      (Gen.createRunE id 10 w ⟨[], [], 0, false⟩ (cfg true) [[105]]).2.2)) (World.start (env .EOF) (files true)))).exitStatus = some 1 ∧
    (mainReturns (Gen.mainExit (cobraExecute fun w => ((Gen.createRunE id 10 w ⟨[], [], 0, false⟩ (cfg true) [[105]]).1,
      (Gen.createRunE id 10 w ⟨[], [], 0, false⟩ (cfg true) [[105]]).2.2)) (World.start (env .EOF) (files false)))).exitStatus = some 0 := by
  decide

end CreateDemo

end Updog.GeneratedEq

#print axioms Updog.GeneratedEq.createCmd_spec
#print axioms Updog.GeneratedEq.create_terminates
#print axioms Updog.GeneratedEq.create_existing_untouched
#print axioms Updog.GeneratedEq.create_existing_output_fails
#print axioms Updog.GeneratedEq.create_nonexclusive_touches
#print axioms Updog.GeneratedEq.create_malformed_fails
#print axioms Updog.GeneratedEq.create_success
#print axioms Updog.GeneratedEq.create_success_rows
#print axioms Updog.GeneratedEq.create_temp_removed
#print axioms Updog.GeneratedEq.create_table
#print axioms Updog.GeneratedEq.create_table_out
#print axioms Updog.GeneratedEq.tableIn_surjective
#print axioms Updog.GeneratedEq.createRunE_badArgs
#print axioms Updog.GeneratedEq.createRunE_one
#print axioms Updog.GeneratedEq.mainExit_status
#print axioms Updog.GeneratedEq.main_create_exit_status
#print axioms Updog.GeneratedEq.main_create_fails_nonzero
