/-
Equivalence of the REGENERATED opening of an index and of the two column getters (`Updog/GeneratedFns.lean`:
`openIndexFromBoltDatabase`, `withPreloadedData`, `newOnDemandColGetter`, `onDemandGetCol`, `newPreloadedColGetter`,
`preloadedGetCol`, translated from index.go by extract/translate_t3.go on every run) with the hand-written models
`Updog/Model/Open.lean` (`openIndex`) and `Updog/Model/Getters.lean` (`onDemandAnswer`, `preloadOpen`, `preloadedAnswer`).
The bbolt database is the record `Go.T3.Bolt`; `fileStateOf` / `imageOfData` read the model's `FileState` / `Image` off it.
-/
import Updog.Proofs.GenOpenT3
import Updog.Proofs.Getters

namespace Updog.GeneratedEq
open Updog.Go.T3

/-- an open bbolt database nobody has a transaction on -/
def idle (i n : Nat) (c : Buckets) (cs : List (List PutRec)) : Bolt :=
  { id := i, closed := false, committed := c, tx := none, nextTx := n, commits := cs }

/-- `(ok | error, the file lock is still held)` as `Model/Open.lean` reports it -/
def openOutcome (r : Bolt × Heap × Option Go.T3.Index × Error) : Outcome Unit × Bool :=
  (if isErr r.2.2.2 then .error else .ok (), !r.1.closed)

theorem vDecodable_iff (X : Ext) (d : BucketData) : vDecodable X d = true ↔ (imageOfData X d).AllDecodable := by
  simp only [vDecodable, imageOfData, Image.AllDecodable, List.all_eq_true, List.mem_map]
  constructor
  · rintro h p ⟨kv, hkv, rfl⟩; exact h kv hkv
  · intro h kv hkv; exact h _ ⟨kv, hkv, rfl⟩

theorem openIndex_headerBad (X : Ext) (c : Buckets) (o : OpenOpts) (h : headerOK X c = false) :
    openIndex (fileStateOf X c) o = (.error, false) := by
  unfold headerOK at h
  unfold fileStateOf
  cases hb : bucketsGet c dataName with
  | none => rfl
  | some d =>
    rw [hb] at h
    simp only at h ⊢
    cases hs : blobOf X d <;> cases hi : counterOf d <;> first | rfl | (rw [hs, hi] at h; cases h)

theorem openOutcome_failed (r : Bolt × Heap × Option Go.T3.Index × Error) (he : r.2.2.2.isSome = true) (b : Bolt)
    (hb : r.1 = b) (hc : b.closed = true) : openOutcome r = (.error, false) := by
  simp only [openOutcome, show isErr r.2.2.2 = true from he, if_true, hb, hc, Bool.not_true]

/-- **validation sequence** (order and exact conditions; database closed on every failing path): see `open_view` -/
theorem openIndexFromBoltDatabase_validation (X : Ext) (i n : Nat) (c : Buckets) (cs : List (List PutRec)) (hp : Heap)
    (opts : List IndexOption) :
    let r := Gen.openIndexFromBoltDatabase X (idle i n c cs) hp (some i) opts
    if headerOK X c then
      ∃ d sb s cb, bucketsGet c dataName = some d ∧ dataGet d [83] = some sb ∧ X.gobDecode sb = some s ∧
        dataGet d [73] = some cb ∧ cb.length = 4 ∧
        r = openTail X (some i) opts (idle i (n + 1) c cs) hp
              { schema := some s, nextRowID := beUint32 cb, db := some i, cache := .nullCache, metrics := .fresh }
    else
      r.2.2.2.isSome = true ∧ r.2.2.1 = none ∧ r.2.1 = hp ∧
      r.1 = { id := i, closed := true, committed := c, tx := none, nextTx := n + 1, commits := cs } :=
  open_view X i n c cs hp opts

/-- **`OpenIndexFromBoltDatabase` without options = `openIndex … ⟨false⟩`** on every state of an openable bbolt file:
    the outcome and whether the lock is still held. On success the index carries the decoded schema, the big-endian
    counter and the on-demand getter over the same database. -/
theorem openIndex_noPreload_eq (X : Ext) (i n : Nat) (c : Buckets) (cs : List (List PutRec)) (hp : Heap) :
    openOutcome (Gen.openIndexFromBoltDatabase X (idle i n c cs) hp (some i) []) = openIndex (fileStateOf X c) ⟨false⟩ := by
  have hv := open_view X i n c cs hp []
  simp only at hv
  unfold idle
  by_cases hok : headerOK X c = true
  · rw [if_pos hok] at hv
    obtain ⟨d, sb, s, cb, h1, h2, h3, h4, h5, hr⟩ := hv
    rw [hr]
    simp [openOutcome, openTail, forRange, isErr, nilError, fileStateOf, h1, openIndex, blobOf, counterOf, h2, h3, h4, h5]
  · rw [if_neg hok] at hv
    obtain ⟨e1, _, _, e4⟩ := hv
    rw [openIndex_headerBad X c _ (by simpa using hok)]
    exact openOutcome_failed _ e1 _ e4 rfl

/-- success case of the above: what the returned index holds -/
theorem openIndex_noPreload_result (X : Ext) (i n : Nat) (c : Buckets) (cs : List (List PutRec)) (hp : Heap)
    (d : BucketData) (sb cb : Bytes) (s : SchemaVal)
    (h1 : bucketsGet c dataName = some d) (h2 : dataGet d [83] = some sb) (h3 : X.gobDecode sb = some s)
    (h4 : dataGet d [73] = some cb) (h5 : cb.length = 4) :
    Gen.openIndexFromBoltDatabase X (idle i n c cs) hp (some i) []
      = (idle i (n + 1) c cs, hp,
         some { schema := some s, nextRowID := beUint32 cb, db := some i, values := .onDemand { db := some i },
                cache := .nullCache, metrics := .fresh }, none) := by
  have hv := open_view X i n c cs hp []
  have hok : headerOK X c = true := by simp [headerOK, h1, blobOf, counterOf, h2, h3, h4, h5]
  simp only [hok, if_true] at hv
  obtain ⟨d', sb', s', cb', g1, g2, g3, g4, _, hr⟩ := hv
  rw [h1] at g1; injection g1 with g1; subst g1
  rw [h2] at g2; injection g2 with g2; subst g2
  rw [h3] at g3; injection g3 with g3; subst g3
  rw [h4] at g4; injection g4 with g4; subst g4
  unfold idle
  rw [hr]
  simp [openTail, forRange, Gen.newOnDemandColGetter, nilError, ColGetter.isNil]

/-- **`OpenIndexFromBoltDatabase(db, WithPreloadedData())` = `openIndex … ⟨true⟩`**, for a bucket in bbolt's key order:
    the option runs after the validation; if a stored bitmap does not decode the call fails and the database is closed. -/
theorem openIndex_preload_eq (X : Ext) (i n : Nat) (c : Buckets) (cs : List (List PutRec)) (hp : Heap)
    (hs : ∀ d, bucketsGet c dataName = some d → SortedData d) :
    openOutcome (Gen.openIndexFromBoltDatabase X (idle i n c cs) hp (some i) [Gen.withPreloadedData X])
      = openIndex (fileStateOf X c) ⟨true⟩ := by
  have hv := open_view X i n c cs hp [Gen.withPreloadedData X]
  simp only at hv
  unfold idle
  by_cases hok : headerOK X c = true
  · rw [if_pos hok] at hv
    obtain ⟨d, sb, s, cb, h1, h2, h3, h4, h5, hr⟩ := hv
    rw [hr]
    have hp' := newPreloaded_spec X i (n + 1) c cs hp d h1 (hs d h1)
    simp only at hp'
    obtain ⟨q1, q2⟩ := hp'
    have hfs : fileStateOf X c = .bolt true .good .good (vDecodable X d) := by
      simp [fileStateOf, h1, blobOf, counterOf, h2, h3, h4, h5]
    rw [hfs]
    generalize hg : Gen.newPreloadedColGetter X { id := i, closed := false, committed := c, tx := none, nextTx := n + 1, commits := cs } hp (some i) = g at q1 q2
    obtain ⟨gb, ghp, gcg, gerr⟩ := g
    simp only at q1 q2
    subst q1
    cases hpo : preloadOpen (imageOfData X d) with
    | none =>
      rw [hpo] at q2
      have hvd : vDecodable X d = false := by
        have := (preloadFold_eq_none_iff (imageOfData X d) (fun _ => none)).mp hpo
        rw [← vDecodable_iff] at this
        simpa using this
      simp only [openTail, forRange, Gen.openIndexFromBoltDatabase_loop1, Gen.withPreloadedData, hg, q2.1, if_true, dbClose_mk,
        openOutcome, hvd, openIndex]
      simp
    | some gfun =>
      rw [hpo] at q2
      obtain ⟨q3, cg, q4, _⟩ := q2
      subst q3 q4
      have hvd : vDecodable X d = true := by
        rw [vDecodable_iff]
        by_cases hcon : (imageOfData X d).AllDecodable
        · exact hcon
        · have := (preloadFold_eq_none_iff (imageOfData X d) (fun _ => none)).mpr hcon
          unfold preloadOpen at hpo
          rw [this] at hpo
          cases hpo
      simp only [openTail, forRange, Gen.openIndexFromBoltDatabase_loop1, Gen.withPreloadedData, hg, isErr_none,
        Bool.false_eq_true, if_false, isErr_nilError, ColGetter.isNil, openOutcome, hvd, openIndex]
      simp
  · rw [if_neg hok] at hv
    obtain ⟨e1, _, _, e4⟩ := hv
    rw [openIndex_headerBad X c _ (by simpa using hok)]
    exact openOutcome_failed _ e1 _ e4 rfl

/-! ### getters -/

/-- **`onDemandColGetter.GetCol` = `onDemandAnswer`** on the image of bucket `data`: `bm.FromBuffer(bucket.Get('V' ‖ be64 key))`;
    an absent key gives `FromBuffer(nil)`, i.e. `(nil, err)`. The read transaction is over afterwards. -/
theorem onDemandGetCol_eq (X : Ext) (i n : Nat) (c : Buckets) (cs : List (List PutRec)) (hp : Heap) (d : BucketData)
    (key : UInt64) (hb : bucketsGet c dataName = some d) (wk : WellKeyed d) (hnil : X.roaringFromBuffer [] = none) :
    let r := Gen.onDemandGetCol X (idle i n c cs) hp { db := some i } key
    answerOf r.2.1 r.2.2.1 r.2.2.2 = onDemandAnswer (imageOfData X d) key ∧ r.1 = idle i (n + 1) c cs :=
  onDemandGetCol_spec X i n c cs hp d key hb wk hnil

/-- **`newPreloadedColGetter` = `preloadOpen`** on the image of a bucket in bbolt's key order: it fails iff the model's loop
    fails (first undecodable value), and otherwise the map it built answers exactly like the model's function. -/
theorem newPreloadedColGetter_eq (X : Ext) (i n : Nat) (c : Buckets) (cs : List (List PutRec)) (hp : Heap) (d : BucketData)
    (hb : bucketsGet c dataName = some d) (hs : SortedData d) :
    let r := Gen.newPreloadedColGetter X (idle i n c cs) hp (some i)
    r.1 = idle i (n + 1) c cs ∧
    match preloadOpen (imageOfData X d) with
    | none => isErr r.2.2.2 = true ∧ r.2.2.1.isNil = true
    | some g => r.2.2.2 = none ∧ ∃ cg, r.2.2.1 = .preloaded cg ∧ absCG r.2.1 cg = g :=
  newPreloaded_spec X i n c cs hp d hb hs

/-- **`preloadedColGetter.GetCol` = `preloadedAnswer`**: `(cg.values[key], nil)`; an absent key is `(nil, nil)` -/
theorem preloadedGetCol_eq (hp : Heap) (cg : PreloadedColGetter) (key : UInt64) :
    answerOf hp (Gen.preloadedGetCol cg key).1 (Gen.preloadedGetCol cg key).2 = preloadedAnswer (absCG hp cg) key := rfl

/-- a missing bitmap: the on-demand getter reports an error, the preloaded getter a nil bitmap without error -/
theorem missing_bitmap (X : Ext) (i n : Nat) (c : Buckets) (cs : List (List PutRec)) (hp : Heap) (d : BucketData)
    (key : UInt64) (hb : bucketsGet c dataName = some d) (wk : WellKeyed d) (hnil : X.roaringFromBuffer [] = none)
    (habs : dataGet d (86 :: be64 key.toNat) = none) (cg : PreloadedColGetter) (hcg : absCG hp cg key = none) :
    (let r := Gen.onDemandGetCol X (idle i n c cs) hp { db := some i } key
     answerOf r.2.1 r.2.2.1 r.2.2.2 = .error ()) ∧
    answerOf hp (Gen.preloadedGetCol cg key).1 (Gen.preloadedGetCol cg key).2 = .ok none := by
  refine ⟨?_, ?_⟩
  · have := (onDemandGetCol_spec X i n c cs hp d key hb wk hnil).1
    simp only at this ⊢
    unfold idle
    rw [this, onDemandAnswer, onDemandGet, get_imageOfData X d wk key, habs]
    rfl
  · rw [preloadedGetCol_eq, preloadedAnswer, hcg]

/-! ### a concrete file: written by the generated writer, opened by the generated reader -/

/-- the committed buckets after adding two rows with the generated `AddRow` and flushing with the generated
    `WriteToBoltDatabase` (toy coders) -/
def demoFile : Buckets :=
  let H : Bytes → UInt64 := fun b => (b.length : Nat).toUInt64
  let w1 := Gen.indexWriterAddRow H {} {} [([1], [2]), ([1, 5], [3])]
  let w2 := Gen.indexWriterAddRow H w1.1 w1.2.1 [([1], [2])]
  (Gen.writeToBoltDatabase toyExt w2.2.1.values {} w2.1 w2.2.1 (some 0)).1.committed

example : demoFile = [([100, 97, 116, 97],
    [([73], [0, 0, 0, 2]), ([83], [2]), ([86, 0, 0, 0, 0, 0, 0, 0, 3], [0, 0, 0, 3]), ([86, 0, 0, 0, 0, 0, 0, 0, 4], [0, 0, 0, 1])])] := by
  decide

example : openOutcome (Gen.openIndexFromBoltDatabase toyExt (idle 0 0 demoFile []) {} (some 0) []) = (.ok (), true) := by decide
example : openOutcome (Gen.openIndexFromBoltDatabase toyExt (idle 0 0 demoFile []) {} (some 0) [Gen.withPreloadedData toyExt])
    = (.ok (), true) := by decide
example : openOutcome (Gen.openIndexFromBoltDatabase toyExt (idle 0 0 [([100, 97, 116, 97], [([83], [2])])] []) {} (some 0) [])
    = (.error, false) := by decide
-- value index 3 is stored (rows 0 and 1), value index 9 is not
example :
    let r := Gen.onDemandGetCol toyExt (idle 0 0 demoFile []) {} { db := some 0 } 3
    (answerOf r.2.1 r.2.2.1 r.2.2.2).toOption = some (some 3) := by decide
example :
    let r := Gen.onDemandGetCol toyExt (idle 0 0 demoFile []) {} { db := some 0 } 9
    (answerOf r.2.1 r.2.2.1 r.2.2.2).toOption = none := by decide
example :
    let r := Gen.newPreloadedColGetter toyExt (idle 0 0 demoFile []) {} (some 0)
    (match r.2.2.1 with
     | .preloaded cg => ((answerOf r.2.1 (Gen.preloadedGetCol cg 3).1 (Gen.preloadedGetCol cg 3).2).toOption,
                         (answerOf r.2.1 (Gen.preloadedGetCol cg 9).1 (Gen.preloadedGetCol cg 9).2).toOption)
     | _ => (none, none)) = (some (some 3), some none) := by decide

end Updog.GeneratedEq
