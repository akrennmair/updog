/-
Equivalence of the group-by code REGENERATED from query.go / index.go (`Gen.Query_populateGroupBy`, `Gen.Query_groupBy`,
`Gen.Index_GetSchema` in `Updog/GeneratedFns.lean`, written by extract/translate_t6.go on every run) with the
hand-written model (`populateGroupByQ` / `populateGroupBy`, `groupBy`, `getSchema` of Updog/Model).

The generated definitions work on Lean structures emitted from the Go struct declarations; the functions below read
them as the plain tuples of the model.
-/
import Updog.GeneratedFns
import Updog.Proofs.GoPreludeT6
import Updog.Proofs.GroupBy
import Updog.Model.QueryState
import Updog.Props.C08

namespace Updog.GeneratedEq

/-! ### reading the generated structures as model values -/

/-- `groupByValue{Value, Idx}` ↦ (value, value index) -/
def gbvOf (v : Gen.groupByValue) : Bytes × UInt64 := (v.Value, v.Idx)
/-- `groupBy{Column, Values}` ↦ `GBField` -/
def gbfOf (g : Gen.groupBy) : GBField := ⟨g.Column, g.Values.map gbvOf⟩
/-- `schema{Columns: map[string]*column{Values: map[string]uint64}}` (maps as entry lists) ↦ `Schema` -/
def schemaOf (s : Gen.schema) : Schema := s.Columns.map fun cv => (cv.1, cv.2.Values)
/-- the other direction: every model schema is the reading of a generated one -/
def schemaTo (s : Schema) : Gen.schema := ⟨s.map fun cv => (cv.1, ⟨cv.2⟩)⟩
/-- `ResultField{Column, Value}` ↦ (column, value) -/
def fieldOf (f : Gen.ResultField) : Bytes × Bytes := (f.Column, f.Value)
/-- `ResultGroup{Fields, Count}` ↦ (fields, count) -/
def groupOf (g : Gen.ResultGroup) : Fields × Nat := (g.Fields.map fieldOf, g.Count.toNat)
/-- the internal `resultGroup{fields, result}` ↦ (fields, bitmap) -/
def rgOf (rg : Gen.resultGroup) : Fields × Nat := (rg.fields.map fieldOf, rg.result)
/-- `Schema{Columns: []SchemaColumn{Name, Values: []SchemaColumnValue{Value}}}` ↦ what `getSchema` yields -/
def schemaOutOf (s : Gen.Schema) : List (Bytes × List Bytes) :=
  s.Columns.map fun c => (c.Name, c.Values.map (·.Value))

theorem schemaOf_schemaTo (s : Schema) : schemaOf (schemaTo s) = s := by
  simp [schemaOf, schemaTo, Function.comp_def]

/-! ### populateGroupBy -/

theorem mapLookup_columns (cols : List (Bytes × Gen.column)) (c : Bytes) :
    (Go.mapLookup cols c).map (·.Values) = Schema.col (cols.map fun cv => (cv.1, cv.2.Values)) c := by
  induction cols with
  | nil => rfl
  | cons cv rest ih =>
    obtain ⟨k, v⟩ := cv
    simp only [Go.mapLookup, List.map_cons, Schema.col]
    split
    · rfl
    · exact ih

/-- the value loop of `populateGroupBy`: one `groupByValue` per map entry, appended in iteration order -/
theorem collect_values (gb : Gen.groupBy) (vs : List (Bytes × UInt64)) :
    List.foldl (fun (gb : Gen.groupBy) (kv : Bytes × UInt64) =>
        { gb with Values := gb.Values ++ [({ Value := kv.1, Idx := kv.2 } : Gen.groupByValue)] }) gb vs
      = { gb with Values := gb.Values ++ vs.map fun kv => ({ Value := kv.1, Idx := kv.2 } : Gen.groupByValue) } :=
  Go.foldl_field_append Gen.groupBy.Values (fun gb l => { gb with Values := l }) _ (fun _ _ => rfl) (fun _ _ _ => rfl)
    (fun _ => rfl) vs gb

/-- the `sort.Slice` of `populateGroupBy` (by `Value`, ascending, bytewise) is the model's `sortVals` -/
theorem sorted_values (vs : List (Bytes × UInt64)) :
    (Go.sortSlice (fun (a b : Gen.groupByValue) => bytesLt a.Value b.Value)
        (vs.map fun kv => ({ Value := kv.1, Idx := kv.2 } : Gen.groupByValue))).map gbvOf = sortVals vs := by
  rw [Go.sortSlice_map]
  simp only [List.map_map]
  have : (gbvOf ∘ fun kv : Bytes × UInt64 => ({ Value := kv.1, Idx := kv.2 } : Gen.groupByValue)) = id := by
    funext kv; rfl
  rw [this, List.map_id]
  exact Go.sortSlice_bytesLt_key (fun kv : Bytes × UInt64 => kv.1) vs

/-- the bytes of the format string `"column %q not found"` -/
def notFoundFormat : Bytes := [99, 111, 108, 117, 109, 110, 32, 37, 113, 32, 110, 111, 116, 32, 102, 111, 117, 110, 100]

example : String.fromUTF8? ⟨notFoundFormat.toArray⟩ = some "column %q not found" := by decide +kernel

/-- what `populateGroupBy` returns, read as the model does: (`some fields` iff the error is nil, new hidden state) -/
def popOut (r : Option Go.Err × List Gen.groupBy) : Option (List GBField) × List GBField :=
  (match r.1 with | none => some (r.2.map gbfOf) | some _ => none, r.2.map gbfOf)

/-- what leaving the column loop means for the function -/
def flowOut (f : Go.Flow (Option Go.Err × List Gen.groupBy) (List Gen.groupBy)) : Option Go.Err × List Gen.groupBy :=
  match f with
  | .ret r => r
  | .next st => (none, st)

theorem col_schemaOf (sch : Gen.schema) (c : Bytes) :
    (schemaOf sch).col c = (Go.mapLookup sch.Columns c).map (·.Values) :=
  (mapLookup_columns sch.Columns c).symm

theorem loop1_eq (sch : Gen.schema) (cols : List Bytes) (acc : List Gen.groupBy) :
    popOut (flowOut (Gen.Query_populateGroupBy.loop1 sch cols acc))
      = populateGroupByQ (schemaOf sch) cols (acc.map gbfOf) := by
  induction cols generalizing acc with
  | nil => rfl
  | cons c cs ih =>
    rw [Gen.Query_populateGroupBy.loop1, populateGroupByQ, col_schemaOf]
    cases Go.mapLookup sch.Columns c with
    | none => rfl
    | some col =>
      simp only [ih, Option.map_some, List.map_append, List.map_cons, List.map_nil, collect_values, gbfOf,
        List.nil_append, sorted_values]

/-- **`(*Query).populateGroupBy` = model `populateGroupByQ`**, for every stale hidden state, column list and schema:
    the hidden state is reset first (the result does not depend on `hidden`), columns are resolved by their exact
    name in list order, each with all values of the column sorted ascending bytewise; at the first unknown column
    an error is returned and the columns resolved so far stay behind. -/
theorem populateGroupBy_eq (hidden : List Gen.groupBy) (cols : List Bytes) (sch : Gen.schema) :
    popOut (Gen.Query_populateGroupBy hidden cols sch) = populateGroupByQ (schemaOf sch) cols [] := by
  have h := loop1_eq sch cols []
  simp only [List.map_nil] at h
  rw [← h]
  simp only [Gen.Query_populateGroupBy, flowOut]
  cases Gen.Query_populateGroupBy.loop1 sch cols [] <;> rfl

theorem populateGroupBy_eq' (hidden : List Gen.groupBy) (cols : List Bytes) (s : Schema) :
    popOut (Gen.Query_populateGroupBy hidden cols (schemaTo s)) = populateGroupByQ s cols [] := by
  rw [populateGroupBy_eq, schemaOf_schemaTo]

/-- in terms of the pure `populateGroupBy` of Model/Index.lean: `some fields` exactly when the returned error is nil -/
theorem populateGroupBy_pure (hidden : List Gen.groupBy) (cols : List Bytes) (sch : Gen.schema) :
    (popOut (Gen.Query_populateGroupBy hidden cols sch)).1 = populateGroupBy (schemaOf sch) cols := by
  rw [populateGroupBy_eq, C08.populateQ_fst_nil]

theorem loop1_err (sch : Gen.schema) (cols : List Bytes) (acc : List Gen.groupBy) :
    (flowOut (Gen.Query_populateGroupBy.loop1 sch cols acc)).1
      = (cols.find? fun c => ((schemaOf sch).col c).isNone).map
          fun c => Go.errorf notFoundFormat [c] := by
  induction cols generalizing acc with
  | nil => rfl
  | cons c cs ih =>
    rw [Gen.Query_populateGroupBy.loop1, List.find?_cons, col_schemaOf]
    cases Go.mapLookup sch.Columns c with
    | none => rfl
    | some col => exact ih _

/-- the error of `populateGroupBy` names the first listed column the schema does not have -/
theorem populateGroupBy_err (hidden : List Gen.groupBy) (cols : List Bytes) (sch : Gen.schema) :
    (Gen.Query_populateGroupBy hidden cols sch).1
      = (cols.find? fun c => ((schemaOf sch).col c).isNone).map
          fun c => Go.errorf notFoundFormat [c] := by
  rw [← loop1_err sch cols []]
  simp only [Gen.Query_populateGroupBy, flowOut]
  cases Gen.Query_populateGroupBy.loop1 sch cols [] <;> rfl

/-! ### groupBy -/

/-- the candidate group of parent `rg` and value `v` of column `gbf`: dropped when `GetCol` fails or the
    intersection is empty; the field tuple is a copy of the parent's with the new field appended -/
def childOf (getCol : UInt64 → Option Nat) (gbf : Gen.groupBy) (rg : Gen.resultGroup) (v : Gen.groupByValue) :
    Option Gen.resultGroup :=
  match getCol v.Idx with
  | none => none
  | some vbm =>
    if popcount (rg.result &&& vbm) = 0 then none
    else some ⟨rg.fields ++ [⟨gbf.Column, v.Value⟩], rg.result &&& vbm⟩

/-- all groups of a level stay below the cardinality bound (they are intersections with the start bitmap) -/
def Bounded (B : Nat) (rgs : List Gen.resultGroup) : Prop := ∀ rg ∈ rgs, popcount rg.result ≤ B

theorem childOf_bounded {getCol gbf rg v c B} (hb : popcount rg.result ≤ B)
    (h : childOf getCol gbf rg v = some c) : popcount c.result ≤ B := by
  unfold childOf at h
  cases hg : getCol v.Idx with
  | none => simp [hg] at h
  | some vbm =>
    simp only [hg] at h
    split at h
    · simp at h
    · simp only [Option.some.injEq] at h
      subst h
      exact Nat.le_trans (Go.popcount_and_le _ _) hb

theorem refine_childOf (ix : Index) (gbf : Gen.groupBy) (rgs : List Gen.resultGroup) :
    (rgs.flatMap fun rg => gbf.Values.filterMap (childOf ix.getCol gbf rg)).map rgOf
      = refine ix (gbfOf gbf) (rgs.map rgOf) := by
  simp only [refine, List.map_flatMap, List.flatMap_map, gbfOf, List.filterMap_map, List.map_filterMap]
  apply flatMap_congr'
  intro rg _
  apply filterMap_congr'
  intro v _
  simp only [Function.comp, childOf, gbvOf, rgOf]
  cases ix.getCol v.Idx with
  | none => rfl
  | some vbm =>
    by_cases hz : popcount (rg.result &&& vbm) = 0 <;> simp [hz, fieldOf, rgOf]

theorem bounded_level {getCol : UInt64 → Option Nat} {gbf : Gen.groupBy} {B : Nat} {s : List Gen.resultGroup}
    (hb : Bounded B s) : Bounded B (s.flatMap fun rg => gbf.Values.filterMap (childOf getCol gbf rg)) := by
  intro c hc
  obtain ⟨rg, hrg, hc⟩ := List.mem_flatMap.mp hc
  obtain ⟨v, _, hv⟩ := List.mem_filterMap.mp hc
  exact childOf_bounded (hb rg hrg) hv

/-- the shape of `Query.groupBy`: a level loop `outer` that does `childOf` for every parent and value, then a loop
    `final` that turns every surviving group into (fields, cardinality) -/
theorem groupBy_shape (ix : Index) (result : Nat) (hres : popcount result < 2 ^ 64)
    (outer : List Gen.resultGroup → Gen.groupBy → List Gen.resultGroup)
    (final : List Gen.ResultGroup → Gen.resultGroup → List Gen.ResultGroup)
    (houter : ∀ s gbf, Bounded (popcount result) s →
      outer s gbf = s.flatMap fun rg => gbf.Values.filterMap (childOf ix.getCol gbf rg))
    (hfinal : ∀ acc rg, final acc rg = acc ++ [⟨rg.fields, Go.bmCard rg.result⟩])
    (fields : List Gen.groupBy) (hne : fields ≠ []) :
    (List.foldl final [] (List.foldl outer [⟨[], result⟩] fields)).map groupOf
      = Updog.groupBy ix (fields.map gbfOf) result := by
  have hsim := Go.foldl_sim
    (fun (s : List Gen.resultGroup) (s' : List (Fields × Nat)) => s' = s.map rgOf ∧ Bounded (popcount result) s)
    gbfOf outer (fun rgs gbf => refine ix gbf rgs)
    (by
      intro s s' gbf ⟨hs, hb⟩
      rw [houter s gbf hb, hs]
      exact ⟨(refine_childOf ix gbf s).symm, bounded_level hb⟩)
    fields [⟨[], result⟩] [([], result)]
    ⟨rfl, by intro rg hrg; simp at hrg; subst hrg; exact Nat.le_refl _⟩
  obtain ⟨h1, h2⟩ := hsim
  have hemp : (fields.map gbfOf).isEmpty = false := by
    cases fields with
    | nil => exact absurd rfl hne
    | cons f fs => rfl
  unfold Updog.groupBy
  simp only [hemp, Bool.false_eq_true, if_false]
  rw [h1, Go.foldl_map_of final (fun rg => ⟨rg.fields, Go.bmCard rg.result⟩) _ (fun acc rg _ => hfinal acc rg)]
  simp only [List.nil_append, List.map_map]
  apply List.map_congr_left
  intro rg hrg
  have hlt : popcount rg.result < 2 ^ 64 := Nat.lt_of_le_of_lt (h2 rg hrg) hres
  simp [groupOf, rgOf, Go.bmCard_toNat _ hlt]

/-- **`(*Query).groupBy` = model `groupBy`**, for every column getter, every resolved field list and every result
    bitmap of cardinality below 2^64 (`GetCardinality` is a `uint64`; roaring bitmaps hold at most 2^32 rows):
    level by level in list order, values in the stored (sorted) order, parent ∩ value bitmap, empty intersections
    dropped, fields = parent's fields + the new field (copied, never shared), count = cardinality of the
    intersection. -/
theorem groupBy_eq (ix : Index) (fields : List Gen.groupBy) (result : Nat) (hres : popcount result < 2 ^ 64) :
    (Gen.Query_groupBy ix.getCol fields result).map groupOf = Updog.groupBy ix (fields.map gbfOf) result := by
  cases fields with
  | nil => simp [Gen.Query_groupBy, Updog.groupBy, Go.len]
  | cons f fs =>
    have hne : ((Go.len (f :: fs)) == (0 : Int)) = false := by
      simp [Go.len]; omega
    unfold Gen.Query_groupBy
    simp only [hne, Bool.false_eq_true, if_false]
    refine groupBy_shape ix result hres _ _ ?_ ?_ (f :: fs) (by simp)
    · -- one level: for every parent, for every value of the column, `childOf`
      intro s gbf hb
      refine (Go.foldl_flatMap_of _ (fun rg => gbf.Values.filterMap (childOf ix.getCol gbf rg)) s ?_ []).trans (by simp)
      intro acc rg hrg
      refine Go.foldl_filterMap_of _ (childOf ix.getCol gbf rg) gbf.Values ?_ acc
      intro acc v _
      unfold childOf
      cases hg : ix.getCol v.Idx with
      | none => rfl
      | some vbm =>
        have hlt : popcount (rg.result &&& vbm) < 2 ^ 64 :=
          Nat.lt_of_le_of_lt (Nat.le_trans (Go.popcount_and_le _ _) (hb rg hrg)) hres
        simp only [Go.bmAnd, Go.bmCard_eq_zero _ hlt, Go.copy_makeSlice]
        by_cases hz : popcount (rg.result &&& vbm) = 0
        · simp [hz]
        · simp [hz]
    · intro acc rg
      rfl

/-- the groups of the generated `groupBy`, when the fields come from the generated `populateGroupBy`: the two
    regenerated functions composed are the model's `populateGroupBy` + `groupBy` -/
theorem populate_then_groupBy (ix : Index) (hidden : List Gen.groupBy) (cols : List Bytes) (sch : Gen.schema)
    (result : Nat) (hres : popcount result < 2 ^ 64)
    (hok : (Gen.Query_populateGroupBy hidden cols sch).1 = none) :
    populateGroupBy (schemaOf sch) cols = some ((Gen.Query_populateGroupBy hidden cols sch).2.map gbfOf) ∧
    (Gen.Query_groupBy ix.getCol (Gen.Query_populateGroupBy hidden cols sch).2 result).map groupOf
      = Updog.groupBy ix ((Gen.Query_populateGroupBy hidden cols sch).2.map gbfOf) result := by
  refine ⟨?_, groupBy_eq ix _ result hres⟩
  rw [← populateGroupBy_pure hidden cols sch]
  simp [popOut, hok]

/-! ### GetSchema -/

theorem collect_schema_values (sc : Gen.SchemaColumn) (vs : List (Bytes × UInt64)) :
    List.foldl (fun (sc : Gen.SchemaColumn) (kv : Bytes × UInt64) =>
        { sc with Values := sc.Values ++ [({ Value := kv.1 } : Gen.SchemaColumnValue)] }) sc vs
      = { sc with Values := sc.Values ++ vs.map fun kv => ({ Value := kv.1 } : Gen.SchemaColumnValue) } :=
  Go.foldl_field_append Gen.SchemaColumn.Values (fun sc l => { sc with Values := l }) _ (fun _ _ => rfl)
    (fun _ _ _ => rfl) (fun _ => rfl) vs sc

theorem sorted_schema_values (vs : List (Bytes × UInt64)) :
    (Go.sortSlice (fun (a b : Gen.SchemaColumnValue) => bytesLt a.Value b.Value)
        (vs.map fun kv => ({ Value := kv.1 } : Gen.SchemaColumnValue))).map (·.Value) = (sortVals vs).map (·.1) := by
  rw [Go.sortSlice_map]
  simp only [List.map_map]
  have : ((fun (x : Gen.SchemaColumnValue) => x.Value) ∘ fun kv : Bytes × UInt64 => ({ Value := kv.1 } : Gen.SchemaColumnValue))
      = (·.1) := by
    funext kv; rfl
  rw [this]
  congr 1
  exact Go.sortSlice_bytesLt_key (fun kv : Bytes × UInt64 => kv.1) vs

/-- one `SchemaColumn` as `GetSchema` builds it from a map entry -/
def schemaColOf (kv : Bytes × Gen.column) : Gen.SchemaColumn :=
  { Name := kv.1,
    Values := Go.sortSlice (fun (a b : Gen.SchemaColumnValue) => bytesLt a.Value b.Value)
      (kv.2.Values.map fun kv => ({ Value := kv.1 } : Gen.SchemaColumnValue)) }

/-- the shape of `GetSchema`: a loop `step` that appends `schemaColOf` of every map entry, then the sort by name -/
theorem getSchema_shape (ix : Index) (sch : Gen.schema) (hs : ix.schema = schemaOf sch)
    (step : List Gen.SchemaColumn → Bytes × Gen.column → List Gen.SchemaColumn)
    (hstep : ∀ acc kv, step acc kv = acc ++ [schemaColOf kv]) :
    schemaOutOf ⟨Go.sortSlice (fun (a b : Gen.SchemaColumn) => bytesLt a.Name b.Name) (List.foldl step [] sch.Columns)⟩
      = getSchema ix := by
  unfold getSchema
  rw [Go.foldl_map_of step schemaColOf sch.Columns (fun acc kv _ => hstep acc kv)]
  simp only [List.nil_append, hs, schemaOutOf, schemaOf, List.map_map]
  rw [← Go.sortSlice_bytesLt_key (fun a : Bytes × List Bytes => a.1), Go.sortSlice_map, Go.sortSlice_map]
  simp only [List.map_map]
  have hf : ((fun c : Gen.SchemaColumn => (c.Name, List.map (fun x => x.Value) c.Values)) ∘ schemaColOf)
      = ((fun cv : Bytes × List (Bytes × UInt64) => (cv.1, List.map (fun x => x.1) (sortVals cv.2))) ∘
          fun cv : Bytes × Gen.column => (cv.1, cv.2.Values)) := by
    funext kv
    simp only [Function.comp, schemaColOf]
    rw [sorted_schema_values]
  rw [hf]
  rfl

/-- **`(*Index).GetSchema` = model `getSchema`**: one entry per column of the schema with all its values sorted
    ascending bytewise, the columns sorted ascending bytewise by name (whatever the map iteration orders are). -/
theorem getSchema_eq (ix : Index) (sch : Gen.schema) (hs : ix.schema = schemaOf sch) :
    schemaOutOf (Gen.Index_GetSchema sch) = getSchema ix := by
  unfold Gen.Index_GetSchema
  refine getSchema_shape ix sch hs _ ?_
  intro acc kv
  simp only [collect_schema_values, List.nil_append, schemaColOf]

/-! ### concrete runs -/

/-- schema with a column `a` (values "2" ↦ 2, "1" ↦ 1, in that map order) and a column `b` (value "x" ↦ 3) -/
def exSchema : Gen.schema :=
  ⟨[([97], ⟨[([50], 2), ([49], 1)]⟩), ([98], ⟨[([120], 3)]⟩)]⟩

/-- value index ↦ bitmap: a=1 ↦ rows {0,2}, a=2 ↦ rows {1}, b=x ↦ rows {0,1} -/
def exGetCol (k : UInt64) : Option Nat := if k == 1 then some 5 else if k == 2 then some 2 else if k == 3 then some 3 else none

-- a stale hidden state is dropped; values come out sorted
example : Gen.Query_populateGroupBy [⟨[122], []⟩] [[97], [98]] exSchema
    = (none, [⟨[97], [⟨[49], 1⟩, ⟨[50], 2⟩]⟩, ⟨[98], [⟨[120], 3⟩]⟩]) := by decide +kernel

-- unknown column: the error names it, the columns resolved before it stay behind
example : Gen.Query_populateGroupBy [] [[97], [65], [98]] exSchema
    = (some (Go.errorf notFoundFormat [[65]]), [⟨[97], [⟨[49], 1⟩, ⟨[50], 2⟩]⟩]) := by decide +kernel

-- group by a, b over rows {0,1,2}: (1,x) ↦ 1 row, (2,x) ↦ 1 row; row 2 has no b and falls in no group
example : Gen.Query_groupBy exGetCol (Gen.Query_populateGroupBy [] [[97], [98]] exSchema).2 7
    = [⟨[⟨[97], [49]⟩, ⟨[98], [120]⟩], 1⟩, ⟨[⟨[97], [50]⟩, ⟨[98], [120]⟩], 1⟩] := by decide +kernel

example : Gen.Query_groupBy exGetCol (Gen.Query_populateGroupBy [] [[97]] exSchema).2 7
    = [⟨[⟨[97], [49]⟩], 2⟩, ⟨[⟨[97], [50]⟩], 1⟩] := by decide +kernel

example : Gen.Index_GetSchema ⟨exSchema.Columns.reverse⟩
    = ⟨[⟨[97], [⟨[49]⟩, ⟨[50]⟩]⟩, ⟨[98], [⟨[120]⟩]⟩]⟩ := by decide +kernel

end Updog.GeneratedEq
