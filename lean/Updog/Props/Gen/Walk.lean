/-
internal/queryparser/walk.go and the placeholder handling of driver/driver.go, regenerated (`Gen.walk`, `Gen.Walk`,
`Gen.numInput`, `Gen.replacePlaceholdersNode`, `Gen.ReplacePlaceholders`, `Gen.stmtQuery`, `Gen.queryContextValues`,
`Gen.stmtQueryValues`) = the hand-written models `walkNodes` (Model/Walk.lean), `maxPh`, `subst`, `bind`
(Model/Formatter.lean).
-/
import Updog.GeneratedFns
import Updog.Proofs.GoPreludeT5
import Updog.Props.Gen.Driver
import Updog.Model.Walk
import Updog.Props.C11Walk

set_option linter.unusedSimpArgs false
namespace Updog.GeneratedEq
open Updog.Go

/-! ### walk: the regenerated function is the structural traversal `walkSem` -/

section
variable {σ : Type}

mutual
/-- `walk` in state-passing style, by structural recursion: the callback first; if it returns false everything stops -/
def walkSem (f : σ → PExpr → Bool × σ) : PExpr → σ → Bool × σ
  | .eq c v ph, st => f st (.eq c v ph)
  | .not e, st => if (f st (.not e)).1 then walkSem f e (f st (.not e)).2 else (false, (f st (.not e)).2)
  | .and es, st => if (f st (.and es)).1 then walkSemL f es (f st (.and es)).2 else (false, (f st (.and es)).2)
  | .or es, st => if (f st (.or es)).1 then walkSemL f es (f st (.or es)).2 else (false, (f st (.or es)).2)
def walkSemL (f : σ → PExpr → Bool × σ) : List PExpr → σ → Bool × σ
  | [], st => (true, st)
  | e :: es, st => if (walkSem f e st).1 then walkSemL f es (walkSem f e st).2 else (false, (walkSem f e st).2)
end

/-- the operand loop of the generated `walk` -/
def walkListG (w : PExpr → σ → Bool × σ) : List PExpr → σ → Bool × σ
  | [], st => (true, st)
  | e :: es, st => if (w e st).1 then walkListG w es (w e st).2 else (false, (w e st).2)

theorem walk_loop (w : PExpr → σ → Bool × σ) (es : List PExpr) (st : σ) :
    (match (forRange es st (fun st ee => if (!(w ee st).1) = true then Loop.ret (false, (w ee st).2) else Loop.go (w ee st).2) :
        Loop (Bool × σ) σ) with
      | .ret r => r
      | .go st => (true, st)) = walkListG w es st := by
  induction es generalizing st with
  | nil => rfl
  | cons e es ih =>
    rw [forRange_cons]
    show _ = if (w e st).1 then _ else _
    cases (w e st).1 with
    | false => rfl
    | true => exact ih _

/-- `if !ok { return false }; return true` returns `ok` -/
theorem pair_eta_bool (r : Bool × σ) : (if (!r.1) = true then (false, r.2) else (true, r.2)) = r := by
  obtain ⟨a, b⟩ := r; cases a <;> rfl

theorem walkF_eq (n : Nat) (c v : Bytes) (ph : Nat) (f : σ → PExpr → Bool × σ) (st : σ) :
    Gen.walkF (n + 1) (.eq c v ph) f st = f st (.eq c v ph) :=
  pair_eta_bool _

theorem walkF_not (n : Nat) (e : PExpr) (f : σ → PExpr → Bool × σ) (st : σ) :
    Gen.walkF (n + 1) (.not e) f st =
      if (f st (.not e)).1 then Gen.walkF n e f (f st (.not e)).2 else (false, (f st (.not e)).2) := by
  show (if (!(f st (.not e)).1) = true then (false, (f st (.not e)).2) else _) = _
  cases (f st (.not e)).1 with
  | false => rfl
  | true => exact pair_eta_bool _

theorem walkF_and (n : Nat) (es : List PExpr) (f : σ → PExpr → Bool × σ) (st : σ) :
    Gen.walkF (n + 1) (.and es) f st =
      if (f st (.and es)).1 then walkListG (fun e st => Gen.walkF n e f st) es (f st (.and es)).2 else (false, (f st (.and es)).2) := by
  show (if (!(f st (.and es)).1) = true then (false, (f st (.and es)).2) else _) = _
  cases (f st (.and es)).1 with
  | false => rfl
  | true => exact walk_loop (fun e st => Gen.walkF n e f st) es _

theorem walkF_or (n : Nat) (es : List PExpr) (f : σ → PExpr → Bool × σ) (st : σ) :
    Gen.walkF (n + 1) (.or es) f st =
      if (f st (.or es)).1 then walkListG (fun e st => Gen.walkF n e f st) es (f st (.or es)).2 else (false, (f st (.or es)).2) := by
  show (if (!(f st (.or es)).1) = true then (false, (f st (.or es)).2) else _) = _
  cases (f st (.or es)).1 with
  | false => rfl
  | true => exact walk_loop (fun e st => Gen.walkF n e f st) es _

mutual
theorem walkF_sem (e : PExpr) (n : Nat) (h : Parsed.Expression.depth e < n) (f : σ → PExpr → Bool × σ) (st : σ) :
    Gen.walkF n e f st = walkSem f e st := by
  cases n with
  | zero => exact absurd h (Nat.not_lt_zero _)
  | succ n =>
    match e, h with
    | .eq c v ph, _ => exact walkF_eq n c v ph f st
    | .not e, h => rw [walkF_not, walkF_sem e n (Nat.lt_of_succ_lt_succ h)]; rfl
    | .and es, h => rw [walkF_and, walkF_semL es n (Nat.lt_of_succ_lt_succ h)]; rfl
    | .or es, h => rw [walkF_or, walkF_semL es n (Nat.lt_of_succ_lt_succ h)]; rfl
theorem walkF_semL (es : List PExpr) (n : Nat) (h : Parsed.Expression.depthL es < n) (f : σ → PExpr → Bool × σ) (st : σ) :
    walkListG (fun e st => Gen.walkF n e f st) es st = walkSemL f es st := by
  match es, h with
  | [], _ => rfl
  | e :: es, h =>
    show (if (Gen.walkF n e f st).1 then walkListG _ es (Gen.walkF n e f st).2 else (false, (Gen.walkF n e f st).2))
      = if (walkSem f e st).1 then _ else _
    rw [walkF_sem e n (Nat.lt_of_le_of_lt (Nat.le_max_left _ _) h)]
    cases (walkSem f e st).1 with
    | false => rfl
    | true => exact walkF_semL es n (Nat.lt_of_le_of_lt (Nat.le_max_right _ _) h) f _
end

theorem walk_sem (e : PExpr) (f : σ → PExpr → Bool × σ) (st : σ) : Gen.walk e f st = walkSem f e st :=
  walkF_sem e _ (Nat.lt_succ_self _) f st

theorem Walk_sem (q : PQuery) (f : σ → PExpr → Bool × σ) (st : σ) : Gen.Walk q f st = walkSem f q.expr st :=
  walk_sem q.expr f st

end

/-! ### walk = the model's `walkNodes` -/

mutual
/-- For a callback whose verdict `p` does not depend on its state, the traversal stops where the model's `walkNodes p`
    stops, and the final state is the fold of the callback's state update over the nodes `walkNodes p` visits. -/
theorem walkSem_fold {σ : Type} (f : σ → PExpr → Bool × σ) (p : PExpr → Bool) (hf : ∀ s x, (f s x).1 = p x)
    (e : PExpr) (st : σ) :
    walkSem f e st = ((walkNodes p e).1, (walkNodes p e).2.foldl (fun s x => (f s x).2) st) := by
  match e with
  | .eq c v ph => rw [walkNodes]; exact Prod.ext (hf _ _) rfl
  | .not e =>
    show (if (f st (.not e)).1 then _ else _) = _
    rw [walkNodes, hf]
    cases p (.not e) with
    | false => rfl
    | true => exact walkSem_fold f p hf e _
  | .and es =>
    show (if (f st (.and es)).1 then _ else _) = _
    rw [walkNodes, hf]
    cases p (.and es) with
    | false => rfl
    | true => exact walkSemL_fold f p hf es _
  | .or es =>
    show (if (f st (.or es)).1 then _ else _) = _
    rw [walkNodes, hf]
    cases p (.or es) with
    | false => rfl
    | true => exact walkSemL_fold f p hf es _
theorem walkSemL_fold {σ : Type} (f : σ → PExpr → Bool × σ) (p : PExpr → Bool) (hf : ∀ s x, (f s x).1 = p x)
    (es : List PExpr) (st : σ) :
    walkSemL f es st = ((walkList p es).1, (walkList p es).2.foldl (fun s x => (f s x).2) st) := by
  match es with
  | [] => rfl
  | e :: es =>
    show (if (walkSem f e st).1 then _ else _) = _
    rw [walkList, walkSem_fold f p hf e]
    cases (walkNodes p e).1 with
    | false => rfl
    | true => exact (walkSemL_fold f p hf es _).trans (by simp only [ite_true, List.foldl_append])
end

theorem foldl_record (st l : List PExpr) : l.foldl (fun s x => s ++ [x]) st = st ++ l :=
  (foldl_map_of _ id l (fun _ _ _ => rfl) st).trans (congrArg (st ++ ·) (List.map_id l))

theorem walkSem_model (p : PExpr → Bool) (e : PExpr) (st : List PExpr) :
    walkSem (fun s x => (p x, s ++ [x])) e st = ((walkNodes p e).1, st ++ (walkNodes p e).2) :=
  (walkSem_fold _ p (fun _ _ => rfl) e st).trans (congrArg (Prod.mk _) (foldl_record st _))

theorem walkSemL_model (p : PExpr → Bool) (es : List PExpr) (st : List PExpr) :
    walkSemL (fun s x => (p x, s ++ [x])) es st = ((walkList p es).1, st ++ (walkList p es).2) :=
  (walkSemL_fold _ p (fun _ _ => rfl) es st).trans (congrArg (Prod.mk _) (foldl_record st _))

/-- regenerated `walk`, run with a callback that records the visited nodes and answers `p`, = the model's
    `walkNodes p`: same continue/stop result, same nodes in the same order -/
theorem walk_eq_walkNodes (p : PExpr → Bool) (e : PExpr) :
    Gen.walk e (fun s x => (p x, s ++ [x])) [] = walkNodes p e := by
  rw [walk_sem, walkSem_model, List.nil_append]

/-! ### numInput -/

/-- the step of `numInput`'s callback on its captured variable -/
def numStep (m : Int) : PExpr → Int
  | .eq _ _ ph => if (ph : Int) > m then ph else m
  | _ => m

theorem numStep_fold (ns : List PExpr) (m : Nat) :
    ns.foldl numStep (m : Int) = ((ns.filterMap phOf).foldl max m : Nat) := by
  induction ns generalizing m with
  | nil => rfl
  | cons x xs ih =>
    rw [List.foldl_cons, List.filterMap_cons]
    cases x with
    | eq c v ph =>
      have : numStep (m : Int) (.eq c v ph) = ((max m ph : Nat) : Int) := by
        show (if (ph : Int) > m then (ph : Int) else m) = _
        split <;> omega
      rw [this]
      exact ih _
    | not e => exact ih m
    | and es => exact ih m
    | or es => exact ih m

/-- regenerated `numInput` (a `Walk` whose callback keeps the maximum of `v.Eq.Placeholder`) = the model's
    `numInputW` = the highest placeholder number `maxPh` -/
theorem numInput_eq (q : PQuery) : Gen.numInput q = (maxPh q.expr : Nat) := by
  simp only [Gen.numInput, Walk_sem]
  rw [walkSem_fold _ (fun _ => true) (fun _ _ => rfl), ← C11.numInput_walk_eq_maxPh]
  refine Eq.trans (congrArg (fun step => List.foldl step (0 : Int) _) (?_ : _ = numStep)) (numStep_fold _ 0)
  funext m e
  cases e <;> simp only [numStep, Parsed.Expression.Value, decide_eq_true_eq]

/-! ### ReplacePlaceholders -/

/-- the callback of `ReplacePlaceholders` on a node: placeholder `$n` (n ≥ 1) ↦ argument number n, i.e. `values[n-1]`,
    and the placeholder number is cleared; everything else is unchanged -/
theorem replaceNode_eq (values : List Bytes) (e : PExpr) :
    Gen.replacePlaceholdersNode values e =
      (true, match e with
        | .eq c v ph => if ph > 0 then .eq c (values.getD (ph - 1) []) 0 else .eq c v ph
        | e => e) := by
  cases e with
  | eq c v ph =>
    simp only [Gen.replacePlaceholdersNode, Parsed.Expression.Value, Parsed.Expression.setValue, Int.natCast_pos,
      gt_iff_lt, decide_eq_true_eq]
    split
    · next h =>
      have h2 : ¬ ((ph : Int) - 1 < 0) := by omega
      have h3 : ((ph : Int) - 1).toNat = ph - 1 := by omega
      simp only [indexL, h2, ite_false, h3, Int.toNat_zero]
      rfl
    · rw [Int.toNat_natCast]
  | not e => rfl
  | and es => rfl
  | or es => rfl

/-- what `Go.Parsed.mapNodes` assumes about the callback: it never stops the walk … -/
theorem replaceNode_true (values : List Bytes) (e : PExpr) : (Gen.replacePlaceholdersNode values e).1 = true := by
  rw [replaceNode_eq]
/-- … and it modifies comparison nodes only -/
theorem replaceNode_inner (values : List Bytes) (e : PExpr) (h : ∀ c v ph, e ≠ .eq c v ph) :
    (Gen.replacePlaceholdersNode values e).2 = e := by
  rw [replaceNode_eq]
  cases e with
  | eq c v ph => exact absurd rfl (h c v ph)
  | _ => rfl

mutual
theorem mapNodes_subst (values : List Bytes) (e : PExpr) :
    Parsed.mapNodes (fun e => (Gen.replacePlaceholdersNode values e).2) e = subst values e := by
  match e with
  | .eq c v ph =>
    show (Gen.replacePlaceholdersNode values (.eq c v ph)).2 = _
    rw [replaceNode_eq, subst]
    cases ph <;> rfl
  | .not e => exact congrArg PExpr.not (mapNodes_subst values e)
  | .and es => exact congrArg PExpr.and (mapNodesL_subst values es)
  | .or es => exact congrArg PExpr.or (mapNodesL_subst values es)
theorem mapNodesL_subst (values : List Bytes) (es : List PExpr) :
    Parsed.mapNodesL (fun e => (Gen.replacePlaceholdersNode values e).2) es = substList values es := by
  match es with
  | [] => rfl
  | e :: es =>
    show Parsed.mapNodes _ e :: Parsed.mapNodesL _ es = subst values e :: substList values es
    rw [mapNodes_subst values e, mapNodesL_subst values es]
end

/-- regenerated `ReplacePlaceholders` = the model's `subst` on the expression, group-by list untouched -/
theorem ReplacePlaceholders_eq (q : PQuery) (values : List Bytes) :
    Gen.ReplacePlaceholders q values = ⟨subst values q.expr, q.groupBy⟩ := by
  rw [Gen.ReplacePlaceholders, mapNodes_subst]

/-! ### fileStmt.query = the model's `bind`, then conversion, execution, rows -/

def errTooFew : Err5 :=
  .errorf [101, 120, 112, 101, 99, 116, 101, 100, 32, 37, 100, 32, 97, 114, 103, 117, 109, 101, 110, 116, 115, 44,
    32, 103, 111, 116, 32, 37, 100]  -- "expected %d arguments, got %d"

/-- the argument-count guard of `query` (file and gRPC statement alike) is the model's `bind` failing -/
theorem tooFew (q : PQuery) (values : List Bytes) :
    decide (Go.len values < Gen.numInput q) = decide (maxPh q.expr > values.length) := by
  rw [numInput_eq]
  exact decide_eq_decide.mpr Int.ofNat_lt

/-- regenerated `(*fileStmt).query`: exactly when the model's `bind` fails (fewer values than the highest placeholder
    number) the error "expected %d arguments, got %d" is returned and nothing is executed; otherwise the bound query
    of the model is converted with `ToQuery`, executed, and the result (or the error of `Execute`) is returned as rows
    over the bound query's group-by list -/
theorem stmtQuery_eq (execute : Lib.Query → Except Err5 Lib.Result) (stmt : Drv.fileStmt) (values : List Bytes) :
    Gen.stmtQuery execute stmt values =
      match bind stmt.q values with
      | .ok q' =>
        (match execute (Gen.ToQuery (Parsed.Query.toWire q')) with
          | .error err => .error err
          | .ok r => .ok (Gen.newRows r q'.groupBy))
      | _ => .error errTooFew := by
  simp only [Gen.stmtQuery, tooFew, ReplacePlaceholders_eq, bind, Parsed.Query.GroupBy]
  by_cases h : maxPh stmt.q.expr > values.length
  · simp only [h, decide_true, ite_true]; rfl
  · simp only [h, decide_false, Bool.false_eq_true, ite_false]
    cases execute (Gen.ToQuery (Parsed.Query.toWire ⟨subst values stmt.q.expr, stmt.q.groupBy⟩)) <;> rfl

/-! ### the value list handed to `query` -/

theorem stmtQueryValues_eq (sprint : Drv.Value → Bytes) (args : List Drv.Value) :
    Gen.stmtQueryValues sprint args = args.map sprint := by
  simp [Gen.stmtQueryValues, foldl_append_map, flatten_map_single]

/-- the named arguments database/sql passes: ordinals 1, 2, … in order -/
def namedArgs (vals : List Drv.Value) : List Drv.NamedValue := (enumFrom 0 vals).map fun p => ⟨p.1 + 1, p.2⟩

/-- the first loop of `QueryContext`: the highest ordinal, i.e. the number of arguments -/
theorem size_loop (vals : List Drv.Value) (n : Nat) :
    List.foldl (fun (size : Int) (a : Drv.NamedValue) => if decide (a.Ordinal > size) = true then a.Ordinal else size) (n : Int)
      ((enumFrom (n : Int) vals).map fun p => ⟨p.1 + 1, p.2⟩) = ((n + vals.length : Nat) : Int) := by
  induction vals generalizing n with
  | nil => rfl
  | cons v vs ih =>
    have := ih (n + 1)
    rw [Int.natCast_add n 1, Nat.add_right_comm] at this
    rw [enumFrom, List.map_cons, List.foldl_cons, if_pos (decide_eq_true (Int.lt_succ n))]
    exact this

/-- `QueryContext`: argument number n (ordinal n) lands in slot n-1 — the value list is the arguments in order -/
theorem queryContextValues_eq (sprint : Drv.Value → Bytes) (vals : List Drv.Value) :
    Gen.queryContextValues sprint (namedArgs vals) = vals.map sprint := by
  have hs := size_loop vals 0
  have hf : (fun (values : List Bytes) (p : Int × Drv.Value) => setIndexL values (p.1 + 1 - 1) (sprint p.2))
      = fun (values : List Bytes) (p : Int × Drv.Value) => setIndexL values p.1 (sprint p.2) := by
    funext values p; rw [Int.add_sub_cancel]
  have hlen : (makeL (vals.length : Int) : List Bytes).length = vals.length := by
    rw [makeL, List.length_replicate, Int.toNat_natCast]
  have := copy_loop sprint vals 0 (makeL (vals.length : Int)) (by rw [hlen, Nat.zero_add]; exact Nat.le_refl _)
  simp only [Int.natCast_zero, Nat.zero_add] at hs this
  simp only [Gen.queryContextValues, namedArgs]
  rw [hs, List.foldl_map, hf, this, List.take_zero, List.nil_append, List.drop_of_length_le (Nat.le_of_eq hlen),
    List.append_nil]

/-! ### examples -/

example : Gen.numInput ⟨.and [.eq [97] [] 2, .not (.eq [98] [] 5), .eq [99] [120] 0], []⟩ = 5 := by decide +kernel
example : Gen.ReplacePlaceholders ⟨.and [.eq [97] [] 2, .not (.eq [98] [] 1), .eq [99] [120] 0], [[100]]⟩ [[49], [50]] =
    ⟨.and [.eq [97] [50] 0, .not (.eq [98] [49] 0), .eq [99] [120] 0], [[100]]⟩ := by rfl
example : Gen.walk (.and [.eq [97] [] 1, .not (.eq [98] [] 2)]) (fun s x => (!(match x with | .not _ => true | _ => false), s ++ [x])) []
    = (false, [.and [.eq [97] [] 1, .not (.eq [98] [] 2)], .eq [97] [] 1, .not (.eq [98] [] 2)]) := by rfl
example : Gen.queryContextValues (fun v => match v with | .ofString s => s | _ => [63]) [⟨1, .ofString [120]⟩, ⟨2, .ofInt64 5⟩]
    = [[120], [63]] := by decide +kernel

end Updog.GeneratedEq
