/-
cmd/updog/server.go `(*server).Query`, regenerated (`Gen.serverQuery`) = the hand-written batch loop `serverQuery`
of `Updog/Model/Server.lean`.
-/
import Updog.GeneratedFns
import Updog.Proofs.GoPreludeT5
import Updog.Props.Gen.Convert
import Updog.Props.Gen.Driver
import Updog.Model.Server

set_option linter.unusedSimpArgs false
namespace Updog.GeneratedEq
open Updog.Go

/-- what the response looks like in the model: (id, result) pairs ↦ protobuf results -/
def respOf (l : List (Int × Result)) : List PResult := l.map fun p => toProtobufResult p.2 p.1

def loopBody (exec : Lib.Query → Except Err5 Lib.Result) (resp : Pb.QueryResponse) (p : Int × WQuery) :
    Loop (Except Err5 Pb.QueryResponse) Pb.QueryResponse :=
  match exec (Gen.ToQuery p.2) with
  | .error err => .ret (.error err)
  | .ok result =>
    .go { resp with Results := resp.Results ++
      [Gen.ToProtobufResult result (if (Wire.Query.Id p.2 == 0) = true then toInt32 (p.1 + 1) else Wire.Query.Id p.2)] }

theorem serverQuery_unfold (exec : Lib.Query → Except Err5 Lib.Result) (req : Wire.QueryRequest) :
    Gen.serverQuery exec req =
      match forRange (enum req.Queries) ({ Results := [] } : Pb.QueryResponse) (loopBody exec) with
      | .ret r => r
      | .go resp => .ok resp := by
  simp only [Gen.serverQuery, loopBody]
  rfl

/-- the id `server.Query` reports for the query at 0-based position `i` of a batch of fewer than 2^31 queries -/
theorem reportedId (q : WQuery) (i : Nat) (hi : i < 2147483647) :
    (if (Wire.Query.Id q == 0) = true then toInt32 ((i : Int) + 1) else Wire.Query.Id q)
      = if q.id = 0 then ((i + 1 : Nat) : Int) else q.id := by
  have : toInt32 ((i : Int) + 1) = ((i + 1 : Nat) : Int) := by unfold toInt32; omega
  rw [this]
  exact ite_congr (by rw [beq_iff_eq]; rfl) (fun _ => rfl) (fun _ => rfl)

/-- the loop after `i` iterations, on the remaining queries `qs`: the handler's answer is the model's answer to `qs`
    (numbered from `i + 1`) appended to the results collected so far -/
theorem loop_invariant (H : Bytes → UInt64) (ix : Index) (exec : Lib.Query → Except Err5 Lib.Result) (qs : List WQuery)
    (hex : ∀ q ∈ qs, (toOutcome (exec (Gen.ToQuery q))).map resultOfGo = serverExecute H ix q)
    (i : Nat) (hlen : i + qs.length < 2147483648) (resp : Pb.QueryResponse) :
    (toOutcome (match forRange (enumFrom (i : Int) qs) resp (loopBody exec) with
        | .ret r => r
        | .go resp => .ok resp)).map (fun resp => resp.Results.map presultOfGo)
      = (serverQuery H ix qs (i + 1)).map (fun l => resp.Results.map presultOfGo ++ respOf l) := by
  induction qs generalizing i resp with
  | nil => exact congrArg Outcome.ok (List.append_nil _).symm
  | cons q rest ih =>
    rw [enumFrom, forRange_cons, serverQuery, ← hex q List.mem_cons_self, loopBody]
    cases exec (Gen.ToQuery q) with
    | error err => rfl
    | ok g =>
      have := ih (fun q' h => hex q' (List.mem_cons_of_mem _ h)) (i + 1) (by rw [List.length_cons] at hlen; omega)
        { resp with Results := resp.Results ++
          [Gen.ToProtobufResult g (if (Wire.Query.Id q == 0) = true then toInt32 ((i : Int) + 1) else Wire.Query.Id q)] }
      rw [Int.natCast_add, Int.natCast_one] at this
      refine this.trans ?_
      cases serverQuery H ix rest (i + 1 + 1) with
      | ok rs =>
        simp only [toOutcome, Outcome.map, List.map_append, List.map_cons, List.map_nil, respOf, ToProtobufResult_eq,
          List.append_assoc, List.cons_append, List.nil_append,
          reportedId q i (by rw [List.length_cons] at hlen; omega)]
      | _ => rfl

/-- regenerated `server.Query` = the model's `serverQuery`: for every executor `exec` that agrees with the model's
    per-query `serverExecute` (conversion + completeness check + library execution) on the members of the batch, and
    every batch of fewer than 2^31 queries: one result per query in request order, converted with
    `ToProtobufResult`, ids defaulting to the 1-based position; the first failing member fails the whole call -/
theorem serverQuery_eq (H : Bytes → UInt64) (ix : Index) (exec : Lib.Query → Except Err5 Lib.Result) (qs : List WQuery)
    (hlen : qs.length < 2147483648)
    (hex : ∀ q ∈ qs, (toOutcome (exec (Gen.ToQuery q))).map resultOfGo = serverExecute H ix q) :
    (toOutcome (Gen.serverQuery exec ⟨qs⟩)).map (fun resp => resp.Results.map presultOfGo)
      = (serverQuery H ix qs).map respOf := by
  rw [serverQuery_unfold]
  exact loop_invariant H ix exec qs hex 0 (by omega) { Results := [] }

/-- an executor built from the model's `execute` agrees with `serverExecute` whenever the library's results fit
    64-bit counters (so `serverQuery_eq` is not vacuous) -/
def modelExec (H : Bytes → UInt64) (ix : Index) (q : Lib.Query) : Except Err5 Lib.Result :=
  match libComplete q.Expr with
  | none => .error (.ext 1)
  | some e =>
    match execute H ix ⟨e, q.GroupBy⟩ with
    | none => .error (.ext 2)
    | some r => .ok (resultToGo r)

theorem modelExec_agrees (H : Bytes → UInt64) (ix : Index) (q : WQuery)
    (hfit : ∀ e r, execute H ix ⟨e, q.groupBy⟩ = some r → Result.fits r) :
    (toOutcome (modelExec H ix (Gen.ToQuery q))).map resultOfGo = serverExecute H ix q := by
  have h := ToQuery_complete q
  simp only [modelExec, h.1, h.2, serverExecute]
  cases hq : q.expr with
  | none => simp [toOutcome, Outcome.map]
  | some w =>
    simp only
    cases hw : w.complete with
    | none => simp [toOutcome, Outcome.map]
    | some e =>
      simp only
      cases hx : execute H ix ⟨e, q.groupBy⟩ with
      | none => simp [toOutcome, Outcome.map]
      | some r => simp [toOutcome, Outcome.map, resultOfGo_toGo r (hfit e r hx)]

/-! ### examples -/

example : (Gen.serverQuery (fun q => .ok ⟨q.GroupBy.length.toUInt64, []⟩)
    ⟨[⟨7, some (.eq [97] [49]), []⟩, ⟨0, some (.eq [97] [49]), [[98]]⟩]⟩) =
    .ok ⟨[⟨7, 0, []⟩, ⟨2, 1, []⟩]⟩ := by rfl
example : (toOutcome (Gen.serverQuery (fun q => if q.GroupBy.isEmpty then .ok ⟨0, []⟩ else .error (.ext 9))
    ⟨[⟨7, none, []⟩, ⟨0, none, [[98]]⟩, ⟨0, none, []⟩]⟩)).isOk = false := by rfl

end Updog.GeneratedEq
