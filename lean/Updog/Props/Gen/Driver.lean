/-
driver/driver.go: `newRows`, `rows.Next`, `ColumnTypeDatabaseTypeName` and the option handling of `openFile`,
regenerated (`Gen.newRows`, `Gen.rowsNext`, `Gen.columnTypeDatabaseTypeName`, `Gen.openFileOpts`) = the hand-written
models `newRows` (Model/Rows.lean) and `dsnConfig` (Model/Dsn.lean). The placeholder handling is in `Walk.lean`, the
connection cache in `DriverConn.lean`.
-/
import Updog.GeneratedFns
import Updog.Proofs.GoPreludeT5
import Updog.Props.Gen.Convert
import Updog.Model.Rows
import Updog.Model.Dsn
import Updog.Props.C12Dsn

set_option linter.unusedSimpArgs false
namespace Updog.GeneratedEq
open Updog.Go

/-! ### newRows -/

/-- the cells the model's `Rows` has for a driver row: the field values as text, then the count -/
def rowCells (r : Drv.row) : List Cell := r.fields.map Cell.text ++ [Cell.int r.count.toNat]

/-- `newRows`, as a map: columns = group-by list ++ ["count"]; with a group-by list one row per group (the field
    VALUES in group order, count last), otherwise one row with the total; not closed, cursor at 0 -/
theorem newRows_spec (g : Lib.Result) (gb : List Bytes) :
    Gen.newRows g gb =
      { cols := gb ++ [countCol],
        rows := if gb.length > 0 then g.Groups.map fun rr => { fields := rr.Fields.map (·.Value), count := rr.Count }
                else [{ fields := [], count := g.Count }],
        closed := false, idx := 0 } := by
  cases gb with
  | nil => simp [Gen.newRows, Go.len, countCol]
  | cons x xs =>
    have h1 : ((xs.length : Int) + 1 > 0) = True := eq_true (by omega)
    have h2 : ((xs.length : Int) + 1 = 0) = False := eq_false (by omega)
    simp [Gen.newRows, Go.len, h1, h2, foldl_DrvRows_rows, foldl_append_map, flatten_map_single, countCol]

/-- regenerated `newRows` = the model's `newRows` (columns and rows), for every library result and group-by list -/
theorem newRows_eq (g : Lib.Result) (gb : List Bytes) :
    (Gen.newRows g gb).cols = (Updog.newRows (resultOfGo g) gb).cols ∧
    (Gen.newRows g gb).rows.map rowCells = (Updog.newRows (resultOfGo g) gb).rows ∧
    (Gen.newRows g gb).closed = false ∧ (Gen.newRows g gb).idx = 0 := by
  rw [newRows_spec]
  refine ⟨rfl, ?_, rfl, rfl⟩
  by_cases h : gb.length > 0
  · simp [h, Updog.newRows, resultOfGo, rowCells, List.map_map, Function.comp_def]
  · simp [h, Updog.newRows, resultOfGo, rowCells]

/-! ### rows.Next -/

theorem setIndexL_nat {α : Type} (vs : List α) (n : Nat) (a : α) : setIndexL vs (n : Int) a = vs.set n a := by
  have : ¬ ((n : Int) < 0) := by omega
  simp [setIndexL, this]

/-- the copy loop of `Next`: slot `n + j` receives the `j`-th field -/
theorem copy_loop {α β : Type} (g : β → α) (fs : List β) (n : Nat) (vs : List α) (h : n + fs.length ≤ vs.length) :
    List.foldl (fun (vs : List α) (p : Int × β) => setIndexL vs p.1 (g p.2)) vs (enumFrom (n : Int) fs)
      = vs.take n ++ fs.map g ++ vs.drop (n + fs.length) := by
  induction fs generalizing n vs with
  | nil => simp [enumFrom]
  | cons f fs ih =>
    simp only [enumFrom, List.foldl_cons, setIndexL_nat]
    have hn : n < vs.length := by simp at h; omega
    have := ih (n + 1) (vs.set n (g f)) (by simp at h ⊢; omega)
    rw [show ((n : Int) + 1) = ((n + 1 : Nat) : Int) by simp, this]
    simp only [List.length_cons, List.map_cons]
    rw [List.take_set, List.drop_set]
    have h2 : n + 1 + fs.length = n + (fs.length + 1) := by omega
    simp only [h2]
    have h3 : (List.take (n + 1) vs).set n (g f) = List.take n vs ++ [g f] := by
      rw [List.take_succ_eq_append_getElem hn, List.set_append_right _ _ (by simp [Nat.min_eq_left (Nat.le_of_lt hn)])]
      simp [Nat.min_eq_left (Nat.le_of_lt hn)]
    simp [h3]

/-- at the end of the rows `Next` returns `io.EOF` and changes nothing -/
theorem rowsNext_eof (r : Drv.rows) (values : List Drv.Value) (h : r.idx ≥ r.rows.length) :
    Gen.rowsNext r values = (some .EOF, r, values) := by
  simp [Gen.rowsNext, Go.len, h]

/-- otherwise it fills the destination (one slot per column) with the field values in order — slot `j` gets field
    `j` — then the count as a 64-bit integer in the last slot, and advances the cursor by one -/
theorem rowsNext_row (r : Drv.rows) (values : List Drv.Value) (i : Nat) (row : Drv.row)
    (hi : r.idx = i) (hrow : r.rows[i]? = some row) (hlen : values.length = row.fields.length + 1) :
    Gen.rowsNext r values =
      (none, { r with idx := i + 1 }, row.fields.map Drv.Value.ofString ++ [Drv.Value.ofInt64 (u64ToInt64 row.count)]) := by
  have hlt : i < r.rows.length := by
    rcases Nat.lt_or_ge i r.rows.length with h | h
    · exact h
    · simp [List.getElem?_eq_none h] at hrow
  have hidx : indexL r.rows r.idx = row := by
    have : ¬ ((i : Int) < 0) := by omega
    simp [indexL, hi, List.getD, hrow, this]
  have hge : ¬ (r.idx ≥ (r.rows.length : Int)) := by omega
  simp only [Gen.rowsNext, Go.len, hge, decide_false, Bool.false_eq_true, ite_false, hidx]
  have hloop := copy_loop Drv.Value.ofString row.fields 0 values (by omega)
  simp only [Int.natCast_zero, List.take_zero, List.nil_append, Nat.zero_add] at hloop
  simp only [enum]
  rw [hloop, setIndexL_nat]
  have hd : (List.drop row.fields.length values).length = 1 := by simp [hlen]
  match hdv : List.drop row.fields.length values, hd with
  | [x], _ =>
    have : (List.map Drv.Value.ofString row.fields ++ [x]).set row.fields.length (Drv.Value.ofInt64 (u64ToInt64 row.count))
        = List.map Drv.Value.ofString row.fields ++ [Drv.Value.ofInt64 (u64ToInt64 row.count)] := by
      rw [List.set_append_right _ _ (by simp)]; simp
    simp [this, hi]

/-- how a handed-out `driver.Value` reads as a model cell -/
def valueCell : Drv.Value → Cell
  | .ofString s => .text s
  | .ofInt64 i => .int i.toNat
  | .nil => .text []

/-- for counts below 2^63 the values `Next` hands out are the cells of the model row -/
theorem rowsNext_cells (row : Drv.row) (h : row.count.toNat < 2 ^ 63) :
    (row.fields.map Drv.Value.ofString ++ [Drv.Value.ofInt64 (u64ToInt64 row.count)]).map valueCell = rowCells row := by
  have : u64ToInt64 row.count = (row.count.toNat : Int) := by
    unfold u64ToInt64; split <;> omega
  simp [rowCells, valueCell, this, List.map_map, Function.comp_def]

/-! ### column types -/

theorem columnTypeDatabaseTypeName_eq (r : Drv.rows) (gb : List Bytes) (c : Bytes) (hc : r.cols = gb ++ [c]) (i : Nat) :
    Gen.columnTypeDatabaseTypeName r i = if i < gb.length then [84, 69, 88, 84] else [66, 73, 71, 73, 78, 84] := by
  rw [Gen.columnTypeDatabaseTypeName, Go.len, hc, List.length_append, List.length_singleton]
  exact ite_congr (by rw [decide_eq_true_eq]; exact propext (by omega)) (fun _ => rfl) (fun _ => rfl)

/-- the type names of the columns are the model's `types` (TEXT for every group-by column, BIGINT for the last one) -/
theorem columnTypes_eq (g : Lib.Result) (res : Result) (gb : List Bytes) :
    (List.range (gb.length + 1)).map (fun i => Gen.columnTypeDatabaseTypeName (Gen.newRows g gb) (i : Nat))
      = (Updog.newRows res gb).types.map (fun s => if s = "TEXT" then [84, 69, 88, 84] else [66, 73, 71, 73, 78, 84]) := by
  have hc : (Gen.newRows g gb).cols = gb ++ [countCol] := by rw [newRows_spec]
  simp only [columnTypeDatabaseTypeName_eq _ gb countCol hc, Updog.newRows, List.map_append, List.map_map]
  rw [List.range_succ, List.map_append]
  congr 1
  · apply List.ext_getElem
    · simp
    · intro j h1 h2; simp at h1; simp [h1]
  · simp

/-! ### the DSN options of openFile -/

def toOutcome {α : Type} : Except Err5 α → Outcome α
  | .ok a => .ok a
  | .error _ => .error

/-- `optValues.Get(name)` for the three option names, as the model's `DsnOpts` -/
def dsnOptsOf (v : Url.Values) : DsnOpts :=
  let look (k : Bytes) := (v.find? (fun kv => kv.1 == k)).map (·.2)
  ⟨look [112, 114, 101, 108, 111, 97, 100], look [108, 114, 117, 99, 97, 99, 104, 101],
   look [108, 114, 117, 99, 97, 99, 104, 101, 115, 105, 122, 101]⟩

theorem get_eq_true (v : Url.Values) (k : Bytes) :
    ((v.find? (fun kv => kv.1 == k)).map (·.2) == some bTrue) = (Url.Values.Get v k == [116, 114, 117, 101]) := by
  unfold Url.Values.Get
  cases v.find? (fun kv => kv.1 == k) <;> rfl

theorem get_getD (v : Url.Values) (k : Bytes) :
    ((v.find? (fun kv => kv.1 == k)).map (·.2)).getD [] = Url.Values.Get v k := by
  unfold Url.Values.Get
  cases v.find? (fun kv => kv.1 == k) <;> rfl

/-- the index options a configuration stands for, in the order `openFile` appends them -/
def optionsOf (c : FileConfig) : List Lib.IndexOption :=
  (if c.preload then [Lib.IndexOption.WithPreloadedData] else []) ++
  (match c.cacheSize with | some n => [Lib.IndexOption.WithCache ⟨n.toUInt64⟩] | none => [])

/-- regenerated option handling of `openFile` = the model's `dsnConfig`: the cache key is (file, option text), the
    option names are `preload` / `lrucache` / `lrucachesize`, the size is read (and must parse) exactly when
    `lrucache=true`, an invalid size is the error "invalid lrucachesize" -/
theorem openFileOpts_eq (file : Bytes) (v : Url.Values) :
    Gen.openFileOpts file v =
      match dsnConfig (dsnOptsOf v) with
      | .ok c => .ok { key := { file := file, opts := c.keyOpts }, opts := optionsOf c }
      | _ => .error (.errorf [105, 110, 118, 97, 108, 105, 100, 32, 108, 114, 117, 99, 97, 99, 104, 101, 115, 105, 122, 101, 58, 32, 37, 118]) := by
  dsimp only [dsnConfig, dsnOptsOf, Gen.openFileOpts]
  rw [get_eq_true, get_eq_true, get_getD]
  generalize (Url.Values.Get v [112, 114, 101, 108, 111, 97, 100] == [116, 114, 117, 101]) = pre
  generalize (Url.Values.Get v [108, 114, 117, 99, 97, 99, 104, 101] == [116, 114, 117, 101]) = lru
  generalize Url.Values.Get v [108, 114, 117, 99, 97, 99, 104, 101, 115, 105, 122, 101] = size
  -- in each case both sides are concrete up to `size`, and the key texts are the same bytes in the same order
  cases pre <;> cases lru
  · rfl
  · unfold Go.parseUint64; cases Updog.parseUint64 size <;> rfl
  · rfl
  · unfold Go.parseUint64; cases Updog.parseUint64 size <;> rfl

theorem openFileOpts_outcome (file : Bytes) (v : Url.Values) :
    (toOutcome (Gen.openFileOpts file v)).map (fun o => (o.key.file, o.key.opts, o.opts)) =
      (dsnConfig (dsnOptsOf v)).map (fun c => (file, c.keyOpts, optionsOf c)) := by
  rw [openFileOpts_eq]
  have := C12.dsn_never_panics (dsnOptsOf v)
  cases h : dsnConfig (dsnOptsOf v) <;> simp_all [toOutcome, Outcome.map]

/-! ### examples -/

example : Gen.newRows ⟨5, [⟨[⟨[97], [49]⟩, ⟨[98], [50]⟩], 3⟩, ⟨[⟨[97], [51]⟩, ⟨[98], [52]⟩], 2⟩]⟩ [[97], [98]] =
    ⟨[[97], [98], [99, 111, 117, 110, 116]], [⟨[[49], [50]], 3⟩, ⟨[[51], [52]], 2⟩], false, 0⟩ := by decide +kernel
example : Gen.newRows ⟨5, []⟩ [] = ⟨[[99, 111, 117, 110, 116]], [⟨[], 5⟩], false, 0⟩ := by decide +kernel
example : Gen.rowsNext ⟨[[97], [98], [99]], [⟨[[49], [50]], 3⟩], false, 0⟩ [.nil, .nil, .nil] =
    (none, ⟨[[97], [98], [99]], [⟨[[49], [50]], 3⟩], false, 1⟩, [.ofString [49], .ofString [50], .ofInt64 3]) := by decide +kernel
example : (Gen.rowsNext ⟨[[97]], [⟨[], 3⟩], false, 1⟩ [.nil]).1 = some .EOF := by decide +kernel
example : Gen.openFileOpts [120] [([112, 114, 101, 108, 111, 97, 100], [116, 114, 117, 101]),
      ([108, 114, 117, 99, 97, 99, 104, 101], [116, 114, 117, 101]),
      ([108, 114, 117, 99, 97, 99, 104, 101, 115, 105, 122, 101], [52, 50])] =
    .ok ⟨⟨[120], sPreload ++ sLru ++ sLruSize ++ [52, 50]⟩, [.WithPreloadedData, .WithCache ⟨42⟩]⟩ := by rfl

end Updog.GeneratedEq
