/-
Equivalence of the definitions REGENERATED from the Go source (`Updog/GeneratedFns.lean`, written by
extract/translate.go on every run) with the hand-written models. If a translated Go function changes its meaning,
the generated text changes and the corresponding theorem below stops checking; if the function leaves the
translator's subset, its definition is missing and the theorem fails to elaborate.
-/
import Updog.GeneratedFns
import Updog.Proofs.GoPrelude

namespace Updog.GeneratedEq

/-! ### queryformatter.go: formatString and the three parenthesisation rules -/

theorem formatString_eq (v : Bytes) : Gen.formatString v = quoteValue v := by
  simp [Gen.formatString, quoteValue, Go.replaceAll_quote]

/-- operand of `^`: parenthesised iff it is an AND or an OR -/
theorem notParens_eq (e : PExpr) : Gen.notParens (isAnd e) (isOr e) = (isAnd e || isOr e) := rfl
/-- operand of `&`: parenthesised iff it is an OR -/
theorem andParens_eq (e : PExpr) : Gen.andParens (isAnd e) (isOr e) = isOr e := rfl
/-- operand of `|`: parenthesised iff it is an AND -/
theorem orParens_eq (e : PExpr) : Gen.orParens (isAnd e) (isOr e) = isAnd e := rfl

/-- the three rules as functions of two arbitrary Booleans (no dependence on `PExpr`) -/
theorem parens_table (a o : Bool) :
    Gen.notParens a o = (a || o) ∧ Gen.andParens a o = o ∧ Gen.orParens a o = a := ⟨rfl, rfl, rfl⟩

example : Gen.formatString [97, 34] = [34, 97, 34, 34, 34] := by decide

example : Gen.andParens (isAnd (.or [])) (isOr (.or [])) = true := by decide

end Updog.GeneratedEq
