/-
Equivalence of the REGENERATED `OpenIndex` and `(*Index).Close` (`Updog/GeneratedFns.lean`: `openFile`, `openIndex`,
`indexClose`, translated from internal/openfile/openfile.go and index.go by extract/translate_t7.go on every run) with
the hand-written models `Updog/Model/Open.lean` (`openIndex`, `closeIndex`), `Updog/Model/OpenFlags.lean`
(`mustExistFlags`, `posixOpen`) and `Updog/Model/OpenLock.lean` (`openRO`, `close`).

`Props/Gen/Open.lean` starts from an open bbolt database, so it cannot speak about a path that does not exist or a file
that is not a bolt database. Here the generated code starts from the directory (`Go.T7.Fs`): `bbolt.Open` with the
read-only / must-exist open function is part of the generated text, and so is the close on every failing path.
The lock of the handle the call opened is `!bolt.closed` (as in Props/C15Lock.lean); the flocks of other open file
descriptions are `Node.locks`.
-/
import Updog.Props.Gen.Open
import Updog.Proofs.GoPreludeT7
import Updog.Model.OpenLock
import Updog.Proofs.OpenLock

namespace Updog.GeneratedEq
open Updog.Go.T3 Updog.Go.T7

/-! ### openfile.OpenFile -/

/-- **`openfile.OpenFile` = the flag rewriting of Model/OpenFlags.lean**, for every option value and flag word -/
theorem openFile_eq (o : OpenFileOptions) (flags : Nat) :
    Gen.openFile o flags =
      if o.FailIfFileExists then failIfExistsFlags flags
      else if o.FailIfFileDoesntExist then mustExistFlags flags
      else flags := Go.T7.openFile_eq o flags

/-- the two function literals translated on their own (`Gen.excl`, `Gen.noCreate`) are the branches of `Gen.openFile` -/
theorem openFile_branches (flags : Nat) :
    Gen.openFile { FailIfFileExists := true } flags = Gen.excl flags ∧
    Gen.openFile { FailIfFileDoesntExist := true } flags = Gen.noCreate flags ∧
    Gen.openFile {} flags = flags := ⟨rfl, rfl, rfl⟩

example : Gen.openFile { FailIfFileExists := true } 0x42 = 0xC2 ∧ Gen.openFile { FailIfFileDoesntExist := true } 0x42 = 2 ∧
    Gen.openFile { FailIfFileExists := true, FailIfFileDoesntExist := true } 0x42 = 0xC2 := by
  rw [openFile_eq, openFile_eq, openFile_eq]; decide

/-! ### what the model sees of the directory -/

/-- the model's `FileState` of a path: absent, not a bolt file (empty or garbage), or the state of its buckets -/
def fileStateAt (X : Ext) (fs : Fs) (path : Bytes) : FileState :=
  match fs.get path with
  | none => .absent
  | some n =>
    match n.content with
    | .empty => .notBolt
    | .garbage => .notBolt
    | .bolt c => fileStateOf X c

/-- the flocks other open file descriptions hold on the path -/
def locksAt (fs : Fs) (path : Bytes) : List Bool := ((fs.get path).map (·.locks)).getD []

/-- somebody else holds an exclusive flock: the shared flock of `OpenIndex` is not granted -/
def writerHolds (fs : Fs) (path : Bytes) : Bool := (locksAt fs path).any fun ex => ex

/-- `(ok | error, the lock of the handle this call opened is still held)` -/
def openResult (r : Fs × Bolt × Heap × Option Go.T3.Index × Error) : Outcome Unit × Bool :=
  (if isErr r.2.2.2.2 then .error else .ok (), !r.2.1.closed)

/-- the lock of a bbolt handle, read off the translator's record: held until `db.Close()` -/
def lockHeld (b : Bolt) : Bool := !b.closed

/-- **`OpenIndex` by the state of the path.** Absent: `(nil, err)`. Locked by a writer: `bbolt.Open` waits forever
    (`errWouldBlock`). Empty / garbage: bbolt rejects it. A bolt file: exactly `OpenIndexFromBoltDatabase` on a fresh
    handle over its committed content. In the first three cases the handle is already closed; the directory is never
    changed (only the handle counter advances). -/
theorem openIndex_cases (X : Ext) (fs : Fs) (hp : Heap) (file : Bytes) (opts : List IndexOption) :
    Gen.openIndex X fs hp file opts =
      match fs.get file with
      | none => ({ fs with next := fs.next + 1 }, deadBolt fs.next, hp, none, errOpen)
      | some n =>
        if n.locks.any (fun ex => ex) then ({ fs with next := fs.next + 1 }, deadBolt fs.next, hp, none, errWouldBlock)
        else match n.content with
          | .empty => ({ fs with next := fs.next + 1 }, deadBolt fs.next, hp, none, errInvalid)
          | .garbage => ({ fs with next := fs.next + 1 }, deadBolt fs.next, hp, none, errInvalid)
          | .bolt c =>
            let r := Gen.openIndexFromBoltDatabase X (idle fs.next 0 c []) hp (some fs.next) opts
            ({ fs with next := fs.next + 1 }, r.1, r.2.1, r.2.2.1, r.2.2.2) := by
  unfold Gen.openIndex
  rw [boltOpen_reader]
  cases hg : fs.get file with
  | none => rfl
  | some n =>
    simp only
    by_cases hl : (n.locks.any fun ex => ex) = true
    · simp only [hl, if_true]; rfl
    · have hl' : (n.locks.any fun ex => ex) = false := by simpa using hl
      simp only [hl', Bool.false_eq_true, if_false]
      cases n.content <;> rfl

/-- **`OpenIndex` never creates or changes a file** — whatever the path holds, whatever the options do -/
theorem openIndex_never_creates (X : Ext) (fs : Fs) (hp : Heap) (file : Bytes) (opts : List IndexOption) :
    (Gen.openIndex X fs hp file opts).1.files = fs.files ∧
    ∀ p, (Gen.openIndex X fs hp file opts).1.get p = fs.get p := by
  have h : (Gen.openIndex X fs hp file opts).1 = { fs with next := fs.next + 1 } := by
    rw [openIndex_cases]
    cases fs.get file with
    | none => rfl
    | some n =>
      simp only
      split
      · rfl
      · cases n.content <;> rfl
  rw [h]
  exact ⟨rfl, fun _ => rfl⟩

/-- an absent path stays absent, and the call fails without ever holding a lock -/
theorem openIndex_absent (X : Ext) (fs : Fs) (hp : Heap) (file : Bytes) (opts : List IndexOption) (h : fs.get file = none) :
    isErr (Gen.openIndex X fs hp file opts).2.2.2.2 = true ∧ (Gen.openIndex X fs hp file opts).2.2.2.1 = none ∧
    lockHeld (Gen.openIndex X fs hp file opts).2.1 = false ∧ (Gen.openIndex X fs hp file opts).1.get file = none := by
  refine ⟨?_, ?_, ?_, ?_⟩
  · rw [openIndex_cases, h]; rfl
  · rw [openIndex_cases, h]
  · rw [openIndex_cases, h]; rfl
  · rw [(openIndex_never_creates X fs hp file opts).2, h]

/-- **`OpenIndex(file)` = `openIndex … ⟨false⟩` of Model/Open.lean on EVERY state of the path** — absent, empty,
    garbage, and every content of a bolt file — as long as no writer holds the file: the outcome and whether the lock is
    still held. -/
theorem openIndex_noPreload_eq' (X : Ext) (fs : Fs) (hp : Heap) (file : Bytes) (hw : writerHolds fs file = false) :
    openResult (Gen.openIndex X fs hp file []) = openIndex (fileStateAt X fs file) ⟨false⟩ := by
  rw [openIndex_cases]
  unfold writerHolds locksAt at hw
  unfold fileStateAt
  cases hg : fs.get file with
  | none => rfl
  | some n =>
    rw [hg] at hw
    simp only [Option.map_some, Option.getD_some] at hw
    simp only [hw, Bool.false_eq_true, if_false]
    cases n.content with
    | empty => rfl
    | garbage => rfl
    | bolt c =>
      simp only
      rw [← Updog.GeneratedEq.openIndex_noPreload_eq X fs.next 0 c [] hp]
      rfl

/-- **`OpenIndex(file, WithPreloadedData())` = `openIndex … ⟨true⟩`** on every state of the path (a bolt file's bucket
    `data` in bbolt's key order) -/
theorem openIndex_preload_eq' (X : Ext) (fs : Fs) (hp : Heap) (file : Bytes) (hw : writerHolds fs file = false)
    (hs : ∀ n c d, fs.get file = some n → n.content = .bolt c → bucketsGet c dataName = some d → SortedData d) :
    openResult (Gen.openIndex X fs hp file [Gen.withPreloadedData X]) = openIndex (fileStateAt X fs file) ⟨true⟩ := by
  rw [openIndex_cases]
  unfold writerHolds locksAt at hw
  unfold fileStateAt
  cases hg : fs.get file with
  | none => rfl
  | some n =>
    rw [hg] at hw
    simp only [Option.map_some, Option.getD_some] at hw
    simp only [hw, Bool.false_eq_true, if_false]
    cases hc : n.content with
    | empty => rfl
    | garbage => rfl
    | bolt c =>
      simp only
      rw [← Updog.GeneratedEq.openIndex_preload_eq X fs.next 0 c [] hp (fun d hd => hs n c d hg hc hd)]
      rfl

/-- **a failed `OpenIndex` holds no lock and returns no index** (no options / `WithPreloadedData()`): `bbolt.Open`'s own
    clean-up for an absent or invalid file, `db.Close()` on the failing paths of `OpenIndexFromBoltDatabase` -/
theorem openIndex_failed_releases (X : Ext) (fs : Fs) (hp : Heap) (file : Bytes) (hw : writerHolds fs file = false)
    (herr : isErr (Gen.openIndex X fs hp file []).2.2.2.2 = true) :
    lockHeld (Gen.openIndex X fs hp file []).2.1 = false :=
  Updog.OpenLock.released_of_error (openIndex_noPreload_eq' X fs hp file hw) (if_pos herr)

theorem openIndex_failed_releases_preload (X : Ext) (fs : Fs) (hp : Heap) (file : Bytes) (hw : writerHolds fs file = false)
    (hs : ∀ n c d, fs.get file = some n → n.content = .bolt c → bucketsGet c dataName = some d → SortedData d)
    (herr : isErr (Gen.openIndex X fs hp file [Gen.withPreloadedData X]).2.2.2.2 = true) :
    lockHeld (Gen.openIndex X fs hp file [Gen.withPreloadedData X]).2.1 = false :=
  Updog.OpenLock.released_of_error (openIndex_preload_eq' X fs hp file hw hs) (if_pos herr)

/-- a writer holds the file: `bbolt.Open` never returns (`Timeout == 0`); nothing is changed, nothing is held -/
theorem openIndex_blocked (X : Ext) (fs : Fs) (hp : Heap) (file : Bytes) (opts : List IndexOption)
    (hw : writerHolds fs file = true) :
    (Gen.openIndex X fs hp file opts).2.2.2.2 = errWouldBlock ∧ (Gen.openIndex X fs hp file opts).2.2.2.1 = none ∧
    lockHeld (Gen.openIndex X fs hp file opts).2.1 = false := by
  rw [openIndex_cases]
  unfold writerHolds locksAt at hw
  cases hg : fs.get file with
  | none => rw [hg] at hw; simp at hw
  | some n =>
    rw [hg] at hw
    simp only [Option.map_some, Option.getD_some] at hw
    simp only [hw, if_true]
    simp [lockHeld, deadBolt]

/-! ### the lock model of Model/OpenLock.lean -/

/-- a `LockState` describes the path: same content class, and its holders are the flocks on the file -/
def Describes (X : Ext) (st : LockState) (fs : Fs) (path : Bytes) : Prop :=
  st.fs = fileStateAt X fs path ∧ st.holders.map (fun x => decide (x.mode = .exclusive)) = locksAt fs path

theorem compatible_shared_of_describes {X : Ext} {st : LockState} {fs : Fs} {path : Bytes} (hd : Describes X st fs path) :
    compatible .shared st.holders = !writerHolds fs path := by
  unfold writerHolds
  rw [← hd.2]
  simp only [compatible, List.any_map, List.all_eq_not_any_not]
  congr 2
  funext x
  obtain ⟨i, pr, m⟩ := x
  cases m <;> simp

/-- **the lock model agrees with the generated `OpenIndex` on every state of the path**, including absent and not-bolt
    (no options). Not blocked: `openRO` returns ok / error exactly when the generated code does, and the new handle holds
    the lock afterwards exactly when the generated code left its database open. Blocked by a writer: `openRO` hangs
    with the state unchanged; the generated code is stuck inside `bbolt.Open` (`errWouldBlock`) holding nothing. -/
theorem openRO_matches_generated_openIndex (X : Ext) (fs : Fs) (hp : Heap) (file : Bytes) (st : LockState) (p : ProcId)
    (hd : Describes X st fs file) :
    let r := Gen.openIndex X fs hp file []
    if writerHolds fs file then
      openRO st p ⟨false⟩ = (.hang, st) ∧ r.2.2.2.2 = errWouldBlock ∧ lockHeld r.2.1 = false
    else
      ((openRO st p ⟨false⟩).1.map (fun _ => ()), (openRO st p ⟨false⟩).2.holds st.next)
        = ((if isErr r.2.2.2.2 then .error else .ok ()), lockHeld r.2.1) := by
  intro r
  have hc := compatible_shared_of_describes hd
  cases hw : writerHolds fs file with
  | true =>
    simp only [if_true]
    rw [hw] at hc
    obtain ⟨b1, _, b3⟩ := openIndex_blocked X fs hp file [] hw
    exact ⟨Updog.OpenLock.openRO_blocked (by simpa using hc), b1, b3⟩
  | false =>
    simp only [Bool.false_eq_true, if_false]
    rw [hw] at hc
    rw [Updog.OpenLock.openRO_abstract p _ (by simpa using hc), hd.1, ← openIndex_noPreload_eq' X fs hp file hw]
    rfl

/-- … and with `WithPreloadedData()` -/
theorem openRO_matches_generated_openIndex_preload (X : Ext) (fs : Fs) (hp : Heap) (file : Bytes) (st : LockState) (p : ProcId)
    (hd : Describes X st fs file) (hw : writerHolds fs file = false)
    (hs : ∀ n c d, fs.get file = some n → n.content = .bolt c → bucketsGet c dataName = some d → SortedData d) :
    let r := Gen.openIndex X fs hp file [Gen.withPreloadedData X]
    ((openRO st p ⟨true⟩).1.map (fun _ => ()), (openRO st p ⟨true⟩).2.holds st.next)
      = ((if isErr r.2.2.2.2 then .error else .ok ()), lockHeld r.2.1) := by
  intro r
  have hc := compatible_shared_of_describes hd
  rw [hw] at hc
  rw [Updog.OpenLock.openRO_abstract p _ (by simpa using hc), hd.1, ← openIndex_preload_eq' X fs hp file hw hs]
  rfl

/-! ### (*Index).Close -/

/-- `Close` of an index whose database is nil (never opened, or closed before): nil, nothing happens -/
theorem indexClose_nil (bolt : Bolt) (idx : Go.T3.Index) (h : idx.db = none) :
    Gen.indexClose bolt idx = (bolt, { idx with mtx := mutexTouch idx.mtx }, nilError) := by
  unfold Gen.indexClose
  simp [h]

/-- `Close` of an open index: the database is closed (lock released, no transaction), `idx.db` becomes nil -/
theorem indexClose_open (bolt : Bolt) (idx : Go.T3.Index) (d : Nat) (h : idx.db = some d) :
    Gen.indexClose bolt idx =
      ((dbClose bolt (some d)).1, { idx with mtx := mutexTouch idx.mtx, db := none }, (dbClose bolt (some d)).2) := by
  unfold Gen.indexClose
  simp [h, mutexTouch_idem]

/-- **`Close` twice = `Close` once**: the second call returns nil and changes neither the database nor the index -/
theorem indexClose_twice (bolt : Bolt) (idx : Go.T3.Index) :
    Gen.indexClose (Gen.indexClose bolt idx).1 (Gen.indexClose bolt idx).2.1
      = ((Gen.indexClose bolt idx).1, (Gen.indexClose bolt idx).2.1, nilError) := by
  cases h : idx.db with
  | none =>
    rw [indexClose_nil bolt idx h, indexClose_nil _ _ (by simpa using h)]
    simp [mutexTouch_idem]
  | some d =>
    rw [indexClose_open bolt idx d h, indexClose_nil _ _ rfl]
    simp [mutexTouch_idem]

/-- **`Close` releases the lock**: on the index `OpenIndex` / `OpenIndexFromBoltDatabase` returned for this database,
    it returns nil, the handle is closed, no transaction is left, the committed content is untouched -/
theorem indexClose_releases (bolt : Bolt) (idx : Go.T3.Index) (h : idx.db = some bolt.id) :
    (Gen.indexClose bolt idx).2.2 = none ∧ lockHeld (Gen.indexClose bolt idx).1 = false ∧
    (Gen.indexClose bolt idx).1.tx = none ∧ (Gen.indexClose bolt idx).1.committed = bolt.committed ∧
    (Gen.indexClose bolt idx).2.1.db = none := by
  rw [indexClose_open bolt idx bolt.id h]
  simp [dbClose, lockHeld]

/-- **`Close` against `close` of the lock model**: for a live handle `h` (the index's database is handle `h`, open), the
    model's `close` and the generated `Close` both return nil and release exactly this handle's lock; the second call is a
    no-op in both (the model: `h` is no longer live; the generated code: `idx.db == nil`). -/
theorem close_matches_generated (st : LockState) (h : HandleId) (hl : h ∈ st.live)
    (bolt : Bolt) (idx : Go.T3.Index) (hb : bolt.id = h) (hdb : idx.db = some h) :
    let r := Gen.indexClose bolt idx
    ((close st h).1, (close st h).2.holds h) = ((if isErr r.2.2 then .error else .ok ()), lockHeld r.1) ∧
    close (close st h).2 h = (.ok (), (close st h).2) ∧
    Gen.indexClose r.1 r.2.1 = (r.1, r.2.1, nilError) := by
  intro r
  subst hb
  obtain ⟨r1, r2, _⟩ := indexClose_releases bolt idx hdb
  refine ⟨?_, ?_, indexClose_twice bolt idx⟩
  · have hc : st.live.contains bolt.id = true := by simpa using hl
    rw [Updog.OpenLock.close_of_live hc]
    have : r.2.2 = none := r1
    rw [this, show lockHeld r.1 = false from r2]
    simp only [isErr_none, Bool.false_eq_true, if_false, LockState.holds, Prod.mk.injEq, true_and]
    exact Updog.OpenLock.holds_release _ _
  · exact Updog.OpenLock.close_of_not_live (Updog.OpenLock.not_live_after_close st bolt.id)

/-! ### concrete directories -/

/-- a directory with an index file (written by the generated writer, `demoFile` of Props/Gen/Open.lean), an empty file,
    a garbage file and an index a writer still holds -/
def demoFs : Fs :=
  { files := [([105], { content := .bolt demoFile }), ([101], { content := .empty }), ([103], { content := .garbage }),
              ([119], { content := .bolt demoFile, locks := [true] }),
              ([114], { content := .bolt demoFile, locks := [false, false] })],
    next := 5 }

example : openResult (Gen.openIndex toyExt demoFs {} [105] []) = (.ok (), true) := by rw [openIndex_cases]; decide
example : openResult (Gen.openIndex toyExt demoFs {} [105] [Gen.withPreloadedData toyExt]) = (.ok (), true) := by
  rw [openIndex_cases]; decide
-- other readers do not block a reader
example : openResult (Gen.openIndex toyExt demoFs {} [114] []) = (.ok (), true) := by rw [openIndex_cases]; decide
example : openResult (Gen.openIndex toyExt demoFs {} [101] []) = (.error, false) := by rw [openIndex_cases]; decide
example : openResult (Gen.openIndex toyExt demoFs {} [103] []) = (.error, false) := by rw [openIndex_cases]; decide
-- an absent path: error, no lock, and the path is still absent
example : openResult (Gen.openIndex toyExt demoFs {} [97] []) = (.error, false) ∧
    (Gen.openIndex toyExt demoFs {} [97] []).1.get [97] = none := by rw [openIndex_cases]; decide
example : (Gen.openIndex toyExt demoFs {} [119] []).2.2.2.2 = errWouldBlock := by rw [openIndex_cases]; decide
-- open, close, close again
def demoOpenClose : Option (List Bool) :=
  let r := Gen.openIndex toyExt demoFs {} [105] []
  r.2.2.2.1.map (fun idx =>
    let c1 := Gen.indexClose r.2.1 idx
    let c2 := Gen.indexClose c1.1 c1.2.1
    [lockHeld r.2.1, isErr c1.2.2, lockHeld c1.1, c1.2.1.db.isSome, isErr c2.2.2, lockHeld c2.1, c2.2.1.db.isSome])

example : demoOpenClose = some [true, false, false, false, false, false, false] := by
  simp only [demoOpenClose, openIndex_cases]; decide

end Updog.GeneratedEq
