/-
C18 (disk-backed big writer, and the flushed index of both writers) — concurrent `AddRow` calls lose, duplicate and
mix nothing, also across the periodic commit of the temporary database.

`BigIndexWriter.AddRow` holds the writer's mutex for its whole body (id read, puts into the open temp transaction,
the commit every 1000 rows, deferred increment), so every interleaving of goroutines is a schedule of whole calls
(`C18.interleave`).  The model is `Model/BigWriterTx.lean`: the temp bucket is split into what is COMMITTED in tempDB and
what is PENDING in the open write transaction; `Flush` commits and then reads the committed bucket only.
Helper lemmas: `Proofs/C18Big.lean` (simulation, invariant across commits), `Proofs/C18Perm.lean` (permutations).

(a) `big_*`, `crash_*`, `generated_addRow_chain`: ids, per-goroutine order, the temp bucket invariant, the flushed index.
(b) `mem_*`, `both_writers_*`, `*_any_schedule`: the flushed in-memory index, semantically.
(c) `same_assignment_*`, `index_depends_*`, `perm_*`: which index two different executions produce.
-/
import Updog.Props.C18
import Updog.Proofs.C18Perm
import Updog.Props.Gen.Writer
import Updog.Proofs.GenBigTx
namespace Updog.C18
open Updog

/-- the index `OpenIndex` yields on the file written by `Flush` of the transaction model (schema `S`, counter `I`,
    `GetCol` on the data bucket) — the construction of `C05.bigIndex` -/
abbrev txIndex (st : BigWriterTx) : Index := ⟨(flushTx st).2.1, (flushTx st).2.2, (flushTx st).1.get⟩

section
variable (H : Bytes → UInt64)

/-! ### (a) the big writer under every schedule -/

/-- For EVERY schedule of every set of goroutine queues: the ids the big writer's `AddRow` calls return are exactly
    0, 1, …, n−1 in execution order — no gaps, no duplicates — whatever commits happen in between. -/
theorem big_ids_exact (sched : List Nat) (queues : List (List Row)) :
    let calls := (interleave sched queues).1
    (runCallsBigTx H {} calls).1 = List.range calls.length :=
  runCallsBigTx_ids_fresh H _

/-- Each goroutine sees strictly increasing ids: pair every executed call with the id it got and keep the calls of
    goroutine `g`; their ids are strictly increasing (so a goroutine's rows keep their relative order in the index). -/
theorem big_ids_increasing (sched : List Nat) (queues : List (List Row)) (g : Nat) :
    let calls := (interleave sched queues).1
    let ids := (runCallsBigTx H {} calls).1
    (((calls.zip ids).filter (·.1.1 == g)).map (·.2)).Pairwise (· < ·) := by
  intro calls ids
  rw [show ids = List.range calls.length from big_ids_exact H sched queues]
  exact ids_of_goroutine_increasing calls g

/-- the same for the in-memory writer -/
theorem mem_ids_increasing (sched : List Nat) (queues : List (List Row)) (g : Nat) :
    let calls := (interleave sched queues).1
    let ids := (runCalls H {} calls).1
    (((calls.zip ids).filter (·.1.1 == g)).map (·.2)).Pairwise (· < ·) := by
  intro calls ids
  rw [show ids = List.range calls.length from runCalls_ids H calls]
  exact ids_of_goroutine_increasing calls g

/-- **The temp bucket across commit boundaries.**  After any calls (rows in id order `rows`, `n` of them): the counter
    is `n`; `(n−1)/1000` commits happened; the bucket the writer sees holds exactly the keys `be64(h) ‖ be32(j)` with
    row `j` carrying a pair of value index `h`; the part COMMITTED in tempDB holds exactly those with
    `j < committedRows n`; the open transaction holds the rest; no key is stored twice. -/
theorem big_temp_invariant (calls : List (Nat × Row)) : TxInv H (runCallsBigTx H {} calls).2 (calls.map (·.2)) :=
  (txSim_runCalls H _).inv H

/-- the committed rows of `big_temp_invariant`, spelled out: nothing before the first commit, afterwards the rows
    with id `≤ lastCommit n` = the largest positive multiple of 1000 that is `≤ n − 1` -/
theorem committed_rows_spec (n j : Nat) :
    (j < committedRows n ↔ 0 < commitCount n ∧ j ≤ lastCommit n) ∧
    (0 < commitCount n → 0 < lastCommit n ∧ lastCommit n % 1000 = 0 ∧ lastCommit n ≤ n - 1 ∧ n - 1 < lastCommit n + 1000) ∧
    (commitCount n = 0 ↔ n ≤ 1000) := by
  refine ⟨?_, ?_, ?_⟩
  · unfold committedRows; split <;> omega
  · unfold lastCommit commitCount; omega
  · unfold commitCount; omega

/-- the number of temp commits after `n` calls is `(n − 1) / 1000`, whatever the schedule: the calls that get the ids
    1000, 2000, … commit -/
theorem big_commit_count (sched : List Nat) (queues : List (List Row)) :
    let calls := (interleave sched queues).1
    (runCallsBigTx H {} calls).2.commits = (calls.length - 1) / 1000 := by
  intro calls
  exact (big_temp_invariant H calls).commits.trans (congrArg commitCount (List.length_map ..))

/-- **What a crash / an abandoned writer leaves.**  If the writer is abandoned after the calls of a schedule (the
    process dies, or `Close` rolls the open transaction back), tempDB holds exactly the keys of the rows with id
    `< committedRows n` — literally the temp bucket a sequential insertion of that prefix of the rows produces — and a
    `Flush`-like walk over it yields exactly that prefix's image. -/
theorem crash_leaves_committed_prefix (sched : List Nat) (queues : List (List Row)) :
    let calls := (interleave sched queues).1
    let rows := calls.map (·.2)
    let st := (runCallsBigTx H {} calls).2
    (∀ k, k ∈ st.abandon.committed ↔
      ∃ h j, rowHas H rows h j = true ∧ j < committedRows rows.length ∧ k = tempKey h.toNat j) ∧
    st.abandon.committed = (BigWriter.addRows H {} (rows.take (committedRows rows.length))).temp ∧
    st.abandon.pending = [] ∧
    abandonedWalk st = (BigWriter.image H (rows.take (committedRows rows.length))).1 := by
  intro calls rows st
  have sim := txSim_runCalls H calls
  exact ⟨(sim.inv H).committed, sim.committed, rfl, congrArg (fun t => walk (sortKeys t)) sim.committed⟩

/-- bit level: in the walk over an abandoned tempDB, bit `j` under value index `h` is set iff row `j` is one of the
    committed rows and carries a pair of value index `h` -/
theorem crash_bitmap_spec (sched : List Nat) (queues : List (List Row)) (h : UInt64) (j : Nat) :
    let calls := (interleave sched queues).1
    calls.length ≤ 2 ^ 32 →
    (((abandonedWalk (runCallsBigTx H {} calls).2).get h).getD 0).testBit j
      = (decide (j < committedRows calls.length) && rowHas H (calls.map (·.2)) h j) := by
  intro calls hlen
  have := (big_temp_invariant H calls).abandoned_testBit H (by rwa [List.length_map]) h j
  rwa [List.length_map] at this

/-- with at most 2^32 rows the open transaction holds exactly the keys of the rows after the last commit -/
theorem big_pending_spec (sched : List Nat) (queues : List (List Row)) (k : Bytes) :
    let calls := (interleave sched queues).1
    let rows := calls.map (·.2)
    rows.length ≤ 2 ^ 32 →
    (k ∈ (runCallsBigTx H {} calls).2.pending ↔
      ∃ h j, rowHas H rows h j = true ∧ committedRows rows.length ≤ j ∧ k = tempKey h.toNat j) :=
  fun hlen => (big_temp_invariant H _).pending_iff H hlen k

/-- **The flushed image.**  `Flush` (final commit, then the cursor walk over the COMMITTED bucket) after any calls —
    the calls of any schedule — writes exactly the image of the sequential insertion of the same rows in id order:
    data bucket, schema `S` and counter `I`; and it never takes the "invalid temp key" branch. -/
theorem big_flushed_image (calls : List (Nat × Row)) :
    flushTx (runCallsBigTx H {} calls).2 = BigWriter.image H (calls.map (·.2)) ∧
    flushTxChecked (runCallsBigTx H {} calls).2 = .ok (BigWriter.image H (calls.map (·.2))) := by
  have sim := txSim_runCalls H calls
  have hf := sim.flush H
  refine ⟨hf, ?_⟩
  rw [flushTxChecked, if_pos ((sim.inv H).binv_flush H).all_length, hf]

/-- the final commit of `Flush` is what makes every key visible to its read-only transaction: after it the committed
    bucket is the full key set (before it, only the rows up to the last periodic commit are there,
    `crash_leaves_committed_prefix`) -/
theorem big_flush_commits_everything (sched : List Nat) (queues : List (List Row)) (k : Bytes) :
    let calls := (interleave sched queues).1
    k ∈ (runCallsBigTx H {} calls).2.commit.committed ↔
      ∃ h j, rowHas H (calls.map (·.2)) h j = true ∧ k = tempKey h.toNat j :=
  (big_temp_invariant H _).commit_full H k

/-- bit level, derived from the bucket invariant and the cursor walk alone (no reference to `Model/BigWriter.lean`):
    in the flushed data bucket bit `i` under value index `h` is set iff the `i`-th executed call's row carries a pair
    of value index `h` -/
theorem big_flushed_bitmap_spec (sched : List Nat) (queues : List (List Row)) (h : UInt64) (i : Nat) :
    let calls := (interleave sched queues).1
    calls.length ≤ 2 ^ 32 →
    (((txIndex (runCallsBigTx H {} calls).2).getCol h).getD 0).testBit i = rowHas H (calls.map (·.2)) h i :=
  fun hlen => (big_temp_invariant H _).flush_testBit H (by rwa [List.length_map]) h i

/-- **The flushed index** (at most 2^32 calls): the index opened from the big writer's output is the index of the
    sequential insertion of the rows in id order — `C05.bigIndex` — which is the index the in-memory writer produces for
    these rows. -/
theorem big_flushed_index (calls : List (Nat × Row)) :
    txIndex (runCallsBigTx H {} calls).2 = C05.bigIndex H (calls.map (·.2)) ∧
    (calls.length ≤ 2 ^ 32 →
      txIndex (runCallsBigTx H {} calls).2 = (Writer.addRows H {} (calls.map (·.2))).toIndex) := by
  have e : txIndex (runCallsBigTx H {} calls).2 = C05.bigIndex H (calls.map (·.2)) := by
    unfold txIndex C05.bigIndex
    rw [(big_flushed_image H calls).1]
  exact ⟨e, fun hlen => e.trans (C01.bigIndex_eq H _ (by rwa [List.length_map]))⟩

/-- The representation of the bucket as a list is immaterial: two states with the same key set (in any order), schema
    and counter are flushed to the same image. -/
theorem big_flush_depends_on_key_set (st₁ st₂ : BigWriterTx) (hn₁ : st₁.visible.Nodup) (hn₂ : st₂.visible.Nodup)
    (hk : ∀ k, k ∈ st₁.visible ↔ k ∈ st₂.visible) (hs : st₁.schema = st₂.schema) (hx : st₁.next = st₂.next) :
    flushTx st₁ = flushTx st₂ :=
  flushTx_order_irrelevant st₁ st₂ hn₁ hn₂ hk hs hx

/-! ### the chain generated code → `BigWriter.addRow` → transaction model -/

/-- one `AddRow` of the transaction model is one `BigWriter.addRow` on the bucket the writer sees (`toBig` =
    committed ∪ pending), committing or not, and returns the counter before the call -/
theorem tx_simulates_big (st : BigWriterTx) (r : Row) :
    (addRowTx H st r).2.toBig = BigWriter.addRow H st.toBig r ∧ (addRowTx H st r).1 = st.toBig.next :=
  ⟨toBig_addRowTx H st r, rfl⟩

open Updog.GeneratedEq Updog.Go.T3 in
/-- **Generated call → transaction model.**  `TxRel bolt hp idx d c0 st` says the Go state stands for the model state
    `st`: the bucket the writer's open transaction sees holds `st.committed ∪ st.pending`, the bucket COMMITTED in the bolt
    database holds exactly `st.committed`, and the database has performed `c0 + st.commits` commits.  From such a state
    (ready, well-formed heap, room for one more id) ONE call of the generated `(*BigIndexWriter).AddRow` returns the id the
    model's `addRowTx` returns (the counter before the call) and nil, and ends ready for the next call in a state that
    stands for the model's next state — it commits exactly when the model does (`rowID > 0 && rowID%1000 == 0` on the id of
    this call) and what it commits is what the model commits.  So a schedule of generated calls is a run of `runCallsBigTx`.
    (Extends `GeneratedEq.bigIndexWriterAddRow_eq`, which relates the visible bucket only.) -/
theorem generated_addRow_chain (bolt : Bolt) (hp : Heap) (idx : BigIndexWriter) (values : List (Bytes × Bytes))
    (d : BucketData) (c0 : Nat) (st : BigWriterTx)
    (hr : BigReady bolt idx d) (wf : SchemaWF H hp idx.schema) (rel : TxRel bolt hp idx d c0 st)
    (hnext : idx.nextRowID.toNat = st.next) (hroom : idx.nextRowID.toNat + 1 < 2 ^ 32) :
    let res := Gen.bigIndexWriterAddRow H bolt hp idx values
    res.2.2.2 = (idx.nextRowID, nilError) ∧ idx.nextRowID.toNat = (addRowTx H st values).1 ∧
    ∃ d', BigReady res.1 res.2.2.1 d' ∧ SchemaWF H res.2.1 res.2.2.1.schema ∧
      TxRel res.1 res.2.1 res.2.2.1 d' c0 (addRowTx H st values).2 ∧
      res.2.2.1.nextRowID.toNat = (addRowTx H st values).2.next ∧
      (idx.mtx = {} → res.2.2.1.mtx = {}) :=
  bigIndexWriterAddRow_tx_spec H bolt hp idx values d c0 st hr wf rel hnext hroom _ rfl

open Updog.GeneratedEq Updog.Go.T3 in
/-- the hypotheses of `generated_addRow_chain` hold in the state `NewBigIndexWriter` leaves (bucket created, write
    transaction open, no commit counted yet) against the model's initial state -/
example : BigReady demoTemp { tempDB := some 7, tempTx := some 0 } [] ∧
    SchemaWF H {} ({ tempDB := some 7, tempTx := some 0 } : BigIndexWriter).schema ∧
    TxRel demoTemp {} { tempDB := some 7, tempTx := some 0 } [] 0 {} := by
  refine ⟨⟨rfl, rfl, _, rfl, rfl, rfl, rfl⟩, ⟨PtrsOK.nil _, ?_⟩, ⟨rfl, ?_⟩, ⟨[], rfl, ?_⟩, rfl⟩
  · intro cv hcv; simp [schemaValue] at hcv
  · intro k; simp [BigWriterTx.toBig, BigWriterTx.visible]
  · intro k; simp

/-! ### (b) the flushed in-memory index, semantically -/

/-- **The flushed in-memory index, for every schedule**, characterised without reference to a sequential run:
    its row count is the number of executed calls; bit `i` of the bitmap under value index `h` is set iff the `i`-th
    executed call's row carries a pair of value index `h`; `h` is a key iff some executed row carries such a pair; its
    columns are the columns of the executed rows; and `GetSchema` returns exactly their columns and distinct values. -/
theorem mem_flushed_index_spec (sched : List Nat) (queues : List (List Row)) :
    let calls := (interleave sched queues).1
    let rows := calls.map (·.2)
    let ix := (runCalls H {} calls).2.toIndex
    ix.next = calls.length ∧
    (∀ h i, ((ix.getCol h).getD 0).testBit i = rowHas H rows h i) ∧
    (∀ h, (ix.getCol h).isSome = hashIn H rows h) ∧
    (∀ c, (ix.schema.col c).isSome = (columnsOf rows).contains c) ∧
    getSchema ix = specSchema rows := by
  intro calls rows ix
  refine ⟨?_, (winv_addRows H rows).vals, ?_, ?_, C05.schema_roundtrip H rows⟩
  · exact (winv_addRows H rows).next.trans (List.length_map ..)
  · intro h
    show ((Writer.addRows H {} rows).vals.get h).isSome = _
    rw [addRows_isSome]; simp [ValMap.get]
  · intro c
    show ((Writer.addRows H {} rows).schema.col c).isSome = _
    rw [schema_col_isSome]; simp [Schema.col]

/-- **Both writers, same calls, same answers.**  For any calls (at most 2^32; in particular those of any schedule) and
    EVERY query, `Execute` on the index flushed by the big writer equals `Execute` on the index flushed by the in-memory
    writer. -/
theorem both_writers_same_answer (calls : List (Nat × Row)) (hlen : calls.length ≤ 2 ^ 32) (q : Query) :
    execute H (txIndex (runCallsBigTx H {} calls).2) q = execute H (runCalls H {} calls).2.toIndex q := by
  rw [(big_flushed_index H calls).2 hlen]
  rfl

/-- **Counts after concurrent insertion.**  Under the hypotheses of `C01.count_correct` for the executed rows, the total
    count of `e` on the in-memory writer's flushed index is the number of executed rows satisfying `e` — for every
    schedule — and (at most 2^32 calls) so is the count on the big writer's flushed index. -/
theorem count_correct_any_schedule (sched : List Nat) (queues : List (List Row)) (e : Expr) :
    let calls := (interleave sched queues).1
    let rows := calls.map (·.2)
    (∀ c ∈ e.columns, c ∈ columnsOf rows) → e.arityPos = true → NoCollision H rows e.pairs →
    execute H (runCalls H {} calls).2.toIndex ⟨e, []⟩ = some ⟨specCount rows e, []⟩ ∧
    (calls.length ≤ 2 ^ 32 →
      execute H (txIndex (runCallsBigTx H {} calls).2) ⟨e, []⟩ = some ⟨specCount rows e, []⟩) := by
  intro calls rows hcols hwf hinj
  have h := C01.count_correct H rows e hcols hwf hinj
  exact ⟨h, fun hlen => (both_writers_same_answer H calls hlen _).trans h⟩

/-- … and with group-by (hypotheses of `C02.groupBy_eq_spec`): the whole answer, count and groups, is the
    specification's answer on the executed rows, on both writers' flushed indexes. -/
theorem answer_correct_any_schedule (sched : List Nat) (queues : List (List Row)) (e : Expr) (cols : List Bytes) :
    let calls := (interleave sched queues).1
    let rows := calls.map (·.2)
    (∀ c ∈ e.columns, c ∈ columnsOf rows) → e.arityPos = true → NoCollision H rows e.pairs →
    DataNoCollision H rows → (∀ c ∈ cols, c ∈ columnsOf rows) →
    execute H (runCalls H {} calls).2.toIndex ⟨e, cols⟩ = specExecute rows ⟨e, cols⟩ ∧
    (calls.length ≤ 2 ^ 32 →
      execute H (txIndex (runCallsBigTx H {} calls).2) ⟨e, cols⟩ = specExecute rows ⟨e, cols⟩) := by
  intro calls rows hcols hwf hinj hD hg
  have h := C02.groupBy_eq_spec H rows e cols hcols hwf hinj hD hg
  exact ⟨h, fun hlen => (both_writers_same_answer H calls hlen _).trans h⟩

/-! ### (c1) same assignment of ids to rows ⇒ same index -/

/-- If two executions (different schedules, queues, goroutine structure) assign the same ids to the same rows — their
    call lists carry the same rows in the same order, the goroutine tags may differ — then the big writer flushes the
    same image and the in-memory writer the same index. -/
theorem same_assignment_same_index (sched₁ sched₂ : List Nat) (queues₁ queues₂ : List (List Row)) :
    let calls₁ := (interleave sched₁ queues₁).1
    let calls₂ := (interleave sched₂ queues₂).1
    calls₁.map (·.2) = calls₂.map (·.2) →
    flushTx (runCallsBigTx H {} calls₁).2 = flushTx (runCallsBigTx H {} calls₂).2 ∧
    txIndex (runCallsBigTx H {} calls₁).2 = txIndex (runCallsBigTx H {} calls₂).2 ∧
    (runCalls H {} calls₁).2.toIndex = (runCalls H {} calls₂).2.toIndex := by
  intro calls₁ calls₂ he
  have hf : flushTx (runCallsBigTx H {} calls₁).2 = flushTx (runCallsBigTx H {} calls₂).2 := by
    rw [(big_flushed_image H calls₁).1, (big_flushed_image H calls₂).1, he]
  refine ⟨hf, by simp only [txIndex, hf], ?_⟩
  simp only [runCalls, he]

/-- The flushed index depends only on the MULTISET of (id, row) pairs: if the pairs (returned id, row) of two executions
    are the same up to order, both writers produce the same index in both executions. -/
theorem index_depends_on_id_row_multiset (calls₁ calls₂ : List (Nat × Row))
    (hp : ((runCallsBigTx H {} calls₁).1.zip (calls₁.map (·.2))).Perm
          ((runCallsBigTx H {} calls₂).1.zip (calls₂.map (·.2)))) :
    flushTx (runCallsBigTx H {} calls₁).2 = flushTx (runCallsBigTx H {} calls₂).2 ∧
    (runCalls H {} calls₁).2.toIndex = (runCalls H {} calls₂).2.toIndex := by
  have he : calls₁.map (·.2) = calls₂.map (·.2) := by
    apply rows_eq_of_zip_perm
    simpa [runCallsBigTx_ids] using hp
  refine ⟨?_, by simp only [runCalls, he]⟩
  rw [(txSim_runCalls H calls₁).flush H, (txSim_runCalls H calls₂).flush H, he]

/-! ### (c2) a different call order ⇒ the same index up to the renaming of row ids

`p` is a permutation of the ids `0 … n−1`; execution 2 gives id `i` to the row that has id `p[i]` in execution 1:
`rows₂ = permRows p rows₁`, i.e. `rows₂[i] = rows₁[p[i]]`. -/

/-- the renamed dataset is a permutation of the original, with the same number of rows -/
theorem perm_rows (p : List Nat) (rows₁ : List Row) (hp : p.Perm (List.range rows₁.length)) :
    (permRows p rows₁).Perm rows₁ ∧ (permRows p rows₁).length = rows₁.length :=
  ⟨permRows_perm p rows₁ hp, (permRows_length p rows₁).trans (by simpa using hp.length_eq)⟩

/-- the rows of execution 2 are a permutation of the rows of execution 1, and there are as many calls -/
theorem rows_perm {calls₁ calls₂ : List (Nat × Row)} {p : List Nat} (hp : p.Perm (List.range calls₁.length))
    (h₂ : calls₂.map (·.2) = permRows p (calls₁.map (·.2))) :
    (calls₂.map (·.2)).Perm (calls₁.map (·.2)) ∧ calls₂.length = calls₁.length := by
  have hperm : (calls₂.map (·.2)).Perm (calls₁.map (·.2)) :=
    h₂ ▸ permRows_perm p _ (by rwa [List.length_map])
  have := hperm.length_eq
  rw [List.length_map, List.length_map] at this
  exact ⟨hperm, this⟩

/-- **Bitmaps up to renaming.**  For every value index `h` and every id `i < n`: bit `i` of the bitmap of `h` in
    index 2 is bit `p[i]` of the bitmap of `h` in index 1 — in the in-memory writer's flushed index and (at most 2^32
    rows) in the big writer's flushed index. -/
theorem perm_bits (calls₁ calls₂ : List (Nat × Row)) (p : List Nat)
    (hp : p.Perm (List.range calls₁.length)) (h₂ : calls₂.map (·.2) = permRows p (calls₁.map (·.2)))
    (h : UInt64) (i : Nat) (hi : i < p.length) :
    (((runCalls H {} calls₂).2.toIndex.getCol h).getD 0).testBit i
      = (((runCalls H {} calls₁).2.toIndex.getCol h).getD 0).testBit p[i] ∧
    (calls₁.length ≤ 2 ^ 32 →
      (((txIndex (runCallsBigTx H {} calls₂).2).getCol h).getD 0).testBit i
        = (((txIndex (runCallsBigTx H {} calls₁).2).getCol h).getD 0).testBit p[i]) := by
  have hm : (((runCalls H {} calls₂).2.toIndex.getCol h).getD 0).testBit i
      = (((runCalls H {} calls₁).2.toIndex.getCol h).getD 0).testBit p[i] := by
    show (((Writer.addRows H {} (calls₂.map (·.2))).vals.get h).getD 0).testBit i
      = (((Writer.addRows H {} (calls₁.map (·.2))).vals.get h).getD 0).testBit p[i]
    rw [(winv_addRows H _).vals, (winv_addRows H _).vals, h₂, rowHas_permRows H p _ h i hi]
  refine ⟨hm, fun hlen => ?_⟩
  rw [(big_flushed_index H calls₂).2 ((rows_perm hp h₂).2 ▸ hlen), (big_flushed_index H calls₁).2 hlen]
  exact hm

/-- **Same keys, same row count.**  The value indexes present in the data bucket coincide, and so do the row
    counters. -/
theorem perm_keys (calls₁ calls₂ : List (Nat × Row)) (p : List Nat)
    (hp : p.Perm (List.range calls₁.length)) (h₂ : calls₂.map (·.2) = permRows p (calls₁.map (·.2))) :
    (∀ h, ((runCalls H {} calls₂).2.toIndex.getCol h).isSome = ((runCalls H {} calls₁).2.toIndex.getCol h).isSome) ∧
    (runCalls H {} calls₂).2.toIndex.next = (runCalls H {} calls₁).2.toIndex.next ∧
    (calls₁.length ≤ 2 ^ 32 →
      (∀ h, ((txIndex (runCallsBigTx H {} calls₂).2).getCol h).isSome
          = ((txIndex (runCallsBigTx H {} calls₁).2).getCol h).isSome) ∧
      (txIndex (runCallsBigTx H {} calls₂).2).next = (txIndex (runCallsBigTx H {} calls₁).2).next) := by
  obtain ⟨hperm, hl⟩ := rows_perm hp h₂
  have hk : ∀ h, ((runCalls H {} calls₂).2.toIndex.getCol h).isSome
      = ((runCalls H {} calls₁).2.toIndex.getCol h).isSome := by
    intro h
    show ((Writer.addRows H {} _).vals.get h).isSome = ((Writer.addRows H {} _).vals.get h).isSome
    rw [addRows_isSome, addRows_isSome, hashIn_perm H hperm]
  have hn : (runCalls H {} calls₂).2.toIndex.next = (runCalls H {} calls₁).2.toIndex.next :=
    (winv_addRows H _).next.trans (hperm.length_eq.trans (winv_addRows H _).next.symm)
  refine ⟨hk, hn, fun hlen => ?_⟩
  rw [(big_flushed_index H calls₂).2 (hl ▸ hlen), (big_flushed_index H calls₁).2 hlen]
  exact ⟨hk, hn⟩

/-- **Schemas.**  `GetSchema` returns the same answer on both indexes.  The stored schema (insertion ordered, as
    gob-encoded under `S`) has the same columns; per column the same (value, value index) entries up to order; the same
    column names up to order.  (Literal equality of the stored schemas does NOT hold: their order is first-use order.) -/
theorem perm_schema (calls₁ calls₂ : List (Nat × Row)) (p : List Nat)
    (hp : p.Perm (List.range calls₁.length)) (h₂ : calls₂.map (·.2) = permRows p (calls₁.map (·.2))) :
    let s₁ := (runCalls H {} calls₁).2.toIndex.schema
    let s₂ := (runCalls H {} calls₂).2.toIndex.schema
    getSchema (runCalls H {} calls₂).2.toIndex = getSchema (runCalls H {} calls₁).2.toIndex ∧
    (∀ c, (s₂.col c).isSome = (s₁.col c).isSome) ∧
    (∀ c vs₁ vs₂, s₁.col c = some vs₁ → s₂.col c = some vs₂ → vs₂.Perm vs₁) ∧
    (s₂.map (·.1)).Perm (s₁.map (·.1)) ∧
    (flushTx (runCallsBigTx H {} calls₁).2).2.1 = s₁ ∧ (flushTx (runCallsBigTx H {} calls₂).2).2.1 = s₂ := by
  intro s₁ s₂
  have hperm := (rows_perm hp h₂).1
  refine ⟨?_, schema_col_isSome_perm H hperm, fun c vs₁ vs₂ g₁ g₂ => schema_col_perm H hperm c vs₂ vs₁ g₂ g₁,
    schema_keys_perm H hperm, ?_, ?_⟩
  · show getSchema (Writer.addRows H {} _).toIndex = getSchema (Writer.addRows H {} _).toIndex
    rw [C05.schema_roundtrip, C05.schema_roundtrip, specSchema_perm hperm]
  · rw [(big_flushed_image H calls₁).1]; exact big_addRows_schema H _ {} {} rfl
  · rw [(big_flushed_image H calls₂).1]; exact big_addRows_schema H _ {} {} rfl

/-- the number of rows satisfying an expression does not depend on the order of the rows -/
theorem perm_specCount (rows₁ : List Row) (p : List Nat) (hp : p.Perm (List.range rows₁.length)) (e : Expr) :
    specCount (permRows p rows₁) e = specCount rows₁ e :=
  specCount_perm (permRows_perm p rows₁ hp) e

/-- **Same total count.**  Under C01's hypotheses for the rows of execution 1 (they carry over to execution 2), `Execute`
    returns the same total count on the indexes of both executions, for both writers. -/
theorem perm_count (calls₁ calls₂ : List (Nat × Row)) (p : List Nat)
    (hp : p.Perm (List.range calls₁.length)) (h₂ : calls₂.map (·.2) = permRows p (calls₁.map (·.2)))
    (e : Expr) (hcols : ∀ c ∈ e.columns, c ∈ columnsOf (calls₁.map (·.2))) (hwf : e.arityPos = true)
    (hinj : NoCollision H (calls₁.map (·.2)) e.pairs) :
    execute H (runCalls H {} calls₂).2.toIndex ⟨e, []⟩ = some ⟨specCount (calls₁.map (·.2)) e, []⟩ ∧
    execute H (runCalls H {} calls₂).2.toIndex ⟨e, []⟩ = execute H (runCalls H {} calls₁).2.toIndex ⟨e, []⟩ ∧
    (calls₁.length ≤ 2 ^ 32 →
      execute H (txIndex (runCallsBigTx H {} calls₂).2) ⟨e, []⟩
        = execute H (txIndex (runCallsBigTx H {} calls₁).2) ⟨e, []⟩) := by
  obtain ⟨hperm, hl⟩ := rows_perm hp h₂
  have c₁ := C01.count_correct H _ e hcols hwf hinj
  have c₂ := count_correct_perm H hperm.symm e hcols hwf hinj
  refine ⟨c₂, c₂.trans c₁.symm, fun hlen => ?_⟩
  rw [both_writers_same_answer H calls₂ (hl ▸ hlen), both_writers_same_answer H calls₁ hlen]
  exact c₂.trans c₁.symm

/-- **Same whole answer.**  Under C02's hypotheses for the rows of execution 1, `Execute` returns the same count AND the
    same groups on the indexes of both executions (group-by results do not mention row ids). -/
theorem perm_answer (calls₁ calls₂ : List (Nat × Row)) (p : List Nat)
    (hp : p.Perm (List.range calls₁.length)) (h₂ : calls₂.map (·.2) = permRows p (calls₁.map (·.2)))
    (e : Expr) (cols : List Bytes) (hcols : ∀ c ∈ e.columns, c ∈ columnsOf (calls₁.map (·.2)))
    (hwf : e.arityPos = true) (hinj : NoCollision H (calls₁.map (·.2)) e.pairs)
    (hD : DataNoCollision H (calls₁.map (·.2))) (hg : ∀ c ∈ cols, c ∈ columnsOf (calls₁.map (·.2))) :
    execute H (runCalls H {} calls₂).2.toIndex ⟨e, cols⟩ = execute H (runCalls H {} calls₁).2.toIndex ⟨e, cols⟩ :=
  (groupBy_eq_spec_perm H (rows_perm hp h₂).1.symm e cols hcols hwf hinj hD hg).trans
    (C02.groupBy_eq_spec H _ e cols hcols hwf hinj hD hg).symm

end

/-! ### non-vacuity and boundary examples -/

/-- goroutine 0 adds copies of `exA`, goroutine 1 copies of `exB` -/
def exA : Row := [([97], [49])]
def exB : Row := [([98], [50])]

/-- Round-robin schedule of two goroutines, `2k` calls in total (any hash): the commit count and the sizes of the
    committed bucket and of the open transaction (one key per row here) are those of `commitCount` / `committedRows`. -/
theorem rr_even (H : Bytes → UInt64) (k : Nat) (hk : 2 * k ≤ 2 ^ 32) :
    let calls := (interleave (rrSched k) [List.replicate k exA, List.replicate k exB]).1
    let st := (runCallsBigTx H {} calls).2
    calls.length = 2 * k ∧ (runCallsBigTx H {} calls).1 = List.range (2 * k) ∧
    st.commits = commitCount (2 * k) ∧ st.committed.length = committedRows (2 * k) ∧
    st.pending.length = 2 * k - committedRows (2 * k) := by
  intro calls st
  have hc : calls = rrCalls exA exB k := congrArg Prod.fst (interleave_rr exA exB k)
  exact sizes_two_rows H exA exB ⟨_, rfl⟩ ⟨_, rfl⟩ calls (hc ▸ rrCalls_rows exA exB k) (2 * k)
    (hc ▸ rrCalls_length exA exB k) hk

/-- the same with `2k + 1` calls: goroutine 0 runs one more call, first -/
theorem rr_odd (H : Bytes → UInt64) (k : Nat) (hk : 2 * k + 1 ≤ 2 ^ 32) :
    let calls := (interleave (0 :: rrSched k) [exA :: List.replicate k exA, List.replicate k exB]).1
    let st := (runCallsBigTx H {} calls).2
    calls.length = 2 * k + 1 ∧ (runCallsBigTx H {} calls).1 = List.range (2 * k + 1) ∧
    st.commits = commitCount (2 * k + 1) ∧ st.committed.length = committedRows (2 * k + 1) ∧
    st.pending.length = 2 * k + 1 - committedRows (2 * k + 1) := by
  intro calls st
  have hc : calls = (0, exA) :: rrCalls exA exB k := congrArg Prod.fst (interleave_rr_odd exA exB k)
  refine sizes_two_rows H exA exB ⟨_, rfl⟩ ⟨_, rfl⟩ calls (hc ▸ fun r hr => ?_) (2 * k + 1)
    (hc ▸ congrArg (· + 1) (rrCalls_length exA exB k)) hk
  exact (List.mem_cons.mp hr).elim .inl (rrCalls_rows exA exB k r)

/-- the commit happens in the call that gets id 1000, i.e. the 1001st call; the next in the 2001st -/
example : (List.map commitCount [999, 1000, 1001, 1999, 2000, 2001, 2002]) = [0, 0, 1, 1, 1, 2, 2] := by decide
example : (List.map committedRows [999, 1000, 1001, 1999, 2000, 2001, 2002]) = [0, 0, 1001, 1001, 1001, 2001, 2001] := by
  decide
example : (List.map commitsAt [0, 999, 1000, 1001, 2000]) = [false, false, true, false, true] := by decide

/-- 999 calls of two goroutines: no commit, nothing committed, 999 keys pending -/
example (H : Bytes → UInt64) :
    let st := (runCallsBigTx H {} (interleave (0 :: rrSched 499) [exA :: List.replicate 499 exA, List.replicate 499 exB]).1).2
    st.commits = 0 ∧ st.committed.length = 0 ∧ st.pending.length = 999 :=
  (rr_odd H 499 (by decide)).2.2

/-- 1000 calls: still no commit (the ids are 0 … 999) -/
example (H : Bytes → UInt64) :
    let st := (runCallsBigTx H {} (interleave (rrSched 500) [List.replicate 500 exA, List.replicate 500 exB]).1).2
    st.commits = 0 ∧ st.committed.length = 0 ∧ st.pending.length = 1000 :=
  (rr_even H 500 (by decide)).2.2

/-- 1001 calls: the call with id 1000 committed everything -/
example (H : Bytes → UInt64) :
    let st := (runCallsBigTx H {} (interleave (0 :: rrSched 500) [exA :: List.replicate 500 exA, List.replicate 500 exB]).1).2
    st.commits = 1 ∧ st.committed.length = 1001 ∧ st.pending.length = 0 :=
  (rr_odd H 500 (by decide)).2.2

/-- 1999 calls: one commit, rows 0 … 1000 committed, 998 pending -/
example (H : Bytes → UInt64) :
    let st := (runCallsBigTx H {} (interleave (0 :: rrSched 999) [exA :: List.replicate 999 exA, List.replicate 999 exB]).1).2
    st.commits = 1 ∧ st.committed.length = 1001 ∧ st.pending.length = 998 :=
  (rr_odd H 999 (by decide)).2.2

/-- 2000 calls: still one commit (ids 0 … 1999), 999 pending -/
example (H : Bytes → UInt64) :
    let st := (runCallsBigTx H {} (interleave (rrSched 1000) [List.replicate 1000 exA, List.replicate 1000 exB]).1).2
    st.commits = 1 ∧ st.committed.length = 1001 ∧ st.pending.length = 999 :=
  (rr_even H 1000 (by decide)).2.2

/-- 2001 calls: the call with id 2000 committed again, nothing pending -/
example (H : Bytes → UInt64) :
    let st := (runCallsBigTx H {} (interleave (0 :: rrSched 1000) [exA :: List.replicate 1000 exA, List.replicate 1000 exB]).1).2
    st.commits = 2 ∧ st.committed.length = 2001 ∧ st.pending.length = 0 :=
  (rr_odd H 1000 (by decide)).2.2

/-- 2002 calls: two commits, one key pending -/
example (H : Bytes → UInt64) :
    let st := (runCallsBigTx H {} (interleave (rrSched 1001) [List.replicate 1001 exA, List.replicate 1001 exB]).1).2
    st.commits = 2 ∧ st.committed.length = 2001 ∧ st.pending.length = 1 :=
  (rr_even H 1001 (by decide)).2.2

/-- … and whatever the schedule did, `Flush` of the 2002-call run writes the sequential image of its rows -/
example (H : Bytes → UInt64) :
    let calls := (interleave (rrSched 1001) [List.replicate 1001 exA, List.replicate 1001 exB]).1
    flushTx (runCallsBigTx H {} calls).2 = BigWriter.image H (calls.map (·.2)) :=
  (big_flushed_image H _).1

/-- a small run computed outright: ids, committed and pending bucket (no commit below id 1000) -/
example :
    let calls := (interleave [1, 0, 1, 5, 0] [[exA, []], [exB]]).1
    calls = [(1, exB), (0, exA), (0, [])] ∧
    (runCallsBigTx C05.H0 {} calls).1 = [0, 1, 2] ∧
    (runCallsBigTx C05.H0 {} calls).2.committed = [] ∧
    (runCallsBigTx C05.H0 {} calls).2.pending = [[0,0,0,0,0,0,0,0,0,0,0,0], [0,0,0,0,0,0,0,0,0,0,0,1]] ∧
    (runCallsBigTx C05.H0 {} calls).2.commits = 0 := ⟨rfl, rfl, rfl, by decide, rfl⟩

/-- two schedules of the same queues that differ in call order, and the renaming `p` between their row ids:
    schedule 1 alternates goroutines 0, 1, 0; schedule 2 runs goroutine 1 first -/
def exQueues : List (List Row) := [[[([97], [49])], []], [[([97], [50]), ([98], [50])]]]
def exCalls₁ : List (Nat × Row) := (interleave [0, 1, 0] exQueues).1
def exCalls₂ : List (Nat × Row) := (interleave [1, 0, 0] exQueues).1
def exP : List Nat := [1, 0, 2]

theorem exCalls₁_rows : exCalls₁.map (·.2) = C01.exRows := by decide
theorem exP_perm : exP.Perm (List.range exCalls₁.length) := by decide
theorem exCalls₂_rows : exCalls₂.map (·.2) = permRows exP (exCalls₁.map (·.2)) := by decide

/-- the call orders really differ: row 0 of execution 2 is row 1 of execution 1 -/
example : exCalls₁.map (·.2) ≠ exCalls₂.map (·.2) := by decide

/-- `perm_bits` instantiated: row id 1 of execution 2 is row id `exP[1] = 0` of execution 1 -/
example (h : UInt64) :
    (((runCalls C01.toyH {} exCalls₂).2.toIndex.getCol h).getD 0).testBit 1
      = (((runCalls C01.toyH {} exCalls₁).2.toIndex.getCol h).getD 0).testBit 0 :=
  (perm_bits C01.toyH exCalls₁ exCalls₂ exP exP_perm exCalls₂_rows h 1 (by decide)).1

example (h : UInt64) :
    (((txIndex (runCallsBigTx C01.toyH {} exCalls₂).2).getCol h).getD 0).testBit 1
      = (((txIndex (runCallsBigTx C01.toyH {} exCalls₁).2).getCol h).getD 0).testBit 0 :=
  (perm_bits C01.toyH exCalls₁ exCalls₂ exP exP_perm exCalls₂_rows h 1 (by decide)).2 (by decide)

/-- the hypotheses of `perm_count` / `count_correct_any_schedule` hold for the executed rows (those of `C01`) -/
example : (∀ c ∈ C01.exExpr.columns, c ∈ columnsOf (exCalls₁.map (·.2))) ∧ C01.exExpr.arityPos = true ∧
    NoCollision C01.toyH (exCalls₁.map (·.2)) C01.exExpr.pairs := by
  rw [exCalls₁_rows]
  refine ⟨by decide, by decide, ?_⟩
  unfold NoCollision; decide

/-- both executions, both writers: the count of `a=1 OR NOT b=2` is 2 -/
example : execute C01.toyH (runCalls C01.toyH {} exCalls₂).2.toIndex ⟨C01.exExpr, []⟩ = some ⟨2, []⟩ := by
  decide +kernel

example : execute C01.toyH (txIndex (runCallsBigTx C01.toyH {} exCalls₁).2) ⟨C01.exExpr, []⟩ = some ⟨2, []⟩ := by
  have := (count_correct_any_schedule C01.toyH [0, 1, 0] exQueues C01.exExpr
    (by show ∀ c ∈ _, c ∈ columnsOf (exCalls₁.map (·.2)); rw [exCalls₁_rows]; decide) (by decide)
    (by show NoCollision _ (exCalls₁.map (·.2)) _; rw [exCalls₁_rows]; unfold NoCollision; decide)).2 (by decide)
  exact (exCalls₁_rows ▸ this).trans (by decide)

/-- the stored (insertion ordered) schemas of the two executions really differ — column `a` lists its values in
    first-use order — which is why `perm_schema` states equality of `GetSchema` and equality up to order only -/
example : (runCalls C01.toyH {} exCalls₁).2.toIndex.schema ≠ (runCalls C01.toyH {} exCalls₂).2.toIndex.schema := by
  decide

example : getSchema (runCalls C01.toyH {} exCalls₂).2.toIndex = getSchema (runCalls C01.toyH {} exCalls₁).2.toIndex :=
  (perm_schema C01.toyH exCalls₁ exCalls₂ exP exP_perm exCalls₂_rows).1

end Updog.C18
