/-
C10 — formatting a query and parsing it back preserves its meaning; formatted text is stable.

Models: `Updog/Model/Parser.lean` (`lexAll`, `parseQuery`) and `Updog/Model/Formatter.lean`
(`fmtQuery`).  Helper developments: `Updog/Proofs/{Digits,Quote,FmtToks,ParseFmt,Norm,Stable,Meaning,C11Parsed}.lean`.

Vocabulary (all defined in the Proofs files):
* `WFQ q` — well-formed query: every column and group-by name is an identifier (`validIdent`:
  first byte a letter, rest letters/digits/underscore), every AND/OR has at least one operand, every
  leaf is a literal (`ph = 0`, any bytes as value) or a placeholder `1 ≤ ph ≤ 2147483647`.
* `norm e` — meaning-preserving normal form: nested nodes of the same operator flattened,
  single-operand AND/OR unwrapped, the (never printed, never used) value of a placeholder leaf erased.
  `norm_sound` below shows that trees with equal normal forms are satisfied by exactly the same rows
  under every binding of the placeholders.
* `N2 e` — every AND/OR in `e` has at least two operands.
-/
import Updog.Proofs.Stable
import Updog.Proofs.Meaning
import Updog.Proofs.C11Parsed
namespace Updog.C10
open Updog

/-! ### 1/2. formatted text is accepted, and parses to a query with the same meaning -/

/-- The text `QueryToString` produces for a well-formed query is accepted by `ParseQuery`. -/
theorem format_accepted (q : PQuery) (hq : WFQ q) : ∃ q', parseQuery (fmtQuery q) = some q' :=
  ⟨rpQ q, parseQuery_fmtQuery q hq⟩

/-- The parse result has the same normal form as the original expression and the same group-by list. -/
theorem roundtrip_meaning (q q' : PQuery) (hq : WFQ q) (h : parseQuery (fmtQuery q) = some q') :
    norm q'.expr = norm q.expr ∧ q'.groupBy = q.groupBy := by
  rw [parseQuery_fmtQuery q hq] at h
  cases h
  exact ⟨(norm_rp.1 q.expr).1, rfl⟩

/-- 1 and 2 in one statement. -/
theorem roundtrip (q : PQuery) (hq : WFQ q) :
    ∃ q', parseQuery (fmtQuery q) = some q' ∧ norm q'.expr = norm q.expr ∧ q'.groupBy = q.groupBy :=
  ⟨rpQ q, parseQuery_fmtQuery q hq, (norm_rp.1 q.expr).1, rfl⟩

/-- `norm` really is meaning-preserving: trees with the same normal form need the same number of
    arguments and, for every argument list and every row, are satisfied by the same rows
    (`sat` of the specification, through the server's conversion `toExpr`). -/
theorem norm_sound (e₁ e₂ : PExpr) (h : norm e₁ = norm e₂) :
    maxPh e₁ = maxPh e₂ ∧
    ∀ (args : List Bytes) (r : Row), sat r (toExpr (subst args e₁)) = sat r (toExpr (subst args e₂)) :=
  ⟨maxPh_eq_of_norm_eq h, fun args r => by
    show sem args r e₁ = sem args r e₂
    rw [← (sem_norm args r).1 e₁, h, (sem_norm args r).1 e₂]⟩

/-- `norm` is a normal form: normalising twice changes nothing. -/
theorem norm_idempotent (e : PExpr) : norm (norm e) = norm e := norm_of_NF.1 _ (norm_NF.1 e)

/-- Semantic form of the round trip: the re-parsed query binds the same placeholders, selects the same
    rows under every binding, and groups by the same columns. -/
theorem roundtrip_semantics (q q' : PQuery) (hq : WFQ q) (h : parseQuery (fmtQuery q) = some q') :
    maxPh q'.expr = maxPh q.expr ∧ q'.groupBy = q.groupBy ∧
    ∀ (args : List Bytes) (r : Row),
      sat r (toExpr (subst args q'.expr)) = sat r (toExpr (subst args q.expr)) := by
  obtain ⟨hn, hg⟩ := roundtrip_meaning q q' hq h
  obtain ⟨hm, hs⟩ := norm_sound _ _ hn
  exact ⟨hm, hg, hs⟩

/-- The parse result is again well-formed, and all its AND/OR nodes have at least two operands (as is every
    query the parser returns, for whatever text). -/
theorem roundtrip_wf (q q' : PQuery) (h : parseQuery (fmtQuery q) = some q') : WFQ q' ∧ N2 q'.expr :=
  ⟨parseQuery_wf h, parseToks_nary2 h⟩

/-! ### 3. formatted text is stable from the second generation on -/

/-- Formatting a well-formed query whose AND/OR nodes all have at least two operands, parsing, and
    formatting again reproduces the text. -/
theorem format_parse_format (q q' : PQuery) (hq : WFQ q) (hn : N2 q.expr)
    (h : parseQuery (fmtQuery q) = some q') : fmtQuery q' = fmtQuery q := by
  rw [parseQuery_fmtQuery q hq] at h
  cases h
  show fmtExpr (rp q.expr) ++ _ = fmtExpr q.expr ++ _
  rw [(fmt_rp.1 _ hq.expr hn).1]
  rfl

/-- Second-generation text is a fixed point of parse-then-format. -/
theorem format_stable (q q' q'' : PQuery) (hq : WFQ q) (h : parseQuery (fmtQuery q) = some q')
    (h' : parseQuery (fmtQuery q') = some q'') : fmtQuery q'' = fmtQuery q' := by
  obtain ⟨hw, hn⟩ := roundtrip_wf q q' h
  exact format_parse_format q' q'' hw hn h'

/-- … and the second parse always succeeds. -/
theorem format_fixpoint (q q' : PQuery) (hq : WFQ q) (h : parseQuery (fmtQuery q) = some q') :
    ∃ q'', parseQuery (fmtQuery q') = some q'' ∧ fmtQuery q'' = fmtQuery q' := by
  obtain ⟨hw, _⟩ := roundtrip_wf q q' h
  obtain ⟨q'', h'⟩ := format_accepted q' hw
  exact ⟨q'', h', format_stable q q' q'' hq h h'⟩

/-! ### 4. quoting -/

/-- `decodeString` undoes the quote doubling of `formatString`. -/
theorem quote_roundtrip (v : Bytes) : unescape (escape v) = v := unescape_escape v

/-- `quoteValue v` is the escaped body between two quotes. -/
theorem quoteValue_body (v : Bytes) : quoteValue v = 34 :: escape v ++ [34] := rfl

/-- The lexer reads a quoted value (any bytes: quotes, newlines, non-ASCII, empty) followed by
    anything but another quote back as exactly one `value` token carrying the escaped body. -/
theorem lex_quoted_value (v rest : Bytes) (hrest : ∀ r, rest ≠ 34 :: r) :
    lexAll (quoteValue v ++ rest) = .value (escape v) :: lexAll rest :=
  lexAll_quoteValue v fun h => let ⟨r, e⟩ := List.head?_eq_some_iff.mp h; hrest r e

/-! ### 5. placeholders -/

/-- `natDigits n` is a non-empty string of ASCII digits … -/
theorem natDigits_digits (n : Nat) : natDigits n ≠ [] ∧ ∀ b ∈ natDigits n, isDigit b = true :=
  ⟨natDigits_ne_nil n, natDigits_all_digit n⟩

/-- … whose value is `n` … -/
theorem natDigits_value (n : Nat) : digitsVal (natDigits n) = n := digitsVal_natDigits n

/-- … so an int32 placeholder number survives `%d` and `decodePlaceholder`. -/
theorem placeholder_roundtrip (n : Nat) (h : n ≤ 2147483647) : decodePlaceholder (natDigits n) = n :=
  decodePlaceholder_natDigits h

/-- The lexer reads `$n` followed by a non-digit back as one `placeholder` token. -/
theorem lex_placeholder (n : Nat) (rest : Bytes) (hr : ∀ x r, rest = x :: r → isDigit x = false) :
    lexAll (36 :: natDigits n ++ rest) = .placeholder (natDigits n) :: lexAll rest :=
  lexAll_placeholder (natDigits_all_digit n) fun x hx => let ⟨r, e⟩ := List.head?_eq_some_iff.mp hx; hr x r e

/-- The lexer reads a valid identifier followed by a non-identifier byte back as one `field` token. -/
theorem lex_field (c rest : Bytes) (hc : validIdent c = true)
    (hr : ∀ x r, rest = x :: r → isFieldChar x = false) : lexAll (c ++ rest) = .field c :: lexAll rest :=
  lexAll_identField hc fun x hx => let ⟨r, e⟩ := List.head?_eq_some_iff.mp hx; hr x r e

/-- The tokens of the formatted text of a well-formed query. -/
theorem lex_formatted (q : PQuery) (hq : WFQ q) : lexAll (fmtQuery q) = toksQ q ++ [.eof] :=
  lexAll_fmtQuery q hq

/-! ### 6. non-vacuity -/

/-- `( a = "x""y" | ^ ( b = "" ) ) & c = $3 ; g, h1` with redundant structure: a single-operand AND
    under NOT, and a placeholder leaf that carries a (never printed) value. -/
def exQ : PQuery :=
  ⟨.and [.or [.eq [97] [120, 34, 121] 0, .not (.and [.eq [98] [] 0])], .eq [99] [1, 2] 3],
   [[103], [104, 49]]⟩

/-- what the parser returns for the text of `exQ` -/
def exQ' : PQuery :=
  ⟨.and [.or [.eq [97] [120, 34, 121] 0, .not (.eq [98] [] 0)], .eq [99] [] 3], [[103], [104, 49]]⟩

theorem natDigits_three : natDigits 3 = [51] := by rw [natDigits_eq]; decide

theorem exQ_wf : WFQ exQ := by
  constructor
  · simp [exQ, WFE, WFL, validIdent, isAlpha]
  · decide

/-- the formatted text, byte for byte: `( a = "x""y" | ^ ( b = "" ) ) & c = $3 ; g, h1` -/
theorem exQ_text : fmtQuery exQ =
    [40, 32, 97, 32, 61, 32, 34, 120, 34, 34, 121, 34, 32, 124, 32, 94, 32, 40, 32, 98, 32, 61, 32, 34, 34,
     32, 41, 32, 41, 32, 38, 32, 99, 32, 61, 32, 36, 51, 32, 59, 32, 103, 44, 32, 104, 49] := by
  simp only [exQ, fmtQuery, fmtExpr, fmtAnd, fmtOr, natDigits_three]
  decide

/-- its parse result (the quote inside the value and the group-by list survive; the single-operand
    AND and the unused value `[1, 2]` of the placeholder leaf do not) -/
theorem exQ_parse : parseQuery (fmtQuery exQ) = some exQ' := by
  rw [parseQuery_fmtQuery exQ exQ_wf]
  simp [rpQ, exQ, exQ', rp, rpCh, rpItem, mk1, rpLeaf, mkOp]

/-- the same, stated on the literal text -/
example : parseQuery
    [40, 32, 97, 32, 61, 32, 34, 120, 34, 34, 121, 34, 32, 124, 32, 94, 32, 40, 32, 98, 32, 61, 32, 34, 34,
     32, 41, 32, 41, 32, 38, 32, 99, 32, 61, 32, 36, 51, 32, 59, 32, 103, 44, 32, 104, 49] = some exQ' := by
  rw [← exQ_text]; exact exQ_parse

/-- hypotheses of `roundtrip_meaning`, `roundtrip_semantics`, `roundtrip_wf`, `format_fixpoint` are
    satisfiable, and the exact tree is *not* preserved (only its normal form is) -/
example : WFQ exQ ∧ parseQuery (fmtQuery exQ) = some exQ' ∧ exQ'.expr ≠ exQ.expr ∧
    norm exQ'.expr = norm exQ.expr :=
  ⟨exQ_wf, exQ_parse, by simp [exQ, exQ'], (roundtrip_meaning _ _ exQ_wf exQ_parse).1⟩

/-- first-generation text need not be stable: `^ ( b = "" )` re-formats as `^ b = ""`;
    this is why `format_stable` speaks about the second generation -/
example : fmtQuery exQ' ≠ fmtQuery exQ := by
  rw [exQ_text]
  simp only [exQ', fmtQuery, fmtExpr, fmtAnd, fmtOr, natDigits_three]
  decide

/-- hypotheses of `format_stable` are satisfiable: `exQ'` is the second generation and a fixed point -/
example : parseQuery (fmtQuery exQ') = some exQ' := by
  rw [parseQuery_fmtQuery exQ' (roundtrip_wf _ _ exQ_parse).1]
  simp [rpQ, exQ', rp, rpCh, rpItem, mk1, rpLeaf, mkOp]

/-- hypotheses of `format_parse_format` are satisfiable -/
example : WFQ exQ' ∧ N2 exQ'.expr := roundtrip_wf _ _ exQ_parse

/-- quoting: `x"y` ↦ `"x""y"`, and back -/
example : quoteValue [120, 34, 121] = [34, 120, 34, 34, 121, 34] ∧
    unescape (escape [120, 34, 121]) = [120, 34, 121] := ⟨by decide, quote_roundtrip _⟩

/-- placeholders: the largest int32 -/
example : decodePlaceholder (natDigits 2147483647) = 2147483647 := placeholder_roundtrip _ (by decide)

/-! ### the well-formedness hypothesis is necessary -/

/-- A column name that is not an identifier is printed verbatim (the formatter neither validates nor
    escapes it): the one-leaf query with column `a = "1" | b` and value `2` prints as
    `a = "1" | b = "2"`, which parses — to a different query. -/
example : ∃ q q', ¬ WFQ q ∧ parseQuery (fmtQuery q) = some q' ∧ norm q'.expr ≠ norm q.expr := by
  refine ⟨⟨.eq [97, 32, 61, 32, 34, 49, 34, 32, 124, 32, 98] [50] 0, []⟩,
    ⟨.or [.eq [97] [49] 0, .eq [98] [50] 0], []⟩, ?_, ?_, ?_⟩
  · exact fun h => absurd h.expr.1 (by decide)
  · have hw : WFQ ⟨.or [.eq [97] [49] 0, .eq [98] [50] 0], []⟩ :=
      ⟨by simp [WFE, WFL, validIdent, isAlpha], by simp⟩
    have ht : fmtQuery ⟨.eq [97, 32, 61, 32, 34, 49, 34, 32, 124, 32, 98] [50] 0, []⟩ =
        fmtQuery ⟨.or [.eq [97] [49] 0, .eq [98] [50] 0], []⟩ := by
      decide
    rw [ht, parseQuery_fmtQuery _ hw]
    simp [rpQ, rp, rpCh, rpItem, mk1, rpLeaf, mkOp]
  · simp [norm, normCh, spliceOp, mk1, rpLeaf, mkOp]

/-- An AND without operands prints as the empty text, which is rejected. -/
example : parseQuery (fmtQuery ⟨.and [], []⟩) = none := by
  have : fmtQuery ⟨.and [], []⟩ = [] := by decide
  rw [this, parseQuery, lexAll_nil]
  rfl

end Updog.C10
