/-
C13 — the gRPC service answers each query of a batch like the library, in order.
-/
import Updog.Model.Server
namespace Updog.C13
variable (H : Bytes → UInt64)

/-- conversion between protobuf and library results is lossless -/
theorem convert_lossless (r : Result) (qid : Int) : toResult (toProtobufResult r qid) = r := by
  have hf : ∀ l : List (Bytes × Bytes), l.map (fun f => (f.1, f.2)) = l := List.map_id'' fun _ => rfl
  simp only [toResult, toProtobufResult, List.map_map]
  exact congrArg (Result.mk r.count) (List.map_id'' (fun g => by simp only [Function.comp, hf]) _)

theorem convert_keeps_id (r : Result) (qid : Int) : (toProtobufResult r qid).queryId = qid := rfl

/-- the id the response carries for the query at 1-based position `pos` -/
def expectedId (q : WQuery) (pos : Nat) : Int := if q.id = 0 then (pos : Int) else q.id

theorem serverQuery_cons_ok {ix : Index} {q : WQuery} {rest : List WQuery} {pos : Nat} {r : Result}
    {rs : List (Int × Result)} (hq : serverExecute H ix q = .ok r) (hr : serverQuery H ix rest (pos + 1) = .ok rs) :
    serverQuery H ix (q :: rest) pos = .ok ((if q.id = 0 then (pos : Int) else q.id, r) :: rs) := by
  rw [serverQuery, hq, hr]

theorem serverQuery_cons_inv {ix : Index} {q : WQuery} {rest : List WQuery} {pos : Nat} {rs : List (Int × Result)}
    (h : serverQuery H ix (q :: rest) pos = .ok rs) :
    ∃ r rs', serverExecute H ix q = .ok r ∧ serverQuery H ix rest (pos + 1) = .ok rs' ∧
      rs = (if q.id = 0 then (pos : Int) else q.id, r) :: rs' := by
  rw [serverQuery] at h
  cases hq : serverExecute H ix q with
  | ok r =>
    cases hr : serverQuery H ix rest (pos + 1) with
    | ok rs' => rw [hq, hr] at h; exact ⟨r, rs', rfl, rfl, (Outcome.ok.inj h).symm⟩
    | _ => rw [hq, hr] at h; cases h
  | _ => rw [hq] at h; cases h

/-- the response holds exactly one result per query, in request order, each tagged with the query's id
    (or its 1-based position when the id is 0), each equal to what the library returns for that query -/
theorem server_batch (ix : Index) (qs : List WQuery) (pos : Nat) (rs : List (Int × Result))
    (h : serverQuery H ix qs pos = .ok rs) :
    rs.length = qs.length ∧
    ∀ i (hi : i < qs.length), ∃ r, serverExecute H ix qs[i] = .ok r ∧ rs[i]? = some (expectedId qs[i] (pos + i), r) := by
  induction qs generalizing pos rs with
  | nil =>
    cases Outcome.ok.inj h
    exact ⟨rfl, fun i hi => nomatch hi⟩
  | cons q rest ih =>
    obtain ⟨r, rs', hq, hr, rfl⟩ := serverQuery_cons_inv H h
    obtain ⟨hl, hall⟩ := ih (pos + 1) rs' hr
    refine ⟨congrArg (· + 1) hl, fun i hi => ?_⟩
    cases i with
    | zero => exact ⟨r, hq, rfl⟩
    | succ j =>
      obtain ⟨r', h1, h2⟩ := hall j (Nat.lt_of_succ_lt_succ hi)
      exact ⟨r', h1, by rw [List.getElem?_cons_succ, h2, Nat.add_right_comm, Nat.add_assoc]; rfl⟩

/-- if any query of the batch is invalid the call fails instead of returning a partial response -/
theorem server_fails_on_invalid (ix : Index) (qs : List WQuery) (pos : Nat)
    (h : ∃ q ∈ qs, serverExecute H ix q = .error) : ∀ rs, serverQuery H ix qs pos ≠ .ok rs := by
  intro rs hok
  obtain ⟨q, hq, herr⟩ := h
  obtain ⟨_, hall⟩ := server_batch H ix qs pos rs hok
  obtain ⟨i, hi, rfl⟩ := List.getElem_of_mem hq
  obtain ⟨r, h1, _⟩ := hall i hi
  rw [herr] at h1
  simp at h1

/-- conversely, a batch of valid queries always gets a complete response -/
theorem server_answers_valid (ix : Index) (qs : List WQuery) (pos : Nat)
    (h : ∀ q ∈ qs, ∃ r, serverExecute H ix q = .ok r) : ∃ rs, serverQuery H ix qs pos = .ok rs := by
  induction qs generalizing pos with
  | nil => exact ⟨[], rfl⟩
  | cons q rest ih =>
    obtain ⟨r, hr⟩ := h q List.mem_cons_self
    obtain ⟨rs, hrs⟩ := ih (pos + 1) (fun q' hq' => h q' (List.mem_cons_of_mem _ hq'))
    exact ⟨_, serverQuery_cons_ok H hr hrs⟩

example : expectedId ⟨0, none, []⟩ 3 = 3 ∧ expectedId ⟨7, none, []⟩ 3 = 7 := by decide

end Updog.C13
