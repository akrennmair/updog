/-
C02 — the group-by result is exactly SQL `GROUP BY` with `COUNT(*) > 0`, in sorted order.
Property theorems only; helper lemmas live in Updog/Proofs (Schema, Sort, GroupBy).
-/
import Updog.Proofs.GroupBy
import Updog.Props.C01
namespace Updog.C02

variable (H : Bytes → UInt64)

theorem specGroups_eq (rows : List Row) (e : Expr) (cols : List Bytes)
    (hg : ∀ c ∈ cols, c ∈ columnsOf rows) :
    specGroups rows e cols = some (if cols.isEmpty then [] else
      (product (cols.map fun c => (c, sortedDistinct rows c))).filterMap fun t =>
        let n := groupCount rows e t
        if n = 0 then none else some (t, n)) := by
  unfold specGroups
  have h1 : (cols.any fun c => !(columnsOf rows).contains c) = false := by
    rw [List.any_eq_false]
    intro c hc
    simpa using hg c hc
  rw [h1]
  cases cols <;> rfl

theorem specExecute_eq (rows : List Row) (e : Expr) (cols : List Bytes)
    (hcols : ∀ c ∈ e.columns, c ∈ columnsOf rows) (hg : ∀ c ∈ cols, c ∈ columnsOf rows) :
    ∃ groups, specGroups rows e cols = some groups ∧
      specExecute rows ⟨e, cols⟩ = some ⟨specCount rows e, groups⟩ := by
  have h1 : (e.columns.any fun c => !(columnsOf rows).contains c) = false := by
    rw [List.any_eq_false]
    intro c hc
    simpa using hcols c hc
  refine ⟨_, specGroups_eq rows e cols hg, ?_⟩
  simp only [specExecute, h1, specGroups_eq rows e cols hg]
  rfl

/-- **Main theorem.** For every dataset, every well-formed expression over columns of the data, every
group-by list (any length, repetitions allowed) of columns of the data, and every hash without a collision
between a data pair and a different tested pair or between two different data pairs: `Execute` on the
flushed-and-opened index returns exactly the answer of the specification — the total count and
`SELECT cols, COUNT(*) … GROUP BY cols HAVING COUNT(*) > 0 ORDER BY cols`. -/
theorem groupBy_eq_spec (rows : List Row) (e : Expr) (cols : List Bytes)
    (hcols : ∀ c ∈ e.columns, c ∈ columnsOf rows) (hwf : e.arityPos = true)
    (hinj : NoCollision H rows e.pairs) (hD : DataNoCollision H rows)
    (hg : ∀ c ∈ cols, c ∈ columnsOf rows) :
    execute H (Writer.addRows H {} rows).toIndex ⟨e, cols⟩ = specExecute rows ⟨e, cols⟩ := by
  obtain ⟨b, hb, hbits⟩ := eval_correct H rows e hcols hwf hinj
  obtain ⟨fields, hf, hmap, hok⟩ := populateGroupBy_some H rows cols hg
  obtain ⟨groups, hgroups, hspec⟩ := specExecute_eq rows e cols hcols hg
  rw [hspec, execute]
  show (match populateGroupBy (Writer.addRows H {} rows).schema cols with
    | none => none
    | some fields => _) = _
  rw [hf]
  simp only [hb, popcount_eq_filter_length b rows (sat · e) hbits]
  refine congrArg (fun g => some (Result.mk (specCount rows e) g)) ?_
  rw [specGroups_eq rows e cols hg, Option.some.injEq] at hgroups
  rw [← hgroups]
  cases cols with
  | nil => rw [List.map_eq_nil_iff.mp hmap]; rfl
  | cons c cols =>
    have hne : fields ≠ [] := fun h => by rw [h] at hmap; cases hmap
    rw [groupBy_eq H _ fields hok hne b, hmap]
    refine filterMap_congr' fun t ht => ?_
    dsimp only
    rw [popcount_tupleBm H rows hD e b hbits t fun p hp =>
      mem_sortedDistinct.mp (((mem_product_map (sortedDistinct rows) (c :: cols) t).mp ht).2 p hp)]

/-- explicit form of the main theorem: the count is the number of satisfying rows, the groups are
the specification's groups -/
theorem execute_eq_some (rows : List Row) (e : Expr) (cols : List Bytes)
    (hcols : ∀ c ∈ e.columns, c ∈ columnsOf rows) (hwf : e.arityPos = true)
    (hinj : NoCollision H rows e.pairs) (hD : DataNoCollision H rows)
    (hg : ∀ c ∈ cols, c ∈ columnsOf rows) :
    ∃ groups, specGroups rows e cols = some groups ∧
      execute H (Writer.addRows H {} rows).toIndex ⟨e, cols⟩ = some ⟨specCount rows e, groups⟩ := by
  rw [groupBy_eq_spec H rows e cols hcols hwf hinj hD hg]
  exact specExecute_eq rows e cols hcols hg

/-- A group-by column that occurs in no row makes `Execute` fail (whatever the expression). -/
theorem unknown_groupby_column_errors (rows : List Row) (e : Expr) (cols : List Bytes) (c : Bytes)
    (hc : c ∈ cols) (hno : c ∉ columnsOf rows) :
    execute H (Writer.addRows H {} rows).toIndex ⟨e, cols⟩ = none := by
  have := populateGroupBy_none (Writer.addRows H {} rows).schema cols c hc
    ((schema_col_none_iff H rows c).mpr hno)
  simp only [execute, Writer.toIndex] at this ⊢
  rw [this]

/-- Without group-by columns there are no groups (not one group with the empty tuple). -/
theorem empty_groupby_no_groups (ix : Index) (e : Expr) (res : Result)
    (h : execute H ix ⟨e, []⟩ = some res) : res.groups = [] := by
  simp only [execute, populateGroupBy] at h
  cases hev : eval H ix e with
  | none => rw [hev] at h; simp at h
  | some bm =>
    rw [hev] at h
    simp only [Option.some.injEq] at h
    rw [← h]; rfl

/-! ### the SQL reading of the result, independent of `product` -/

section sql
variable (rows : List Row) (e : Expr) (cols : List Bytes)
  (hcols : ∀ c ∈ e.columns, c ∈ columnsOf rows) (hwf : e.arityPos = true)
  (hinj : NoCollision H rows e.pairs) (hD : DataNoCollision H rows)
  (hg : ∀ c ∈ cols, c ∈ columnsOf rows) (hne : cols ≠ [])
  (res : Result) (hres : execute H (Writer.addRows H {} rows).toIndex ⟨e, cols⟩ = some res)
include hcols hwf hinj hD hg hne hres

theorem groups_eq :
    res.groups = (product (cols.map fun c => (c, sortedDistinct rows c))).filterMap fun t =>
      let n := groupCount rows e t
      if n = 0 then none else some (t, n) := by
  obtain ⟨groups, hsg, hex⟩ := execute_eq_some H rows e cols hcols hwf hinj hD hg
  rw [hex] at hres
  simp only [Option.some.injEq] at hres
  rw [← hres]
  rw [specGroups_eq rows e cols hg] at hsg
  have he : cols.isEmpty = false := by
    cases cols with
    | nil => exact absurd rfl hne
    | cons _ _ => rfl
  simp only [he, Bool.false_eq_true, if_false, Option.some.injEq] at hsg
  exact hsg.symm

/-- **Membership (3a).** `(t, n)` is a group of the result iff `t` names exactly the listed columns in
list order (one value each), `n` is the number of rows that satisfy the expression and carry all values
of `t`, and `n > 0`. So no group has count 0, every non-empty combination is present with its exact count,
and rows lacking a listed column are in no group. -/
theorem mem_groups_iff (t : Fields) (n : Nat) :
    (t, n) ∈ res.groups ↔ t.map (·.1) = cols ∧ n = groupCount rows e t ∧ 0 < n := by
  rw [groups_eq H rows e cols hcols hwf hinj hD hg hne res hres, List.mem_filterMap]
  constructor
  · rintro ⟨u, hu, h⟩
    by_cases hz : groupCount rows e u = 0
    · simp [hz] at h
    · simp only [hz, if_false, Option.some.injEq, Prod.mk.injEq] at h
      obtain ⟨h1, h2⟩ := h
      subst h1 h2
      exact ⟨((mem_product_map _ cols u).mp hu).1, rfl, Nat.pos_of_ne_zero hz⟩
  · rintro ⟨h1, h2, h3⟩
    subst h2
    refine ⟨t, ?_, by simp [Nat.ne_of_gt h3]⟩
    rw [mem_product_map]
    refine ⟨h1, ?_⟩
    intro p hp
    rw [mem_sortedDistinct]
    obtain ⟨r, hr, _, hall⟩ := exists_row_of_groupCount_pos h3
    simp only [pairsOf, List.mem_flatMap, id]
    exact ⟨r, hr, hall p hp⟩

/-- **Columns (3c).** every group names the listed columns, in list order. -/
theorem groups_columns : ∀ g ∈ res.groups, g.1.map (·.1) = cols := by
  intro g hgm
  exact ((mem_groups_iff H rows e cols hcols hwf hinj hD hg hne res hres g.1 g.2).mp hgm).1

/-- no group has count 0 -/
theorem groups_count_pos : ∀ g ∈ res.groups, 0 < g.2 := by
  intro g hgm
  exact ((mem_groups_iff H rows e cols hcols hwf hinj hD hg hne res hres g.1 g.2).mp hgm).2.2

/-- **Order (3b).** the value tuples of the groups are strictly ascending in the lexicographic order
induced by byte-wise `<` (first listed column most significant). -/
theorem groups_strictly_ascending :
    (res.groups.map fun g => g.1.map (·.2)).Pairwise fun a b => lexLt a b = true := by
  rw [groups_eq H rows e cols hcols hwf hinj hD hg hne res hres, List.pairwise_map]
  have hp := product_pairwise_lex (cols.map fun c => (c, sortedDistinct rows c)) (by
    intro cv hcv
    simp only [List.mem_map] at hcv
    obtain ⟨c, _, rfl⟩ := hcv
    exact sortedDistinct_strictSorted rows c)
  apply List.Pairwise.filterMap _ _ hp
  intro t u htu a ha b hb
  by_cases h1 : groupCount rows e t = 0
  · simp [h1] at ha
  · by_cases h2 : groupCount rows e u = 0
    · simp [h2] at hb
    · simp only [h1, h2, if_false, Option.some.injEq] at ha hb
      subst ha hb
      exact htu

/-- hence no value tuple appears twice -/
theorem groups_tuples_nodup : (res.groups.map fun g => g.1.map (·.2)).Nodup := by
  apply List.Pairwise.imp _ (groups_strictly_ascending H rows e cols hcols hwf hinj hD hg hne res hres)
  intro a b hab heq
  subst heq
  rw [lexLt_irrefl] at hab
  exact Bool.noConfusion hab

/-- with a repeated group-by column (e.g. `cols = [a, a]`) and rows that are maps (one value per key),
every group gives the repeated column the same value at all its positions: the mixed tuples have
count 0 and are absent -/
theorem repeated_column_same_value (hmap : ∀ r ∈ rows, (r.map (·.1)).Nodup) :
    ∀ g ∈ res.groups, ∀ p ∈ g.1, ∀ q ∈ g.1, p.1 = q.1 → p.2 = q.2 := by
  intro g hgm p hp q hq hk
  have h := (mem_groups_iff H rows e cols hcols hwf hinj hD hg hne res hres g.1 g.2).mp hgm
  have hpos : 0 < groupCount rows e g.1 := by rw [← h.2.1]; exact h.2.2
  obtain ⟨r, hr, _, hall⟩ := exists_row_of_groupCount_pos hpos
  rw [eq_of_mem_of_nodup_keys (hmap r hr) (hall p hp) (hall q hq) hk]

end sql

/-! ### non-vacuity -/

/-- column `a` = [97], column `b` = [98] -/
def exRows : List Row :=
  [[([97], [50]), ([98], [49])], [([97], [49]), ([98], [49])], [([97], [50])], [([98], [51])]]
def exExpr : Expr := .not (.eq [98] [51])

def exCols : List Bytes := [[97], [98], [97]]

theorem ex_noCollision : NoCollision C01.toyH exRows exExpr.pairs := by unfold NoCollision; decide
theorem ex_dataNoCollision : DataNoCollision C01.toyH exRows := by unfold DataNoCollision; decide
theorem ex_groupCols : ∀ c ∈ exCols, c ∈ columnsOf exRows := by decide

/-- a concrete dataset, expression and group-by list (with a repeated column) meet all hypotheses -/
example : (∀ c ∈ exExpr.columns, c ∈ columnsOf exRows) ∧ exExpr.arityPos = true ∧
    NoCollision C01.toyH exRows exExpr.pairs ∧ DataNoCollision C01.toyH exRows ∧
    (∀ c ∈ [[97], [98], [97]], c ∈ columnsOf exRows) := by
  exact ⟨by decide, by decide, ex_noCollision, ex_dataNoCollision, ex_groupCols⟩

/-- rows 0, 1, 2 satisfy `NOT b=3`; row 2 has no `b` and is in no group; the tuples with two different
`a` values have count 0 and are absent; the groups come in ascending order -/
def exResult : Result :=
  ⟨3, [([([97], [49]), ([98], [49]), ([97], [49])], 1), ([([97], [50]), ([98], [49]), ([97], [50])], 1)]⟩

theorem exSd97 : sortedDistinct exRows [97] = [[49], [50]] :=
  sortedDistinct_eq_of (by unfold StrictSorted; decide) (by decide) (by decide)
theorem exSd98 : sortedDistinct exRows [98] = [[49], [51]] :=
  sortedDistinct_eq_of (by unfold StrictSorted; decide) (by decide) (by decide)

/-- the concrete result, obtained through the main theorem -/
theorem ex_execute :
    execute C01.toyH (Writer.addRows C01.toyH {} exRows).toIndex ⟨exExpr, exCols⟩ = some exResult := by
  rw [groupBy_eq_spec C01.toyH exRows exExpr exCols (by decide) (by decide) ex_noCollision ex_dataNoCollision
    ex_groupCols]
  simp only [specExecute, specGroups, exCols, List.map, exSd97, exSd98]
  decide

/-- the SQL-reading corollaries apply to it (`cols ≠ []`, successful run) -/
example : (([([97], [50]), ([98], [49]), ([97], [50])] : Fields), 1) ∈ exResult.groups ↔
    ([([97], [50]), ([98], [49]), ([97], [50])] : Fields).map (·.1) = exCols ∧
    1 = groupCount exRows exExpr [([97], [50]), ([98], [49]), ([97], [50])] ∧ 0 < 1 :=
  mem_groups_iff C01.toyH exRows exExpr exCols (by decide) (by decide) ex_noCollision ex_dataNoCollision
    ex_groupCols (by decide) exResult ex_execute _ _

/-- an unknown group-by column: hypotheses satisfiable -/
example : execute C01.toyH (Writer.addRows C01.toyH {} exRows).toIndex ⟨exExpr, [[97], [99]]⟩ = none :=
  unknown_groupby_column_errors C01.toyH exRows exExpr [[97], [99]] [99] (by decide) (by decide)

end Updog.C02
