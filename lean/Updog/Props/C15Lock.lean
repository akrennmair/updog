/-
C15 (continued) — the file lock of `OpenIndex` / `Index.Close` as state: handles, holders, histories.

`C15.close_releases` and `C15.reopen_same` (Props/C15.lean) hold by `rfl`: `Model/Open.lean` has no lock state.
Here the same claims are proved on `Updog/Model/OpenLock.lean` (shared / exclusive flock per open file description,
handle identities, `idx.db == nil`, event histories), and the lock bit of that model is tied to the `closed` flag
that the REGENERATED `Gen.openIndexFromBoltDatabase` leaves in the bbolt record (Props/Gen/Open.lean).
Helper lemmas: `Updog/Proofs/OpenLock.lean`.
-/
import Updog.Props.C15
import Updog.Model.OpenLock
import Updog.Proofs.OpenLock
import Updog.Props.Gen.Open

namespace Updog.C15
open Updog Updog.OpenLock Updog.GeneratedEq Updog.Go.T3

/-! ### (i) a failed open does not keep the lock -/

/-- **A failed `OpenIndex` holds no lock.** In every reachable state (`WF`: handle ids in use are below the counter), for
    every file content, option set and set of earlier holders: if the attempt returns an error, the holders and the
    live indexes are exactly those from before and the attempt's own handle holds nothing; only a handle id is used up. -/
theorem failed_open_lock_free (st : LockState) (w : st.WF) (p : ProcId) (o : OpenOpts)
    (h : (openRO st p o).1 = .error) :
    (openRO st p o).2.holders = st.holders ∧ (openRO st p o).2.live = st.live ∧
    (openRO st p o).2.fs = st.fs ∧ (openRO st p o).2.holds st.next = false ∧
    (openRO st p o).2 = { st with next := st.next + 1 } := by
  have e := failed_open_state w h
  refine ⟨by rw [e], by rw [e], by rw [e], ?_, e⟩
  rw [e]
  simp only [LockState.holds, List.any_eq_false, beq_iff_eq]
  intro x hx; exact Nat.ne_of_lt (w.fresh x hx)

/-- the same without any assumption on the state: after a failed attempt no holder carries the attempt's handle id and
    every other holder is untouched -/
theorem failed_open_releases_own (st : LockState) (p : ProcId) (o : OpenOpts) (h : (openRO st p o).1 = .error) :
    (openRO st p o).2.holders = release st.holders st.next ∧ (openRO st p o).2.holds st.next = false := by
  by_cases hc : compatible .shared st.holders = true
  · have ho : openIndex st.fs o = (.error, false) := by
      apply openIndex_error_of_fst
      rw [openRO_outcome p o hc] at h
      cases h' : (openIndex st.fs o).1 <;> simp_all [Outcome.map]
    rw [openRO_error hc ho]
    exact ⟨rfl, holds_release _ _⟩
  · rw [openRO_blocked (by simpa using hc)] at h; cases h

/-- the lock of a bbolt database handle, read off the translator's `Bolt` record: held until `db.Close()` -/
def lockHeld (b : Bolt) : Bool := !b.closed

/-- **generated code, no options:** if the regenerated `OpenIndexFromBoltDatabase(db)` returns an error, it has closed `db`
    (`openIndex_noPreload_eq` and `released_of_error`) -/
theorem generated_failed_open_closes (X : Ext) (i n : Nat) (c : Buckets) (cs : List (List PutRec)) (hp : Heap) :
    let r := Gen.openIndexFromBoltDatabase X (idle i n c cs) hp (some i) []
    isErr r.2.2.2 = true → r.1.closed = true ∧ lockHeld r.1 = false := by
  intro r herr
  have h : lockHeld r.1 = false := released_of_error (openIndex_noPreload_eq X i n c cs hp) (if_pos herr)
  exact ⟨by simpa [lockHeld] using h, h⟩

/-- **generated code, `WithPreloadedData()`:** the same, including the failing option (a bitmap that does not decode) -/
theorem generated_failed_open_closes_preload (X : Ext) (i n : Nat) (c : Buckets) (cs : List (List PutRec)) (hp : Heap)
    (hs : ∀ d, bucketsGet c dataName = some d → SortedData d) :
    let r := Gen.openIndexFromBoltDatabase X (idle i n c cs) hp (some i) [Gen.withPreloadedData X]
    isErr r.2.2.2 = true → r.1.closed = true ∧ lockHeld r.1 = false := by
  intro r herr
  have h : lockHeld r.1 = false := released_of_error (openIndex_preload_eq X i n c cs hp hs) (if_pos herr)
  exact ⟨by simpa [lockHeld] using h, h⟩

/-- **generated code, any options:** a validation failure (bucket / schema / counter) closes `db`, whatever options follow -/
theorem generated_validation_failure_closes (X : Ext) (i n : Nat) (c : Buckets) (cs : List (List PutRec)) (hp : Heap)
    (opts : List IndexOption) (hbad : headerOK X c = false) :
    let r := Gen.openIndexFromBoltDatabase X (idle i n c cs) hp (some i) opts
    isErr r.2.2.2 = true ∧ r.2.2.1 = none ∧ lockHeld r.1 = false := by
  have hv := openIndexFromBoltDatabase_validation X i n c cs hp opts
  simp only [hbad, Bool.false_eq_true, if_false] at hv
  obtain ⟨e1, e2, _, e4⟩ := hv
  exact ⟨e1, e2, by rw [lockHeld, e4]; rfl⟩

/-- **The lock model agrees with the generated code** (no options): on the file content `fileStateOf X c`, when no writer
    blocks the attempt, `openRO` returns ok / error exactly when the regenerated `OpenIndexFromBoltDatabase` does, and the
    new handle holds the lock afterwards exactly when the generated code left the database open (`closed = false`). -/
theorem openRO_matches_generated (X : Ext) (i n : Nat) (c : Buckets) (cs : List (List PutRec)) (hp : Heap)
    (st : LockState) (p : ProcId) (hfs : st.fs = fileStateOf X c) (hc : compatible .shared st.holders = true) :
    let r := Gen.openIndexFromBoltDatabase X (idle i n c cs) hp (some i) []
    ((openRO st p ⟨false⟩).1.map (fun _ => ()), (openRO st p ⟨false⟩).2.holds st.next)
      = ((if isErr r.2.2.2 then .error else .ok ()), lockHeld r.1) := by
  intro r
  rw [openRO_abstract p _ hc, hfs, ← openIndex_noPreload_eq X i n c cs hp]
  rfl

/-- … and with `WithPreloadedData()` (bucket in bbolt's key order) -/
theorem openRO_matches_generated_preload (X : Ext) (i n : Nat) (c : Buckets) (cs : List (List PutRec)) (hp : Heap)
    (hs : ∀ d, bucketsGet c dataName = some d → SortedData d)
    (st : LockState) (p : ProcId) (hfs : st.fs = fileStateOf X c) (hc : compatible .shared st.holders = true) :
    let r := Gen.openIndexFromBoltDatabase X (idle i n c cs) hp (some i) [Gen.withPreloadedData X]
    ((openRO st p ⟨true⟩).1.map (fun _ => ()), (openRO st p ⟨true⟩).2.holds st.next)
      = ((if isErr r.2.2.2 then .error else .ok ()), lockHeld r.1) := by
  intro r
  rw [openRO_abstract p _ hc, hfs, ← openIndex_preload_eq X i n c cs hp hs]
  rfl

/-! ### (ii) Close releases the lock -/

/-- **`Close` releases this handle's lock and nothing else.** For an open index `h`: it returns nil, `h` holds no lock and is
    not live afterwards, the holders are the old ones without `h` (every other holder stays, none is added), file and id
    counter are untouched. -/
theorem close_releases_lock (st : LockState) (h : HandleId) (hl : h ∈ st.live) :
    (close st h).1 = .ok () ∧ (close st h).2.holds h = false ∧ h ∉ (close st h).2.live ∧
    (close st h).2.holders = st.holders.filter (fun x => x.id != h) ∧
    (∀ x, x ∈ (close st h).2.holders ↔ x ∈ st.holders ∧ x.id ≠ h) ∧
    (close st h).2.fs = st.fs ∧ (close st h).2.next = st.next := by
  have hh : st.live.contains h = true := by simpa using hl
  rw [close_of_live hh]
  refine ⟨rfl, holds_release _ _, by simp, rfl, ?_, rfl, rfl⟩
  intro x; simp [release]

/-- **the last `Close` unlocks the file:** if `h` was the only holder, no holder is left and a read-write open succeeds -/
theorem close_last_unlocks (st : LockState) (w : st.WF) (h : HandleId) (q p : ProcId)
    (hx : st.holders = [{ id := h, proc := q, mode := .shared }]) :
    (close st h).2.holders = [] ∧ (openRW st p).1 = .hang ∧ (openRW (close st h).2 p).1 = .ok st.next := by
  have hl : st.live.contains h = true := by rw [w.live_eq, hx]; simp
  have e : (close st h).2.holders = [] := by rw [close_of_live hl, hx]; simp [release]
  refine ⟨e, ?_, ?_⟩
  · rw [openRW_blocked (by rw [hx]; simp)]
  · rw [openRW_ok e, close_of_live hl]

/-! ### (iii) Close is idempotent -/

/-- **`Close` twice = `Close` once**, in every state and for every handle (open, closed, never returned): both calls
    return nil and the second changes nothing. Not by definition: the first call clears `idx.db` (`live`), which is what
    the second call tests. -/
theorem close_idempotent (st : LockState) (h : HandleId) :
    (close st h).1 = .ok () ∧ close (close st h).2 h = (.ok (), (close st h).2) ∧
    (close (close st h).2 h).2 = (close st h).2 := by
  have e := close_of_not_live (not_live_after_close st h)
  refine ⟨?_, e, by rw [e]⟩
  unfold close; split <;> rfl

/-- `Close` on an index that is not open (closed before, or D4: never returned) changes nothing at all -/
theorem close_not_open_noop (st : LockState) (h : HandleId) (hl : h ∉ st.live) : close st h = (.ok (), st) :=
  close_of_not_live (by simpa using hl)

/-! ### (iv) a process never blocks on its own read-only handles -/

/-- **No `OpenIndex` / `Close` history ever blocks** unless a writer holds the file: from a reachable state whose holders are
    all readers, every event of every history of `OpenIndex` (any processes, any options, failing or not), `Close` (any
    handle, any number of times) and content changes returns; and no writer appears. -/
theorem own_history_never_blocks (st : LockState) (w : st.WF) (hn : ∀ x ∈ st.holders, x.mode = .shared)
    (es : List Ev) (he : es.all Ev.isReader = true) :
    (∀ r ∈ (run st es).2, r ≠ .hang) ∧ (∀ x ∈ (run st es).1.holders, x.mode = .shared) :=
  ⟨(reader_run w hn es he).1, (reader_run w hn es he).2.1⟩

/-- **the holders are the open handles** (key invariant): after a reader history on a file nobody had open, the flock
    holders are exactly the handles that were returned by a successful `OpenIndex` and not closed since
    (`openHandles`, computed from the events and their results), in order, all shared; the live indexes are the same. -/
theorem holders_eq_openHandles (fs : FileState) (n : HandleId) (es : List Ev) (he : es.all Ev.isReader = true) :
    let r := run (.unlocked fs n) es
    r.1.holders.map (·.id) = openHandles es r.2 ∧ (∀ x ∈ r.1.holders, x.mode = .shared) ∧
    r.1.live = openHandles es r.2 := by
  intro r
  have w := LockState.WF.unlocked fs n
  have hn : NoExcl (.unlocked fs n) := by intro x hx; simp [LockState.unlocked] at hx
  obtain ⟨_, h2, h3⟩ := reader_run w hn es he
  refine ⟨h3, h2, ?_⟩
  rw [live_eq_ids (w.run es) h2]; exact h3

/-- … from any reachable state without a writer (`openHandlesFrom` starts with the handles open at that point) -/
theorem holders_eq_openHandlesFrom (st : LockState) (w : st.WF) (hn : ∀ x ∈ st.holders, x.mode = .shared)
    (es : List Ev) (he : es.all Ev.isReader = true) :
    (run st es).1.holders.map (·.id) = openHandlesFrom (st.holders.map (·.id)) es (run st es).2 :=
  (reader_run w hn es he).2.2

/-- **once every opened handle is closed the file is unlocked again**: if the bookkeeping says no handle is open, there is
    no holder and no live index -/
theorem all_closed_unlocked (fs : FileState) (n : HandleId) (es : List Ev) (he : es.all Ev.isReader = true)
    (hall : openHandles es (run (.unlocked fs n) es).2 = []) :
    (run (.unlocked fs n) es).1.holders = [] ∧ (run (.unlocked fs n) es).1.live = [] := by
  obtain ⟨h1, _, h3⟩ := holders_eq_openHandles fs n es he
  rw [hall] at h1 h3
  exact ⟨List.map_eq_nil_iff.mp h1, h3⟩

/-- … constructively: closing every handle that holds a lock (in any order, each any number of times, possibly together
    with handles that are not open) leaves no holder -/
theorem close_all_unlocks (st : LockState) (w : st.WF) (hn : ∀ x ∈ st.holders, x.mode = .shared) (l : List HandleId)
    (hl : ∀ x ∈ st.holders, x.id ∈ l) : (run st (l.map Ev.close)).1.holders = [] := by
  have h := (run_closes w hn l).2
  apply List.map_eq_nil_iff.mp
  rw [h, List.filter_eq_nil_iff]
  intro a ha
  obtain ⟨x, hx, rfl⟩ := List.mem_map.mp ha
  simp [hl x hx]

/-- **open / fail / open**: after a failed attempt, a second attempt (same or other process, same or other options) behaves
    exactly as if the first had never happened, apart from the used-up handle id; in particular it does not hang -/
theorem reopen_after_failure (st : LockState) (w : st.WF) (p p' : ProcId) (o o' : OpenOpts)
    (h : (openRO st p o).1 = .error) :
    openRO (openRO st p o).2 p' o' = openRO { st with next := st.next + 1 } p' o' := by
  rw [failed_open_state w h]

/-- **open / fail / open on a file nobody has open**, the content possibly changed in between (repaired or not): the first
    attempt fails, the second returns what `openIndex` says for the then-current content of an unlocked file, and the
    holders are that second handle or nobody -/
theorem open_fail_open (fs fs' : FileState) (o o' : OpenOpts) (p : ProcId) (n : HandleId)
    (hfail : (openIndex fs o).1 = .error) :
    let r := run (.unlocked fs n) [.openRO p o, .setFile fs', .openRO p o']
    r.2 = [.error, .done, Res.ofOpen ((openIndex fs' o').1.map fun _ => n + 1)] ∧
    r.1.holders = (if (openIndex fs' o').2 then [{ id := n + 1, proc := p, mode := .shared }] else []) := by
  have h1 := openIndex_error_of_fst hfail
  rcases openIndex_cases fs' o' with h2 | h2 <;>
    simp [run, step, openRO, compatible, LockState.unlocked, LockState.acquire, release, h1, h2, Res.ofOpen, Outcome.map]

/-- **open / close / close / open** on a complete index nobody else has open: all four calls return, the second `Close`
    is a no-op, the second open gets a fresh handle and is the only holder afterwards -/
theorem open_close_close_open (fs : FileState) (o : OpenOpts) (p : ProcId) (n : HandleId)
    (hok : (openIndex fs o).1 = .ok ()) :
    run (.unlocked fs n) [.openRO p o, .close n, .close n, .openRO p o]
      = ({ fs := fs, holders := [{ id := n + 1, proc := p, mode := .shared }], live := [n + 1], next := n + 2 },
         [.handle n, .done, .done, .handle (n + 1)]) := by
  have h1 := openIndex_ok_of_fst hok
  simp [run, step, openRO, close, compatible, LockState.unlocked, LockState.acquire, release, h1, Res.ofOpen]

/-! ### (v) who blocks whom -/

/-- a read-write open blocks iff somebody holds a lock, reader or writer, same process or not -/
theorem rw_open_blocks_iff_holders (st : LockState) (q : ProcId) : (openRW st q).1 = .hang ↔ st.holders ≠ [] := by
  by_cases he : st.holders = []
  · rw [openRW_ok he]; simp [he]
  · rw [openRW_blocked he]; simp [he]

/-- **A read-write open blocks exactly while some index is open**: after any reader history on a file nobody had open, a
    read-write `bbolt.Open` by any process hangs iff the set of handles opened successfully and not yet closed is
    non-empty; otherwise it succeeds with a fresh handle. -/
theorem rw_open_blocks_iff (fs : FileState) (n : HandleId) (es : List Ev) (he : es.all Ev.isReader = true) (q : ProcId) :
    let r := run (.unlocked fs n) es
    ((openRW r.1 q).1 = .hang ↔ openHandles es r.2 ≠ []) ∧
    (openHandles es r.2 = [] → (openRW r.1 q).1 = .ok r.1.next) := by
  intro r
  have h1 := (holders_eq_openHandles fs n es he).1
  constructor
  · rw [rw_open_blocks_iff_holders, ← h1]; simp [r]
  · intro h0
    rw [h0] at h1
    rw [openRW_ok (List.map_eq_nil_iff.mp h1)]

/-- … at every point of a history: the probe after the prefix `pre` of `pre ++ post` depends on the handles open after
    `pre` only -/
theorem rw_open_blocks_iff_at (fs : FileState) (n : HandleId) (pre post : List Ev)
    (he : (pre ++ post).all Ev.isReader = true) (q : ProcId) :
    let r := run (.unlocked fs n) (pre ++ post)
    (openRW (run (.unlocked fs n) pre).1 q).1 = .hang ↔ openHandles pre (r.2.take pre.length) ≠ [] := by
  intro r
  have hp : pre.all Ev.isReader = true := by
    rw [List.all_append, Bool.and_eq_true] at he; exact he.1
  have : r.2.take pre.length = (run (.unlocked fs n) pre).2 := by
    show (run _ (pre ++ post)).2.take _ = _
    rw [run_append, ← run_length (.unlocked fs n) pre, List.take_left]
  rw [this]
  exact (rw_open_blocks_iff fs n pre hp q).1

/-- **`OpenIndex` blocks iff a writer holds the file** -/
theorem ro_open_blocks_iff (st : LockState) (p : ProcId) (o : OpenOpts) :
    (openRO st p o).1 = .hang ↔ ∃ x ∈ st.holders, x.mode = .exclusive := by
  rw [← compatible_shared_false_iff]
  by_cases hc : compatible .shared st.holders = true
  · rw [openRO_outcome p o hc, hc]
    have := (open_never_panics st.fs o).2
    cases h : (openIndex st.fs o).1 <;> simp_all [Outcome.map]
  · have hb : compatible .shared st.holders = false := by simpa using hc
    rw [openRO_blocked hb, hb]; simp

/-- **a writer blocks readers until it closes its database**: read-write open of an unlocked file succeeds; every
    `OpenIndex` then hangs; after the writer's `db.Close()` `OpenIndex` returns what `openIndex` says for the content -/
theorem writer_blocks_reader_until_closeRW (fs : FileState) (n : HandleId) (q p : ProcId) (o : OpenOpts) :
    let s1 := (openRW (.unlocked fs n) q).2
    (openRW (.unlocked fs n) q).1 = .ok n ∧ (openRO s1 p o).1 = .hang ∧
    (closeRW s1 n).2.holders = [] ∧
    (openRO (closeRW s1 n).2 p o).1 = (openIndex s1.fs o).1.map fun _ => n + 1 := by
  have e : openRW (.unlocked fs n) q = _ := openRW_ok (st := .unlocked fs n) (p := q) rfl
  simp only [e]
  refine ⟨rfl, ?_, by simp [closeRW, LockState.unlocked], ?_⟩
  · rw [ro_open_blocks_iff]; exact ⟨_, List.mem_singleton.mpr rfl, rfl⟩
  · rw [openRO_outcome]
    · rfl
    · simp [closeRW, LockState.unlocked, compatible]

/-- **the writers of this code base never wait for a reader**: `updog create` / `WriteToBoltDatabase` open with `O_EXCL`,
    so on an existing path (in particular one a reader has open) they fail at once and touch no lock -/
theorem create_on_existing_fails (st : LockState) (q : ProcId) (hex : st.fs ≠ .absent) :
    openCreate st q = (.error, st) := by
  simp [openCreate, hex]

/-! ### (vi) `Model/Open.lean` is the one-call abstraction of this model -/

/-- the Boolean of `Model/Open.lean` ("lock still held") is: on an unlocked file, the attempt leaves exactly one holder,
    its own handle — and otherwise nobody -/
theorem old_lock_bit_iff (fs : FileState) (o : OpenOpts) (p : ProcId) (n : HandleId) :
    ((openIndex fs o).2 = true ↔ (openRO (.unlocked fs n) p o).2.holders = [{ id := n, proc := p, mode := .shared }]) ∧
    ((openIndex fs o).2 = false ↔ (openRO (.unlocked fs n) p o).2.holders = []) := by
  rcases openIndex_cases fs o with h | h <;>
    simp [openRO, compatible, LockState.unlocked, LockState.acquire, release, h]

/-- `C15.close_releases`, non-vacuously: for an open index, `closeIndex held` (constant `false`) is the handle's lock bit
    after `Close`, and `closeIndex (closeIndex held)` the one after a second `Close` -/
theorem old_close_releases_refined (st : LockState) (h : HandleId) (hl : h ∈ st.live) :
    (close st h).2.holds h = closeIndex (st.holds h) ∧
    (close (close st h).2 h).2.holds h = closeIndex (closeIndex (st.holds h)) := by
  rw [(close_idempotent st h).2.2]
  exact ⟨(close_releases_lock st h hl).2.1, (close_releases_lock st h hl).2.1⟩

/-- `C15.reopen_same`, non-vacuously: open, then `Close` if it succeeded (nothing to close if it failed); the file is
    unlocked again and a second `OpenIndex` returns the same outcome as the first -/
theorem reopen_same_refined (fs : FileState) (o : OpenOpts) (p : ProcId) (n : HandleId) :
    let a := openRO (.unlocked fs n) p o
    let s := (close a.2 n).2
    s.holders = [] ∧ s.live = [] ∧ (openRO s p o).1.map (fun _ => ()) = a.1.map (fun _ => ()) ∧
    a.1.map (fun _ => ()) = (openIndex fs o).1 := by
  rcases openIndex_cases fs o with h | h <;>
    simp [openRO, close, compatible, LockState.unlocked, LockState.acquire, release, h, Outcome.map]

/-! ### (vii) concrete instances -/

/-- a complete index file -/
def goodFile : FileState := .bolt true .good .good true
/-- a file `updog create` was killed on: bitmaps but no header -/
def damagedFile : FileState := .bolt true .missing .missing true

-- open / fail / open on a damaged file: both fail, nobody holds the lock
example : run (.unlocked damagedFile) [.openRO 1 ⟨false⟩, .openRO 1 ⟨true⟩]
    = ({ fs := damagedFile, next := 2 }, [.error, .error]) := by decide
example : run (.unlocked .absent) [.openRO 1 ⟨false⟩, .openRO 1 ⟨false⟩] = ({ fs := .absent, next := 2 }, [.error, .error]) := by
  decide
example : run (.unlocked .notBolt) [.openRO 1 ⟨false⟩, .openRO 1 ⟨false⟩] = ({ fs := .notBolt, next := 2 }, [.error, .error]) := by
  decide
-- … repaired in between: the second attempt succeeds (`open_fail_open`, `failed_open_lock_free`)
example : (run (.unlocked damagedFile) [.openRO 1 ⟨false⟩, .setFile goodFile, .openRO 1 ⟨false⟩]).2
    = [.error, .done, .handle 1] := by decide
example : (openRO (.unlocked damagedFile 7) 1 ⟨false⟩).1 = .error ∧ (LockState.unlocked damagedFile 7).WF :=
  ⟨by decide, LockState.WF.unlocked _ _⟩
-- a failed attempt next to an open handle of the same process: that handle keeps its lock, nothing else is held
example : (run (.unlocked goodFile) [.openRO 1 ⟨false⟩, .setFile damagedFile, .openRO 1 ⟨false⟩]).1.holders
    = [{ id := 0, proc := 1, mode := .shared }] := by decide
-- open ok → read-write open by process 2 hangs → close → read-write open succeeds (`close_last_unlocks`, `rw_open_blocks_iff`)
example : (run (.unlocked goodFile) [.openRO 1 ⟨true⟩, .openRW 2, .close 0, .openRW 2]).2
    = [.handle 0, .hang, .done, .handle 1] := by decide
-- … also from the same process (flock is per open file description)
example : (run (.unlocked goodFile) [.openRO 1 ⟨true⟩, .openRW 1]).2 = [.handle 0, .hang] := by decide
-- open / close / close / open (`open_close_close_open`, `close_idempotent`)
example : run (.unlocked goodFile) [.openRO 1 ⟨false⟩, .close 0, .close 0, .openRO 1 ⟨false⟩]
    = ({ fs := goodFile, holders := [{ id := 1, proc := 1, mode := .shared }], live := [1], next := 2 },
       [.handle 0, .done, .done, .handle 1]) := by decide
-- two read-only handles; closing one keeps writers out, closing the other lets them in
example : (run (.unlocked goodFile) [.openRO 1 ⟨false⟩, .openRO 1 ⟨true⟩, .close 0, .openRW 2, .close 1, .openRW 2]).2
    = [.handle 0, .handle 1, .done, .hang, .done, .handle 2] := by decide
-- the bookkeeping of that history (`holders_eq_openHandles`)
example : openHandles [.openRO 1 ⟨false⟩, .openRO 1 ⟨true⟩, .close 0] [.handle 0, .handle 1, .done] = [1] := by decide
-- a writer keeps readers out until it closes (`writer_blocks_reader_until_closeRW`, `ro_open_blocks_iff`)
example : (run (.unlocked .absent) [.openRW 2, .openRO 1 ⟨false⟩, .closeRW 0, .openRO 1 ⟨false⟩]).2
    = [.handle 0, .hang, .done, .error] := by decide
-- `updog create` onto an index somebody has open fails, it does not hang (`create_on_existing_fails`)
example : (run (.unlocked goodFile) [.openRO 1 ⟨false⟩, .openCreate 2]).2 = [.handle 0, .error] := by decide
-- closing a handle that was never returned, in a state with an open index: nothing happens (`close_not_open_noop`)
example : (run (.unlocked goodFile) [.openRO 1 ⟨false⟩, .close 5]).1.holders = [{ id := 0, proc := 1, mode := .shared }] := by
  decide
-- the hypotheses of `own_history_never_blocks` / `close_last_unlocks` hold in a state with two open handles / one
example : (run (.unlocked goodFile) [.openRO 1 ⟨false⟩, .openRO 2 ⟨false⟩]).1.WF ∧
    ∀ x ∈ (run (.unlocked goodFile) [.openRO 1 ⟨false⟩, .openRO 2 ⟨false⟩]).1.holders, x.mode = .shared :=
  ⟨(LockState.WF.unlocked _ _).run _, by decide⟩
-- the generated code on the toy file of Props/Gen/Open.lean: a file without row counter is closed again, the complete one stays open
example : lockHeld (Gen.openIndexFromBoltDatabase toyExt (idle 0 0 [([100, 97, 116, 97], [([83], [2])])] []) {} (some 0) []).1
    = false := by decide
example : lockHeld (Gen.openIndexFromBoltDatabase toyExt (idle 0 0 demoFile []) {} (some 0) []).1 = true := by decide

end Updog.C15
