/-
C12 — the sql driver returns exactly the library's result as rows.
-/
import Updog.Model.Rows
import Updog.Props.C01
namespace Updog.C12

/-- with a group-by clause: one row per group, in the library's order, values in group-by order then the count -/
theorem rows_grouped (res : Result) (gb : List Bytes) (h : gb ≠ []) :
    (newRows res gb).rows = res.groups.map fun g => g.1.map (fun cv => Cell.text cv.2) ++ [Cell.int g.2] := by
  have : gb.length > 0 := List.length_pos_iff.mpr h
  simp [newRows, this]

theorem rows_grouped_length (res : Result) (gb : List Bytes) (h : gb ≠ []) :
    (newRows res gb).rows.length = res.groups.length := by
  rw [rows_grouped res gb h, List.length_map]

/-- with a group-by clause and no matching group: no rows -/
theorem rows_no_group (res : Result) (gb : List Bytes) (h : gb ≠ []) (hg : res.groups = []) :
    (newRows res gb).rows = [] := by
  rw [rows_grouped res gb h, hg]; rfl

/-- without a group-by clause: exactly one row holding the total count -/
theorem rows_ungrouped (res : Result) : (newRows res []).rows = [[Cell.int res.count]] := by
  simp [newRows]

/-- columns are the group-by columns followed by "count", typed TEXT…, BIGINT -/
theorem columns_spec (res : Result) (gb : List Bytes) :
    (newRows res gb).cols = gb ++ [countCol] ∧
    (newRows res gb).types = List.replicate gb.length "TEXT" ++ ["BIGINT"] ∧
    (newRows res gb).types.length = (newRows res gb).cols.length := by
  refine ⟨rfl, ?_, by simp [newRows]⟩
  simp only [newRows]
  congr 1
  induction gb with
  | nil => rfl
  | cons a t ih => simp [List.replicate_succ, ih]

/-- every row of a grouped result has one cell per column when every group has one field per group-by column -/
theorem row_widths (res : Result) (gb : List Bytes) (h : gb ≠ []) (hw : ∀ g ∈ res.groups, g.1.length = gb.length) :
    ∀ r ∈ (newRows res gb).rows, r.length = (newRows res gb).cols.length := by
  intro r hr
  rw [rows_grouped res gb h] at hr
  simp only [List.mem_map] at hr
  obtain ⟨g, hg, rfl⟩ := hr
  simp [newRows, hw g hg]

/-- composition with C01: an ungrouped query through the driver yields the one row [number of satisfying rows] -/
theorem driver_count_row (H : Bytes → UInt64) (rows : List Row) (e : Expr)
    (hcols : ∀ c ∈ e.columns, c ∈ columnsOf rows) (hwf : e.arityPos = true) (hinj : NoCollision H rows e.pairs) :
    (execute H (Writer.addRows H {} rows).toIndex ⟨e, []⟩).map (fun r => (newRows r []).rows)
      = some [[Cell.int (specCount rows e)]] := by
  rw [C01.count_correct H rows e hcols hwf hinj]
  simp [newRows]

example : (newRows ⟨5, [([([97], [49])], 3), ([([97], [50])], 2)]⟩ [[97]]).rows =
    [[Cell.text [49], Cell.int 3], [Cell.text [50], Cell.int 2]] := by decide
example : (newRows ⟨0, []⟩ [[97]]).rows = [] := by decide

end Updog.C12
