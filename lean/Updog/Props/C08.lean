/-
C08 — executing a query does not change what the Query value means.
-/
import Updog.Model.QueryState
namespace Updog.C08
variable (H : Bytes → UInt64)

theorem populateQ_fst (s : Schema) (cols : List Bytes) (acc : List GBField) :
    (populateGroupByQ s cols acc).1 = (populateGroupBy s cols).map (acc ++ ·) := by
  induction cols generalizing acc with
  | nil => simp [populateGroupByQ, populateGroupBy]
  | cons c cs ih =>
    simp only [populateGroupByQ, populateGroupBy]
    cases hc : s.col c with
    | none => simp
    | some vs =>
      simp only [ih]
      cases populateGroupBy s cs <;> simp

theorem populateQ_fst_nil (s : Schema) (cols : List Bytes) :
    (populateGroupByQ s cols []).1 = populateGroupBy s cols := by
  rw [populateQ_fst]
  cases populateGroupBy s cols <;> rfl

/-- Whatever earlier executions left in the hidden field list, Execute returns exactly what it returns for a
    freshly constructed equal query. -/
theorem execute_pure (ix : Index) (q : QueryState) :
    (executeQ H ix q).1 = execute H ix ⟨q.expr, q.groupBy⟩ := by
  unfold executeQ execute
  rw [← populateQ_fst_nil]
  rcases populateGroupByQ ix.schema q.groupBy [] with ⟨_ | fields, left⟩
  · rfl
  · cases eval H ix q.expr <;> rfl

/-- the caller-visible fields are left unchanged -/
theorem visible_fields_unchanged (ix : Index) (q : QueryState) :
    (executeQ H ix q).2.expr = q.expr ∧ (executeQ H ix q).2.groupBy = q.groupBy := by
  simp only [executeQ]
  cases populateGroupByQ ix.schema q.groupBy [] with
  | mk r left =>
    cases r with
    | none => simp
    | some f => cases eval H ix q.expr <;> simp

/-- run one Query value through any sequence of indexes -/
def runAll (q : QueryState) : List Index → List (Option Result) × QueryState
  | [] => ([], q)
  | ix :: rest =>
    let r := executeQ H ix q
    let rs := runAll r.2 rest
    (r.1 :: rs.1, rs.2)

/-- any number of executions on the same or on different indexes: each returns what a fresh equal query returns -/
theorem reuse_any_history (q : QueryState) (ixs : List Index) :
    (runAll H q ixs).1 = ixs.map fun ix => execute H ix ⟨q.expr, q.groupBy⟩ := by
  induction ixs generalizing q with
  | nil => rfl
  | cons ix rest ih =>
    simp only [runAll, List.map_cons]
    rw [execute_pure, ih]
    obtain ⟨h1, h2⟩ := visible_fields_unchanged H ix q
    rw [h1, h2]

/-- non-vacuity: a stale hidden list is really ignored -/
example : (populateGroupByQ [([97], [([49], 7)])] [[97]] []).1 = some [⟨[97], [([49], 7)]⟩] := by
  simp [populateGroupByQ, Schema.col, sortVals]

end Updog.C08
