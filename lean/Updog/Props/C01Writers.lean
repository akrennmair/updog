/-
C01 (composition) — the total count is also correct on the index written by the disk-backed big writer,
and both writers' indexes answer every query identically.
Composition of `C01.count_correct` with `C05.writers_agree_index`.
-/
import Updog.Props.C01
import Updog.Props.C05Schema
namespace Updog.C01
open Updog

variable (H : Bytes → UInt64)

/-- the index opened from the big writer's output is the index opened from the in-memory writer's output
(`C05.writers_agree_index`, restated with `C05.bigIndex`) -/
theorem bigIndex_eq (rows : List Row) (hlen : rows.length ≤ 2 ^ 32) :
    C05.bigIndex H rows = (Writer.addRows H {} rows).toIndex :=
  C05.writers_agree_index H rows hlen

/-- **Both writers give the same answers.** For EVERY query (any expression, well-formed or not, over known or
unknown columns, any group-by list), every hash function (collisions included) and every dataset of at most
2^32 rows, `Execute` on the index written by the big writer returns exactly what it returns on the index
written by the in-memory writer — the same error or the same count and groups. -/
theorem same_answer_both_writers (rows : List Row) (hlen : rows.length ≤ 2 ^ 32) (q : Query) :
    execute H (C05.bigIndex H rows) q = execute H (Writer.addRows H {} rows).toIndex q := by
  rw [bigIndex_eq H rows hlen]

/-- the same for the evaluation of a bare expression (the bitmap of matching rows) -/
theorem same_eval_both_writers (rows : List Row) (hlen : rows.length ≤ 2 ^ 32) (e : Expr) :
    eval H (C05.bigIndex H rows) e = eval H (Writer.addRows H {} rows).toIndex e := by
  rw [bigIndex_eq H rows hlen]

/-- **Total count on the big writer's index.** Under the hypotheses of `count_correct` and with at most 2^32
rows, `Execute` on the index opened from the big writer's output returns exactly the number of rows
satisfying the expression. -/
theorem count_correct_big (rows : List Row) (e : Expr) (hlen : rows.length ≤ 2 ^ 32)
    (hcols : ∀ c ∈ e.columns, c ∈ columnsOf rows) (hwf : e.arityPos = true)
    (hinj : NoCollision H rows e.pairs) :
    execute H (C05.bigIndex H rows) ⟨e, []⟩ = some ⟨specCount rows e, []⟩ := by
  rw [same_answer_both_writers H rows hlen]
  exact count_correct H rows e hcols hwf hinj

/-- an unknown column is an error on the big writer's index too -/
theorem unknown_column_errors_big (rows : List Row) (hlen : rows.length ≤ 2 ^ 32) (q : Query) (c : Bytes)
    (hc : c ∈ q.expr.columns) (hno : c ∉ columnsOf rows) : execute H (C05.bigIndex H rows) q = none := by
  rw [same_answer_both_writers H rows hlen]
  exact unknown_column_errors H rows q c hc hno

/-! ### non-vacuity -/

/-- the hypotheses of `count_correct_big` hold for the dataset and expression of `C01` -/
example : exRows.length ≤ 2 ^ 32 ∧ (∀ c ∈ exExpr.columns, c ∈ columnsOf exRows) ∧ exExpr.arityPos = true ∧
    NoCollision toyH exRows exExpr.pairs :=
  ⟨by decide +kernel, by decide +kernel, by decide +kernel, by unfold NoCollision; decide +kernel⟩

example : execute toyH (C05.bigIndex toyH exRows) ⟨exExpr, []⟩ = some ⟨2, []⟩ := by
  have := count_correct_big toyH exRows exExpr (by decide +kernel) (by decide +kernel) (by decide +kernel)
    (by unfold NoCollision; decide +kernel)
  simpa [specCount, exRows, exExpr, sat, satAny] using this

/-- `same_answer_both_writers` needs nothing of the query or the hash: an ill-formed expression (`AND` without
operands), an unknown group-by column, the constant hash -/
example : execute C05.H0 (C05.bigIndex C05.H0 C05.rows) ⟨.and [], [[9]]⟩
    = execute C05.H0 (Writer.addRows C05.H0 {} C05.rows).toIndex ⟨.and [], [[9]]⟩ :=
  same_answer_both_writers C05.H0 C05.rows (by decide +kernel) _

end Updog.C01
