/-
C18 — concurrent AddRow calls lose, duplicate and mix nothing.
`AddRow` holds the writer's mutex for its whole body including the id increment (Facts.C18_facts), so each call is one
atomic step and every interleaving of goroutines is a schedule of whole calls.
-/
import Updog.Proofs.Writer
namespace Updog.C18
open Updog
variable (H : Bytes → UInt64)

/-- goroutine `g` wants to add the rows `queues[g]` in order. A schedule names the goroutine whose next call runs.
    Returns the executed calls in execution order, (goroutine, row), and what is left to do. -/
def interleave : List Nat → List (List Row) → List (Nat × Row) × List (List Row)
  | [], qs => ([], qs)
  | g :: sched, qs =>
    match qs[g]? with
    | some (r :: rest) =>
      let out := interleave sched (qs.set g rest)
      ((g, r) :: out.1, out.2)
    | _ => interleave sched qs        -- goroutine has nothing left (or does not exist): no call

/-- ids returned and final writer state when the calls of a schedule run one after the other -/
def runCalls (w : Writer) (calls : List (Nat × Row)) : List Nat × Writer :=
  (Writer.addRowsIds H w (calls.map (·.2)), Writer.addRows H w (calls.map (·.2)))

theorem runCalls_fst (w : Writer) (calls : List (Nat × Row)) :
    (runCalls H w calls).1 = Writer.addRowsIds H w (calls.map (·.2)) := rfl

theorem runCalls_snd (w : Writer) (calls : List (Nat × Row)) :
    (runCalls H w calls).2 = Writer.addRows H w (calls.map (·.2)) := rfl

theorem range_map_zero_add (n : Nat) : (List.range n).map (0 + ·) = List.range n :=
  (List.map_congr_left fun x _ => Nat.zero_add x).trans (List.map_id _)

/-- whatever the calls are, a fresh writer hands out the ids 0,1,…,n−1 in execution order -/
theorem runCalls_ids (calls : List (Nat × Row)) : (runCalls H {} calls).1 = List.range calls.length := by
  rw [runCalls_fst, addRowsIds_eq, List.length_map]
  exact range_map_zero_add _

/-- For every schedule: the ids handed out are exactly 0,1,…,n−1 in execution order — no duplicates, no gaps —
    and the writer ends in the state a sequential insertion of the same rows in id order produces. -/
theorem ids_exact (sched : List Nat) (queues : List (List Row)) :
    let calls := (interleave sched queues).1
    (runCalls H {} calls).1 = List.range calls.length ∧
    (runCalls H {} calls).2 = Writer.addRows H {} (calls.map (·.2)) :=
  ⟨runCalls_ids H _, rfl⟩

/-- the row with id `i` is the i-th executed call's row, with all of its values on that one row:
    bit `i` of the bitmap stored under value index `h` is set iff that row carries a pair hashing to `h` -/
theorem rows_intact (sched : List Nat) (queues : List (List Row)) (h : UInt64) (i : Nat) :
    let calls := (interleave sched queues).1
    (((runCalls H {} calls).2.vals.get h).getD 0).testBit i = rowHas H (calls.map (·.2)) h i := by
  intro calls
  rw [runCalls_snd]
  exact (winv_addRows H _).vals h i

/-- each goroutine's calls run in its own order: the calls of goroutine `g` followed by what it has left are its queue -/
theorem per_goroutine_order (sched : List Nat) (queues : List (List Row)) (g : Nat) :
    (((interleave sched queues).1.filter (·.1 == g)).map (·.2)) ++ ((interleave sched queues).2[g]?).getD []
      = (queues[g]?).getD [] := by
  fun_induction interleave sched queues with
  | case1 qs => rfl
  | case2 g' sched qs r rest hq out ih =>
    obtain ⟨hlt, _⟩ := List.getElem?_eq_some_iff.mp hq
    simp only [List.filter_cons]
    by_cases hg : g' = g
    · subst hg
      rw [List.getElem?_set_self hlt] at ih
      simp only [beq_self_eq_true, if_true, List.map_cons, List.cons_append, out, ih, hq, Option.getD_some]
    · rw [List.getElem?_set_ne hg] at ih
      simpa only [beq_iff_eq, hg, if_false] using ih
  | case3 g' sched qs _ ih => exact ih

/-- nothing is lost or duplicated: when the schedule lets every goroutine finish, the executed calls of goroutine `g`
    are exactly its queue -/
theorem nothing_lost (sched : List Nat) (queues : List (List Row)) (g : Nat)
    (hdone : ((interleave sched queues).2[g]?).getD [] = []) :
    ((interleave sched queues).1.filter (·.1 == g)).map (·.2) = (queues[g]?).getD [] := by
  have := per_goroutine_order sched queues g
  rwa [hdone, List.append_nil] at this

theorem sum_set {l : List Nat} {i x : Nat} (h : l[i]? = some x) (a : Nat) : (l.set i a).sum + x = l.sum + a := by
  induction l generalizing i with
  | nil => cases h
  | cons y l ih =>
    cases i with
    | zero =>
      cases h
      simp only [List.set_cons_zero, List.sum_cons]; omega
    | succ i =>
      have := ih (i := i) h
      simp only [List.set_cons_succ, List.sum_cons]; omega

/-- the number of executed calls plus the calls left equals the number of calls wanted -/
theorem call_count (sched : List Nat) (queues : List (List Row)) :
    (interleave sched queues).1.length + ((interleave sched queues).2.map List.length).sum = (queues.map List.length).sum := by
  fun_induction interleave sched queues with
  | case1 qs => exact Nat.zero_add _
  | case2 g sched qs r rest hq out ih =>
    have := sum_set (l := qs.map List.length) (i := g) (by rw [List.getElem?_map, hq]; rfl) rest.length
    rw [← List.map_set] at this
    simp only [List.length_cons, out] at this ⊢
    omega
  | case3 g sched qs _ ih => exact ih

example : (interleave [1, 0, 1, 5, 0] [[[([97], [49])], []], [[([98], [50])]]]).1 =
    [(1, [([98], [50])]), (0, [([97], [49])]), (0, [])] := rfl

end Updog.C18
