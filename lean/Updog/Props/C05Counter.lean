/-
C05 (32-bit row counter) — `nextRowID` is a `uint32` in writer.go / writer_big.go / index.go and is persisted with
`binary.BigEndian.PutUint32`; the theorems of `C05.lean`, `C05Schema.lean`, `C01*.lean`, `C02.lean` are stated on the
unbounded (`Nat`) counter of `Model/Index.lean`. This file closes the gap with the 32-bit writers of
`Model/Counter32.lean`:

* with FEWER than 2^32 rows (`FitsCounter rows`) the persisted 4 bytes decode to `rows.length`, every id returned by
  `AddRow` is the row's position, and the index opened from the persisted file is the index of the unbounded model —
  for both writers; so every C01/C02/C05 theorem about `(Writer.addRows H {} rows).toIndex` / `C05.bigIndex H rows`
  transfers to the code's counter (`schema_roundtrip_fits`, `membership_fits`, …; `C01Counter.lean`, `C02Counter.lean`);
* with EXACTLY 2^32 rows the persisted counter is `00 00 00 00`, i.e. 0 ≠ `rows.length`: the bound is `<`, not `≤`;
  the bitmaps and the schema are still right, so the opened index differs from the intended one exactly in `next`,
  and `NOT e` evaluates like `e`.

The theorems with `hlen : rows.length ≤ 2 ^ 32` in `C05.lean` / `C05Schema.lean` / `C01Writers.lean` are true as stated,
but only about the unbounded counter; for the code's counter cite the `_fits` versions of this file.
Property theorems only; helper lemmas live in Updog/Proofs/Counter32.lean.
-/
import Updog.Proofs.Counter32
import Updog.Props.C05Schema
namespace Updog.C05
open Updog

section
variable (H : Bytes → UInt64)

/-! ### 1. the persisted counter -/

/-- the counter both writers end with, and what `OpenIndex` reads back from the 4 persisted bytes -/
theorem next32 (rows : List Row) :
    (Writer32.addRows H {} rows).next.toNat = rows.length % 2 ^ 32 ∧
    (BigWriter32.addRows H {} rows).next.toNat = rows.length % 2 ^ 32 := by
  constructor
  · rw [addRows32_next]; show (0 + rows.length) % 4294967296 = _; rw [Nat.zero_add]
  · rw [bigAddRows32_next]; show (0 + rows.length) % 4294967296 = _; rw [Nat.zero_add]

theorem open32_next (rows : List Row) :
    (Writer32.image H rows).open.next = rows.length % 2 ^ 32 ∧
    (BigWriter32.image H rows).open.next = rows.length % 2 ^ 32 :=
  ⟨(congrArg UInt32.toNat (counterOfBytes_counterBytes _)).trans (next32 H rows).1,
    (congrArg UInt32.toNat (counterOfBytes_counterBytes _)).trans (next32 H rows).2⟩

/-- For EVERY dataset: both writers persist 4 bytes that decode to `rows.length mod 2^32`. -/
theorem counter32_mod (rows : List Row) :
    ((Writer32.image H rows).2.2.length = 4 ∧ beDecode (Writer32.image H rows).2.2 = rows.length % 2 ^ 32) ∧
    ((BigWriter32.image H rows).2.2.length = 4 ∧ beDecode (BigWriter32.image H rows).2.2 = rows.length % 2 ^ 32) :=
  ⟨⟨rfl, (beDecode_counterBytes _).trans (next32 H rows).1⟩, ⟨rfl, (beDecode_counterBytes _).trans (next32 H rows).2⟩⟩

/-- **Counter, positive.** With fewer than 2^32 rows the 4 bytes persisted under `'I'` are the big-endian encoding of
`rows.length` and `OpenIndex` decodes them back to `rows.length` — for the in-memory writer and for the big writer. -/
theorem counter32_fits (rows : List Row) (hfit : FitsCounter rows) :
    ((Writer32.image H rows).2.2 = be32 rows.length ∧
      (counterOfBytes (Writer32.image H rows).2.2).toNat = rows.length ∧
      (Writer32.image H rows).open.next = rows.length) ∧
    ((BigWriter32.image H rows).2.2 = be32 rows.length ∧
      (counterOfBytes (BigWriter32.image H rows).2.2).toNat = rows.length ∧
      (BigWriter32.image H rows).open.next = rows.length) := by
  have hm : rows.length % 2 ^ 32 = rows.length := Nat.mod_eq_of_lt hfit
  obtain ⟨n1, n2⟩ := next32 H rows
  obtain ⟨o1, o2⟩ := open32_next H rows
  rw [hm] at n1 n2 o1 o2
  exact ⟨⟨congrArg be32 n1, o1, o1⟩, ⟨congrArg be32 n2, o2, o2⟩⟩

/-- **Counter, negative witness.** For a dataset of EXACTLY 2^32 rows both writers persist `00 00 00 00`: the counter
read back is 0, not `rows.length`. (The theorems of `C05.lean` with `rows.length ≤ 2 ^ 32` speak about the unbounded
counter of the model and do not cover this.) -/
theorem counter32_wraps (rows : List Row) (hlen : rows.length = 2 ^ 32) :
    ((Writer32.image H rows).2.2 = [0, 0, 0, 0] ∧ (Writer32.image H rows).open.next = 0 ∧
      (Writer32.image H rows).open.next ≠ rows.length) ∧
    ((BigWriter32.image H rows).2.2 = [0, 0, 0, 0] ∧ (BigWriter32.image H rows).open.next = 0 ∧
      (BigWriter32.image H rows).open.next ≠ rows.length) := by
  have hm : rows.length % 2 ^ 32 = 0 := by rw [hlen]
  have hne : (0 : Nat) ≠ rows.length := by rw [hlen]; decide
  obtain ⟨n1, n2⟩ := next32 H rows
  obtain ⟨o1, o2⟩ := open32_next H rows
  rw [hm] at n1 n2 o1 o2
  exact ⟨⟨congrArg be32 n1, o1, o1 ▸ hne⟩, ⟨congrArg be32 n2, o2, o2 ▸ hne⟩⟩

/-! ### 2. row ids -/

/-- **Row ids.** With fewer than 2^32 rows the i-th `AddRow` call returns (the `uint32`) i — for both writers. -/
theorem addRow_ids32_fits (rows : List Row) (hfit : FitsCounter rows) :
    (Writer32.addRowsIds H {} rows).map (·.toNat) = List.range rows.length ∧
    (BigWriter32.addRowsIds H {} rows).map (·.toNat) = List.range rows.length := by
  have hle : (0 : UInt32).toNat + rows.length ≤ 2 ^ 32 := (Nat.zero_add _).symm ▸ Nat.le_of_lt hfit
  exact ⟨(addRowsIds32_toNat H {} rows hle).trans (addRow_ids H rows).1,
    (bigAddRowsIds32_toNat H {} rows hle).trans (addRow_ids H rows).2⟩

/-- the same, call by call: the id returned for the row at position `i` is `i` -/
theorem addRow_id32_fits (rows : List Row) (hfit : FitsCounter rows) (i : Nat) (hi : i < rows.length) :
    ((Writer32.addRowsIds H {} rows)[i]?).map (·.toNat) = some i ∧
    ((BigWriter32.addRowsIds H {} rows)[i]?).map (·.toNat) = some i := by
  obtain ⟨h1, h2⟩ := addRow_ids32_fits H rows hfit
  constructor
  · rw [← List.getElem?_map, h1]; simp [hi]
  · rw [← List.getElem?_map, h2]; simp [hi]

/-! ### 3. the opened index is the index of the unbounded model -/

/-- **Transfer.** With fewer than 2^32 rows the index `OpenIndex` builds from the file persisted by the in-memory
writer (32-bit counter, 4 persisted bytes) is exactly `(Writer.addRows H {} rows).toIndex`, the index all C01/C02/C05
theorems speak about; and the one built from the big writer's file is exactly `C05.bigIndex H rows`. -/
theorem open32_eq_fits (rows : List Row) (hfit : FitsCounter rows) :
    (Writer32.image H rows).open = (Writer.addRows H {} rows).toIndex ∧
    (BigWriter32.image H rows).open = bigIndex H rows := by
  have hlt : (0 : UInt32).toNat + rows.length < 2 ^ 32 := (Nat.zero_add _).symm ▸ hfit
  constructor
  · show Index.mk _ (counterOfBytes (counterBytes _)).toNat _ = _
    rw [counterOfBytes_counterBytes]
    exact congrArg Writer.toIndex (addRows32_abs H {} rows hlt)
  · show Index.mk _ (counterOfBytes (counterBytes _)).toNat _ = _
    rw [counterOfBytes_counterBytes]
    exact congrArg (fun w : BigWriter => Index.mk w.schema w.next (walk (sortKeys w.temp)).get)
      (bigAddRows32_abs H {} rows hlt)

/-- `writers_agree_index` for the code's counter: with fewer than 2^32 rows the two files open to the same index. -/
theorem writers_agree_index_fits (rows : List Row) (hfit : FitsCounter rows) :
    (BigWriter32.image H rows).open = (Writer32.image H rows).open := by
  obtain ⟨h1, h2⟩ := open32_eq_fits H rows hfit
  rw [h1, h2]
  exact writers_agree_index H rows (Nat.le_of_lt hfit)

/-- hence every query has the same answer on both files -/
theorem same_answer_both_writers_fits (rows : List Row) (hfit : FitsCounter rows) (q : Query) :
    execute H (BigWriter32.image H rows).open q = execute H (Writer32.image H rows).open q := by
  rw [writers_agree_index_fits H rows hfit]

/-- `schema_roundtrip` for the code's counter, both writers -/
theorem schema_roundtrip_fits (rows : List Row) (hfit : FitsCounter rows) :
    getSchema (Writer32.image H rows).open = specSchema rows ∧
    getSchema (BigWriter32.image H rows).open = specSchema rows := by
  obtain ⟨h1, h2⟩ := open32_eq_fits H rows hfit
  rw [h1, h2]
  exact ⟨schema_roundtrip H rows, schema_roundtrip_big H rows (Nat.le_of_lt hfit)⟩

/-- `membership` for the code's counter, both writers: the bitmap stored under the value index of `(c, v)` holds
exactly the positions of the rows added with `c = v` -/
theorem membership_fits (rows : List Row) (hfit : FitsCounter rows) (c v : Bytes) (i : Nat)
    (hinj : NoCollision H rows [(c, v)]) :
    ((((Writer32.image H rows).open.getCol (H (encodePair c v))).getD 0).testBit i
      = decide (i < rows.length ∧ (c, v) ∈ rowAt rows i)) ∧
    ((((BigWriter32.image H rows).open.getCol (H (encodePair c v))).getD 0).testBit i
      = decide (i < rows.length ∧ (c, v) ∈ rowAt rows i)) := by
  obtain ⟨h1, h2⟩ := open32_eq_fits H rows hfit
  rw [h1, h2]
  exact ⟨membership H rows c v i hinj, membership_big H rows (Nat.le_of_lt hfit) c v i hinj⟩

/-! ### 4. exactly 2^32 rows: everything but the counter is right -/

/-- With exactly 2^32 rows all row ids still fit, so the bitmaps and the schema in both files are those of the
unbounded model — the opened index differs from the intended one exactly in `next`, which is 0. -/
theorem open32_wrapped (rows : List Row) (hlen : rows.length = 2 ^ 32) :
    (Writer32.image H rows).open = { (Writer.addRows H {} rows).toIndex with next := 0 } ∧
    (BigWriter32.image H rows).open = { bigIndex H rows with next := 0 } := by
  obtain ⟨⟨_, o1, _⟩, ⟨_, o2, _⟩⟩ := counter32_wraps H rows hlen
  have hle : (0 : UInt32).toNat + rows.length ≤ 2 ^ 32 := (Nat.zero_add _).symm ▸ Nat.le_of_eq hlen
  obtain ⟨s, v⟩ := addRows32_schema_vals H {} rows hle
  obtain ⟨s', t⟩ := bigAddRows32_schema_temp H {} rows hle
  constructor
  · show Index.mk (Writer32.addRows H {} rows).schema (Writer32.image H rows).open.next
      (Writer32.addRows H {} rows).vals.get = _
    rw [o1, s, v]; rfl
  · show Index.mk (BigWriter32.addRows H {} rows).schema (BigWriter32.image H rows).open.next
      (walk (sortKeys (BigWriter32.addRows H {} rows).temp)).get = _
    rw [o2, s', t]; rfl

/-- … and the consequence for queries: on such a file `NOT e` evaluates to the same bitmap as `e` (the complement is
taken within a universe of 0 rows). -/
theorem not_ignored_when_wrapped (rows : List Row) (hlen : rows.length = 2 ^ 32) (e : Expr) :
    eval H (Writer32.image H rows).open (.not e) = eval H (Writer32.image H rows).open e ∧
    eval H (BigWriter32.image H rows).open (.not e) = eval H (BigWriter32.image H rows).open e := by
  obtain ⟨⟨_, o1, _⟩, ⟨_, o2, _⟩⟩ := counter32_wraps H rows hlen
  have hf : flip 0 = id := funext flip_zero
  constructor
  · simp only [eval, o1, hf, Option.map_id_fun, id]
  · simp only [eval, o2, hf, Option.map_id_fun, id]

end

/-! ### non-vacuity -/

/-- the concrete dataset of `C05.lean` fits the counter -/
example : FitsCounter rows := by decide +kernel

/-- `counter32_fits`, `addRow_ids32_fits` on it: 3 rows, counter bytes `00 00 00 03`, ids 0, 1, 2 — both writers -/
example : (Writer32.image Hr rows).2.2 = [0, 0, 0, 3] ∧ (BigWriter32.image Hr rows).2.2 = [0, 0, 0, 3] := by
  have h := counter32_fits Hr rows (by decide +kernel)
  exact ⟨h.1.1, h.2.1⟩

example : (Writer32.addRowsIds Hr {} rows).map (·.toNat) = [0, 1, 2] ∧
    (BigWriter32.addRowsIds Hr {} rows).map (·.toNat) = [0, 1, 2] :=
  addRow_ids32_fits Hr rows (by decide +kernel)

/-- `open32_eq_fits` on it: the opened index has counter 3 and the bitmaps of the unbounded model -/
example : (Writer32.image Hr rows).open.next = 3 ∧ (Writer32.image Hr rows).open.getCol 2 = some 3 := by
  rw [(open32_eq_fits Hr rows (by decide +kernel)).1]; decide +kernel

/-- `membership_fits`: the collision hypothesis is satisfiable (dataset and hash of `C05Schema.lean`) -/
example : FitsCounter sRows ∧ NoCollision (fun b => (beDecode b).toUInt64) sRows [([97], [49])] :=
  ⟨by decide +kernel, by unfold NoCollision; decide +kernel⟩

/-- the hypothesis of `counter32_wraps` / `open32_wrapped` / `not_ignored_when_wrapped` is satisfiable:
    2^32 empty rows (never evaluated) -/
example : ∃ rows : List Row, rows.length = 2 ^ 32 ∧ ¬ FitsCounter rows :=
  ⟨List.replicate (2 ^ 32) [], List.length_replicate, by
    show ¬ (List.replicate (2 ^ 32) ([] : Row)).length < 2 ^ 32
    rw [List.length_replicate]; exact Nat.lt_irrefl _⟩

/-- the wrap itself on a writer that is one row short of 2^32: the returned id is 2^32-1 and the counter becomes 0 -/
example : (Writer32.addRow Hr { next := 4294967295 } [([1], [2])]).2.toNat = 4294967295 ∧
    (Writer32.addRow Hr { next := 4294967295 } [([1], [2])]).1.next = 0 ∧
    counterBytes (Writer32.addRow Hr { next := 4294967295 } [([1], [2])]).1.next = [0, 0, 0, 0] := by
  decide +kernel

end Updog.C05
