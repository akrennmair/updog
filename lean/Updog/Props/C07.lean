/-
C07 — LRU cache (cache.go): byte bound, exact accounting, LRU order of eviction, Get returns the last Put,
exact counters. Property theorems only; helper lemmas live in Updog/Proofs/Lru.lean.
All statements hold for arbitrary `max`, `ovh` (including 0), arbitrary sizes (including 0 and > max) and
arbitrary operation histories.
-/
import Updog.Proofs.Lru
namespace Updog.C07

/-! ### 1. the eviction loop -/

/-- The eviction loop, started with an exact account: the account stays exact, the loop ends under budget
or with an empty cache, the survivors are a prefix of the recency list (so exactly a suffix = the least
recently used entries is removed), and nothing is removed if the list already fits. -/
theorem evict_spec (ovh max : Nat) (items : List Item) (cur : Nat) (hcur : cur = total ovh items) :
    (evict ovh max items cur).2 = total ovh (evict ovh max items cur).1 ∧
    ((evict ovh max items cur).2 ≤ max ∨ (evict ovh max items cur).1 = []) ∧
    (evict ovh max items cur).1 <+: items ∧
    (total ovh items ≤ max → (evict ovh max items cur).1 = items) := by
  refine ⟨evict_acct _ _ _ _ hcur, evict_bound _ _ _ _, evict_prefix _ _ _ _, ?_⟩
  intro h
  rw [evict_fits _ _ _ _ (by omega)]

/-- Eviction removes as few entries as possible: every prefix of the recency list that is longer than the
surviving one is over budget. -/
theorem evict_minimal (ovh max : Nat) (items : List Item) (cur : Nat) (hcur : cur = total ovh items)
    (p : List Item) (hp : p <+: items) (hl : (evict ovh max items cur).1.length < p.length) :
    max < total ovh p :=
  Updog.evict_minimal ovh max items cur hcur p hp hl

/-! ### 2. the invariant -/

/-- Every operation preserves the invariant (unique keys, exact size account) and the configuration. -/
theorem inv_step (c : Lru) (op : LruOp) (hc : c.Inv) :
    (c.step op).1.Inv ∧ (c.step op).1.max = c.max ∧ (c.step op).1.ovh = c.ovh :=
  ⟨step_inv c op hc, step_fields c op⟩

/-- Every state reachable from the empty cache satisfies the invariant. -/
theorem inv_run (max ovh : Nat) (ops : List LruOp) :
    ((Lru.empty max ovh).run ops).1.Inv ∧
    ((Lru.empty max ovh).run ops).1.max = max ∧ ((Lru.empty max ovh).run ops).1.ovh = ovh :=
  ⟨run_inv _ ops (empty_inv max ovh), run_fields (Lru.empty max ovh) ops⟩

/-! ### 3. byte bound -/

/-- After every `Put` (also one overwriting a key with a larger bitmap) the accounted size, overhead
included, is within `max`, or the cache is empty. -/
theorem byte_bound (c : Lru) (k bm size : Nat) (hc : c.Inv) :
    total (c.put k bm size).ovh (c.put k bm size).items ≤ (c.put k bm size).max ∨
      (c.put k bm size).items = [] :=
  put_bound c k bm size hc

/-- Hence the bitmap bytes held after a `Put` never exceed `max`. -/
theorem byte_bound_sizes (c : Lru) (k bm size : Nat) (hc : c.Inv) :
    sizes (c.put k bm size).items ≤ (c.put k bm size).max := by
  rcases byte_bound c k bm size hc with h | h
  · exact Nat.le_trans (sizes_le_total _ _) h
  · simp [h]

/-- Stronger: the bound holds in every reachable state (a `Get` only permutes the entries). -/
theorem byte_bound_reachable (max ovh : Nat) (ops : List LruOp) :
    let c' := ((Lru.empty max ovh).run ops).1
    (total ovh c'.items ≤ max ∨ c'.items = []) ∧ sizes c'.items ≤ max := by
  intro c'
  obtain ⟨-, h1, h2⟩ := inv_run max ovh ops
  have hb : c'.Bounded := run_bounded _ _ (empty_inv max ovh) (Or.inr rfl)
  rw [Lru.Bounded, h1, h2] at hb
  refine ⟨hb, ?_⟩
  rcases hb with h | h
  · exact Nat.le_trans (sizes_le_total _ _) h
  · rw [h]; exact Nat.zero_le _

/-- In every history, after every prefix that ends in a `Put`, the bound holds (and `cur` is that exact sum). -/
theorem byte_bound_run (max ovh : Nat) (pre : List LruOp) (k bm size : Nat) :
    let c' := ((Lru.empty max ovh).run (pre ++ [.put k bm size])).1
    (total ovh c'.items ≤ max ∨ c'.items = []) ∧ sizes c'.items ≤ max ∧ c'.cur = total ovh c'.items := by
  intro c'
  obtain ⟨hinv, -, h2⟩ := inv_run max ovh (pre ++ [.put k bm size])
  obtain ⟨hb, hs⟩ := byte_bound_reachable max ovh (pre ++ [.put k bm size])
  exact ⟨hb, hs, h2 ▸ hinv.acct⟩

/-! ### 4. LRU order of eviction -/

/-- After `Put k` the new/overwritten entry is the most recent one, all other entries keep their relative
order, and only a suffix (the least recently used entries) is dropped. Needs no invariant. -/
theorem put_survivors_prefix (c : Lru) (k bm size : Nat) :
    (c.put k bm size).items <+: (⟨k, size, bm⟩ :: c.items.filter (·.key != k)) :=
  put_prefix c k bm size

/-! ### 5. Get -/

/-- A hit moves the entry to the front, returns its bitmap and bumps `gets` and `hits`. -/
theorem get_hit_moves_to_front (c : Lru) (k : Nat) (it : Item)
    (h : c.items.find? (·.key == k) = some it) :
    c.get k = ({ c with gets := c.gets + 1, hits := c.hits + 1,
                        items := it :: c.items.filter (·.key != k) }, some it.bm) :=
  get_hit c k it h

/-- A `Get` never changes the set of resident entries (it permutes them). -/
theorem get_perm (c : Lru) (k : Nat) (hc : c.Inv) : (c.get k).1.items.Perm c.items :=
  Updog.get_perm c k hc

/-- A miss leaves the recency list untouched, returns nothing and bumps `gets` and `misses`. -/
theorem get_miss_unchanged (c : Lru) (k : Nat) (h : c.items.find? (·.key == k) = none) :
    c.get k = ({ c with gets := c.gets + 1, misses := c.misses + 1 }, none) ∧
    (c.get k).1.items = c.items := by
  rw [get_miss c k h]; exact ⟨rfl, rfl⟩

/-! ### 6. Get returns the last Put -/

/-- In every history from the empty cache: if a `Get k` is answered with bitmap `b`, then the last `Put` of
key `k` before it stored `b`. -/
theorem get_returns_last_put (max ovh : Nat) (pre post : List LruOp) (k b : Nat)
    (h : ((Lru.empty max ovh).run (pre ++ [.get k] ++ post)).2[pre.length]? = some (some b)) :
    lastPut pre k = some b := by
  rw [List.append_assoc, run_append] at h
  have hlen := run_length (Lru.empty max ovh) pre
  simp only [List.singleton_append, run_cons, Lru.step] at h
  rw [List.getElem?_append_right (by omega)] at h
  simp only [hlen, Nat.sub_self, List.getElem?_cons_zero, Option.some.injEq] at h
  exact get_resident _ pre k b (run_induction step_residentItem _ [] pre (empty_residentItem max ovh)) h

/-- Consequently a hit never returns a bitmap stored under another key: some earlier `Put k b _` exists. -/
theorem get_never_foreign (max ovh : Nat) (pre post : List LruOp) (k b : Nat)
    (h : ((Lru.empty max ovh).run (pre ++ [.get k] ++ post)).2[pre.length]? = some (some b)) :
    ∃ s, LruOp.put k b s ∈ pre :=
  lastPut_some_mem pre k b (get_returns_last_put max ovh pre post k b h)

/-! ### 7./8. what fits is kept -/

/-- An entry that fits into the cache on its own can be read back right after the `Put`. -/
theorem fits_then_retrievable (c : Lru) (k bm size : Nat) (hc : c.Inv) (hfit : size + c.ovh ≤ c.max) :
    ((c.put k bm size).get k).2 = some bm := by
  obtain ⟨t', ht⟩ := put_head c k bm size hc hfit
  rw [get_some_iff]
  exact ⟨⟨k, size, bm⟩, by simp [ht], rfl⟩

/-- If the whole new recency list fits, nothing is evicted. -/
theorem no_eviction_when_fits (c : Lru) (k bm size : Nat) (hc : c.Inv)
    (hfit : total c.ovh (⟨k, size, bm⟩ :: c.items.filter (·.key != k)) ≤ c.max) :
    (c.put k bm size).items = ⟨k, size, bm⟩ :: c.items.filter (·.key != k) := by
  change total c.ovh (putList c k bm size) ≤ c.max at hfit
  rw [put_eq c k bm size hc, evict_fits _ _ _ _ hfit]
  rfl

/-! ### 9. counters -/

/-- The metric counters are exact: `gets`/`puts` count the calls, `hits` counts the `Get`s that were
answered, and every `Get` is either a hit or a miss. -/
theorem counters_exact (max ovh : Nat) (ops : List LruOp) :
    let r := (Lru.empty max ovh).run ops
    r.1.gets = numGets ops ∧ r.1.puts = numPuts ops ∧
    r.1.hits = numHits ops r.2 ∧ r.1.hits = r.2.countP Option.isSome ∧
    r.1.hits + r.1.misses = r.1.gets := by
  intro r
  obtain ⟨h1, h2, h3, h4⟩ := run_counters (Lru.empty max ovh) ops
  have h5 := numHits_eq (Lru.empty max ovh) ops
  simp only [Lru.empty, Nat.zero_add] at h1 h2 h3 h4 h5
  refine ⟨h1, h2, h3, ?_, ?_⟩
  · exact h3.trans h5
  · exact h4.trans h1.symm

/-! ### non-vacuity -/

section Examples

/-- a cache of 100 bytes, overhead 10, holding keys 3 (most recent), 2, 1 -/
private def c3 : Lru :=
  { items := [⟨3, 20, 30⟩, ⟨2, 20, 20⟩, ⟨1, 20, 10⟩], cur := 90, max := 100, ovh := 10 }

private theorem c3_inv : c3.Inv := ⟨by decide, by decide⟩

/-- `evict_spec`: the hypothesis is satisfiable and the loop really evicts (two entries here). -/
example : (130 : Nat) = total 10 [⟨4, 30, 1⟩, ⟨3, 20, 1⟩, ⟨2, 20, 1⟩, ⟨1, 20, 1⟩] ∧
    evict 10 75 [⟨4, 30, 1⟩, ⟨3, 20, 1⟩, ⟨2, 20, 1⟩, ⟨1, 20, 1⟩] 130 = ([⟨4, 30, 1⟩, ⟨3, 20, 1⟩], 70) := by
  decide +kernel

/-- a `Put` of a new key that forces the eviction of the two least recently used keys -/
example : (c3.put 4 40 50).items = [⟨4, 50, 40⟩, ⟨3, 20, 30⟩] ∧ (c3.put 4 40 50).cur = 90 := by
  decide +kernel

/-- overwriting key 1 with a larger bitmap: it moves to the front and key 2 (then the least recently used) is evicted -/
example : (c3.put 1 11 45).items = [⟨1, 45, 11⟩, ⟨3, 20, 30⟩] := by
  decide +kernel

/-- an entry larger than the whole cache empties it -/
example : (c3.put 9 99 500).items = [] ∧ (c3.put 9 99 500).cur = 0 := by
  decide +kernel

/-- `fits_then_retrievable` / `byte_bound` / `inv_step`: the hypotheses hold for `c3` -/
example : ((c3.put 4 40 50).get 4).2 = some 40 :=
  fits_then_retrievable c3 4 40 50 c3_inv (by decide)

/-- `no_eviction_when_fits`: overwriting key 2 with a smaller bitmap keeps everything -/
example : (c3.put 2 21 5).items = [⟨2, 5, 21⟩, ⟨3, 20, 30⟩, ⟨1, 20, 10⟩] :=
  no_eviction_when_fits c3 2 21 5 c3_inv (by decide)

/-- `get_hit_moves_to_front`: a hit on the LRU key 1 -/
example : (c3.get 1).2 = some 10 ∧ (c3.get 1).1.items = [⟨1, 20, 10⟩, ⟨3, 20, 30⟩, ⟨2, 20, 20⟩] := by
  decide

/-- a miss -/
example : (c3.get 7).2 = none ∧ (c3.get 7).1.items = c3.items := by
  decide

/-- a concrete history (`get_returns_last_put`, `counters_exact`, `byte_bound_run`): key 1 is overwritten,
key 2 is evicted by the third `Put`, the first `Get` hits with the *last* bitmap of key 1, the second misses. -/
private def hist : List LruOp := [.put 1 10 20, .put 2 20 20, .put 1 11 20, .put 3 30 40, .get 1, .get 2]

example : ((Lru.empty 100 10).run hist).2 = [none, none, none, none, some 11, none] ∧
    ((Lru.empty 100 10).run hist).1.items = [⟨1, 20, 11⟩, ⟨3, 40, 30⟩] ∧
    ((Lru.empty 100 10).run hist).1.hits = 1 ∧ ((Lru.empty 100 10).run hist).1.misses = 1 := by
  decide +kernel

example : lastPut [.put 1 10 20, .put 2 20 20, .put 1 11 20, .put 3 30 40] 1 = some 11 := by decide

example : ((Lru.empty 100 10).run
    ([.put 1 10 20, .put 2 20 20, .put 1 11 20, .put 3 30 40] ++ [.get 1] ++ [.get 2])).2[4]? = some (some 11) := by
  decide +kernel

/-- degenerate configuration `max = 0`, `ovh = 0`: only empty bitmaps stay -/
example : ((Lru.empty 0 0).run [.put 2 20 5, .put 1 10 0, .get 1, .get 2]).2 = [none, none, some 10, none] := by
  decide +kernel

end Examples

end Updog.C07
