/-
C07 (history level) — in EVERY history of `Put`/`Get` operations from the empty cache, the cache's recency list is the
last-use order of the history restricted to the keys that are still resident; every resident entry is what the last
`Put` of its key stored; and eviction always takes the least recently used keys (the resident keys are upward closed in
the last-use order).
`recency`, `lastUse`, `lastIsPut` (Proofs/LruRecency.lean) and `lastPutItem` (Proofs/Lru.lean) are defined on the history
alone, without running the cache.  Property theorems only; they are read off `tracks_run`, the invariant of a run proved in
Proofs/LruRecency.lean.
-/
import Updog.Proofs.LruRecency
namespace Updog.C07

/-! ### 1. `recency` is the last-use order (facts about the history alone) -/

/-- reading the history forwards: the key of the latest operation moves to the front, the others keep their order -/
theorem recency_snoc (ops : List LruOp) (op : LruOp) :
    recency (ops ++ [op]) = op.key :: (recency ops).filter (· != op.key) :=
  Updog.recency_snoc ops op

/-- `recency ops` lists exactly the keys the history uses (`Put` or `Get`), each once, sorted by strictly decreasing
    position of their last use -/
theorem recency_spec (ops : List LruOp) :
    (recency ops).Nodup ∧ (∀ k, k ∈ recency ops ↔ ∃ op ∈ ops, op.key = k) ∧
    (recency ops).Pairwise fun a b => lastUse ops b < lastUse ops a :=
  ⟨recency_nodup ops, mem_recency ops, recency_sorted ops⟩

/-! ### 2. the recency list of the cache -/

/-- **Main theorem.** For every history from the empty cache (any `max`, `ovh`, sizes): the keys of the cache's item
list, front to back, are exactly the last-use order of the history restricted to the keys that survived eviction
(`isResident` = the key is in the cache at the end). A `Get` miss uses a key that is not resident, so counting it as a
use does not change the restricted order. -/
theorem items_eq_recency (max ovh : Nat) (ops : List LruOp) :
    let c := ((Lru.empty max ovh).run ops).1
    c.items.map (·.key) = (recency ops).filter c.isResident :=
  sublist_eq_filter (tracks_run max ovh ops).sub (recency_nodup ops) _ (isResident_iff _)

/-- equivalent forms: the item list is sorted by strictly decreasing last use, and is a sublist of `recency` -/
theorem items_sorted_by_last_use (max ovh : Nat) (ops : List LruOp) :
    let c := ((Lru.empty max ovh).run ops).1
    (c.items.map (·.key)).Sublist (recency ops) ∧
    c.items.Pairwise fun a b => lastUse ops b.key < lastUse ops a.key :=
  have hsub := (tracks_run max ovh ops).sub
  ⟨hsub, List.pairwise_map.1 ((recency_sorted ops).sublist hsub)⟩

/-- every resident entry is exactly the `(key, size, bitmap)` the last `Put` of its key stored -/
theorem items_are_last_put (max ovh : Nat) (ops : List LruOp) :
    ∀ it ∈ ((Lru.empty max ovh).run ops).1.items, lastPutItem ops it.key = some it :=
  (tracks_run max ovh ops).item

/-- **The whole item list from the history**: the last-use order, restricted to the resident keys, each key with the
entry of its last `Put`. -/
theorem items_eq (max ovh : Nat) (ops : List LruOp) :
    let c := ((Lru.empty max ovh).run ops).1
    c.items = ((recency ops).filter c.isResident).filterMap (lastPutItem ops) := by
  intro c
  rw [← items_eq_recency max ovh ops]
  have h : ∀ it ∈ c.items, lastPutItem ops it.key = some it := items_are_last_put max ovh ops
  change c.items = (c.items.map (·.key)).filterMap (lastPutItem ops)
  generalize c.items = l at h
  induction l with
  | nil => rfl
  | cons a t ih =>
    simp only [List.map_cons, List.filterMap_cons, h a List.mem_cons_self]
    rw [← ih (fun it hit => h it (List.mem_cons_of_mem _ hit))]

/-! ### 3. which keys survive -/

/-- a resident key was `Put` at some point -/
theorem resident_was_put (max ovh : Nat) (ops : List LruOp) (k : Nat)
    (h : ((Lru.empty max ovh).run ops).1.isResident k = true) : (lastPutItem ops k).isSome = true := by
  rw [isResident_iff] at h
  obtain ⟨x, hx, rfl⟩ := List.mem_map.1 h
  rw [items_are_last_put max ovh ops x hx]; rfl

/-- **Eviction takes the least recently used.** In every history: if a key is resident at the end, then every key
whose last use is LATER and is a `Put` is resident too. (So whenever a key that was `Put` last is gone, all keys used
before it are gone as well.) -/
theorem survivors_upward_closed (max ovh : Nat) (ops : List LruOp) (k' k : Nat)
    (hres : ((Lru.empty max ovh).run ops).1.isResident k' = true)
    (hlater : lastUse ops k' < lastUse ops k) (hput : lastIsPut ops k = true) :
    ((Lru.empty max ovh).run ops).1.isResident k = true :=
  (isResident_iff _ k).2 ((tracks_run max ovh ops).up k' ((isResident_iff _ k').1 hres) k hlater hput)

/-- no eviction: when every key that was ever `Put` is still resident, the item keys are the last-use order of the
    history restricted to the keys that were `Put` — a statement about the history alone -/
theorem items_eq_recency_of_no_eviction (max ovh : Nat) (ops : List LruOp)
    (hall : ∀ k, (lastPutItem ops k).isSome = true → ((Lru.empty max ovh).run ops).1.isResident k = true) :
    ((Lru.empty max ovh).run ops).1.items.map (·.key) = (recency ops).filter fun k => (lastPutItem ops k).isSome := by
  rw [items_eq_recency max ovh ops]
  apply List.filter_congr
  intro k _
  exact Bool.eq_iff_iff.2 ⟨resident_was_put max ovh ops k, hall k⟩

/-! ### non-vacuity -/

section Examples

/-- keys 1 and 2 put, 1 overwritten, 3 put (evicts 2: 100 bytes, overhead 10), hit on 1, miss on 2, miss on 9 -/
private def hist : List LruOp :=
  [.put 1 10 20, .put 2 20 20, .put 1 11 20, .put 3 30 40, .get 1, .get 2, .get 9]

private theorem hist_items : ((Lru.empty 100 10).run hist).1.items = [⟨1, 20, 11⟩, ⟨3, 40, 30⟩] := by
  decide +kernel

/-- the last-use order of the history alone: the two misses are the most recent uses -/
example : recency hist = [9, 2, 1, 3] := by decide

example : lastUse hist 3 = 4 ∧ lastUse hist 1 = 5 ∧ lastUse hist 2 = 6 ∧ lastUse hist 7 = 0 := by decide

/-- `items_eq_recency` on the concrete history: keys 9 (never put) and 2 (evicted) are filtered out, a real
    restriction, and the order `[1, 3]` is the last-use order (the hit moved 1 in front of 3) -/
example : ((Lru.empty 100 10).run hist).1.items.map (·.key) = [1, 3] ∧
    (recency hist).filter ((Lru.empty 100 10).run hist).1.isResident = [1, 3] := by
  rw [← items_eq_recency 100 10 hist, hist_items]; exact ⟨rfl, rfl⟩

/-- `items_eq`: the entries are those of the last `Put`s (key 1: the overwriting one) -/
example : ((recency hist).filter ((Lru.empty 100 10).run hist).1.isResident).filterMap (lastPutItem hist)
    = [⟨1, 20, 11⟩, ⟨3, 40, 30⟩] := by
  rw [← items_eq 100 10 hist, hist_items]

/-- `survivors_upward_closed`: its hypotheses hold after the first four operations with `k' = 1`, `k = 3` (key 1 is
    resident, key 3 was used later and its last use is a `Put`); and the theorem bites: key 2, used before key 1, is
    the one that is gone -/
example :
    let pre : List LruOp := [.put 1 10 20, .put 2 20 20, .put 1 11 20, .put 3 30 40]
    ((Lru.empty 100 10).run pre).1.isResident 1 = true ∧ lastUse pre 1 < lastUse pre 3 ∧ lastIsPut pre 3 = true ∧
    ((Lru.empty 100 10).run pre).1.isResident 2 = false ∧ lastUse pre 2 < lastUse pre 1 := by
  decide +kernel

/-- `items_eq_recency_of_no_eviction`: a history in which nothing is evicted satisfies the hypothesis -/
example : ∀ k, (lastPutItem [.put 1 10 20, .get 5, .put 2 20 20, .get 1] k).isSome = true →
    ((Lru.empty 100 10).run [.put 1 10 20, .get 5, .put 2 20 20, .get 1]).1.isResident k = true := by
  intro k
  by_cases h1 : 1 = k
  · subst h1; decide +kernel
  · by_cases h2 : 2 = k
    · subst h2; decide +kernel
    · intro hk
      simp [lastPutItem, h1, h2] at hk

end Examples

end Updog.C07
