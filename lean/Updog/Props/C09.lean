/-
C09 — the query parser is total and accepts exactly the documented grammar.

Model: `Updog/Model/Parser.lean` (`lexAll`, `parseSimple/parseExpr/parseChain`, `parseToks`, `parseQuery`).
Spec:  `Updog/Spec/Grammar.lean` (the EBNF of queryparser.go as inductive relations, read greedily).
Totality of `lexAll` / `parseQuery` is Lean's termination check of the model; the theorems below add
(1) the shape of the item stream, (2) adequacy of the fuel used by `parseToks`, (3)–(5) parser =
grammar, (6) the tree shapes, (7) the lexemes, (8) concrete instances.
-/
import Updog.Proofs.Parser
namespace Updog.C09
open Updog Updog.Grammar

/-! ## 1. the lexer emits exactly one terminal item, last -/

/-- For every input the item stream is non-empty, its last item is `eof` or `error`, and no earlier
item is `eof`/`error`: the lexer goroutine always reaches its end, so draining leaves nothing behind. -/
theorem lexAll_total_shape (s : Bytes) :
    ∃ (hne : lexAll s ≠ []),
      ((lexAll s).getLast hne = .eof ∨ (lexAll s).getLast hne = .error) ∧
      ∀ x ∈ (lexAll s).dropLast, x ≠ .eof ∧ x ≠ .error := by
  obtain ⟨pre, t, h, ht, hpre⟩ := lexAll_termShape s
  rw [h]
  refine ⟨List.concat_ne_nil _ _, ?_, ?_⟩
  · rw [List.getLast_concat]
    cases t <;> first | exact .inl rfl | exact .inr rfl | cases ht
  · intro x hx
    rw [List.dropLast_concat] at hx
    have := hpre x hx
    exact ⟨fun e => (by rw [e] at this; cases this), fun e => (by rw [e] at this; cases this)⟩

/-! ## 2. fuel -/

/-- more fuel never changes a successful result (all three mutual functions) -/
theorem fuel_mono {f g : Nat} (hfg : f ≤ g) :
    (∀ ts e r, parseSimple f ts = some (e, r) → parseSimple g ts = some (e, r)) ∧
    (∀ ts e r, parseExpr f ts = some (e, r) → parseExpr g ts = some (e, r)) ∧
    (∀ sep ts es r, parseChain f sep ts = some (es, r) → parseChain g sep ts = some (es, r)) :=
  ⟨fun ts e r => (parse_mono hfg).1 ts (e, r), fun ts e r => (parse_mono hfg).2.1 ts (e, r),
   fun sep ts es r => (parse_mono hfg).2.2 sep ts (es, r)⟩

/-- every successful call consumes at least one token and returns a suffix of its input -/
theorem remainder_shorter {f : Nat} {ts : List Tok} {e : PExpr} {r : List Tok}
    (h : parseExpr f ts = some (e, r)) : r.length < ts.length ∧ ∃ pre, ts = pre ++ r :=
  have hd := (parse_sound_all f).2.1 _ _ _ h
  ⟨hd.length_lt, hd.suffix⟩

/-- a result obtained with SOME fuel is obtained with every fuel `≥ consumed tokens + 1`,
in particular with the fuel `ts.length + 1` that `parseToks` uses -/
theorem fuel_adequate {f : Nat} {ts : List Tok} {e : PExpr} {r : List Tok}
    (h : parseExpr f ts = some (e, r)) :
    (∀ g, ts.length + 1 ≤ g + r.length → parseExpr g ts = some (e, r)) ∧
    parseExpr (ts.length + 1) ts = some (e, r) :=
  have hd := (parse_sound_all f).2.1 _ _ _ h
  ⟨hd.parse, hd.parse _ (by omega)⟩

/-- hence failure with the fuel of `parseToks` is failure with every fuel: running out of fuel is
never the reason for a rejection -/
theorem fuel_adequate_none {ts : List Tok} (h : parseExpr (ts.length + 1) ts = none) (f : Nat) :
    parseExpr f ts = none := by
  cases hf : parseExpr f ts with
  | none => rfl
  | some er =>
    obtain ⟨e, r⟩ := er
    rw [(fuel_adequate hf).2] at h; cases h

/-! ## 3. soundness -/

theorem parse_sound (f : Nat) :
    (∀ ts e r, parseSimple f ts = some (e, r) → Simple ts e r) ∧
    (∀ ts e r, parseExpr f ts = some (e, r) → Expr ts e r) ∧
    (∀ sep ts es r, parseChain f sep ts = some (es, r) → Chain sep ts es r) :=
  parse_sound_all f

theorem parseToks_sound {ts : List Tok} {q : PQuery} (h : parseToks ts = some q) : Sentence ts q :=
  parseToks_iff.mp h

/-! ## 4. completeness -/

theorem parse_complete :
    (∀ ts e r, Simple ts e r → ∃ f₀, ∀ f ≥ f₀, parseSimple f ts = some (e, r)) ∧
    (∀ ts e r, Expr ts e r → ∃ f₀, ∀ f ≥ f₀, parseExpr f ts = some (e, r)) ∧
    (∀ sep ts es r, Chain sep ts es r → ∃ f₀, ∀ f ≥ f₀, parseChain f sep ts = some (es, r)) :=
  ⟨fun ts _ _ h => ⟨ts.length, fun f hf => h.parse f (by omega)⟩,
   fun ts _ _ h => ⟨ts.length + 1, fun f hf => h.parse f (by omega)⟩,
   fun _ ts _ _ h => ⟨ts.length + 1, fun f hf => h.parse f (by omega)⟩⟩

theorem parseToks_complete {ts : List Tok} {q : PQuery} (h : Sentence ts q) : parseToks ts = some q :=
  parseToks_iff.mpr h

/-! ## 5. parser = grammar; the grammar is unambiguous -/

theorem parse_iff_sentence {ts : List Tok} {q : PQuery} : parseToks ts = some q ↔ Sentence ts q :=
  parseToks_iff

/-- `ParseQuery` succeeds with `q` exactly when the item stream of the input is a sentence denoting `q` -/
theorem parseQuery_iff_sentence {s : Bytes} {q : PQuery} :
    parseQuery s = some q ↔ Sentence (lexAll s) q :=
  parseToks_iff

/-- `ParseQuery` fails exactly when the item stream is not a sentence -/
theorem parseQuery_none_iff {s : Bytes} : parseQuery s = none ↔ ¬ ∃ q, Sentence (lexAll s) q := by
  constructor
  · rintro h ⟨q, hq⟩
    rw [parseQuery_iff_sentence.mpr hq] at h; cases h
  · intro h
    cases hq : parseQuery s with
    | none => rfl
    | some q => exact absurd ⟨q, parseQuery_iff_sentence.mp hq⟩ h

theorem grammar_unambiguous {ts : List Tok} {q q' : PQuery}
    (h : Sentence ts q) (h' : Sentence ts q') : q = q' :=
  h.unique h'

/-- also below the sentence level: a token list has at most one reading as a simple-expr / expr -/
theorem phrase_unambiguous {ts : List Tok} {e e' : PExpr} {r r' : List Tok} :
    (Simple ts e r → Simple ts e' r' → e = e' ∧ r = r') ∧
    (Expr ts e r → Expr ts e' r' → e = e' ∧ r = r') :=
  ⟨Simple.unique, Expr.unique⟩

/-- a lexer error is a parse error -/
theorem lex_error_rejected {s : Bytes} (h : Tok.error ∈ lexAll s) : parseQuery s = none := by
  rw [parseQuery_none_iff]
  rintro ⟨q, hq⟩
  have hlast := hq.getLast
  obtain ⟨pre, t, hs, ht, hpre⟩ := lexAll_termShape s
  rw [hs] at h hlast
  rw [List.getLast?_concat] at hlast
  cases hlast
  rcases List.mem_append.mp h with h | h
  · have := hpre _ h; simp [Tok.isTerminal] at this
  · simp at h

/-! ## 6. tree shape -/

/-- `^` binds tightest: after `^` comes exactly one simple-expr, and the result is its negation -/
theorem not_binds_tightest {ts : List Tok} {e : PExpr} {r : List Tok} :
    Simple (.not :: ts) e r ↔ ∃ e', e = .not e' ∧ Simple ts e' r := by
  constructor
  · intro h; cases h with
    | not h => exact ⟨_, rfl, h⟩
  · rintro ⟨e', rfl, h⟩; exact .not h

/-- parentheses only group: `( expr )` is the tree of `expr`, unchanged -/
theorem parens_transparent {ts : List Tok} {e : PExpr} {r : List Tok} :
    Simple (.lparen :: ts) e r ↔ Expr ts e (.rparen :: r) := by
  constructor
  · intro h; cases h with
    | group h => exact h
  · exact .group

/-- a comparison is three tokens and denotes one `eq` leaf (value unescaped, or placeholder ≥ 1) -/
theorem comparison_shape {c : Bytes} {t : Tok} {ts : List Tok} {e : PExpr} {r : List Tok} :
    Simple (.field c :: t :: ts) e r ↔
      t = .eq ∧ ((∃ body, ts = .value body :: r ∧ e = .eq c (unescape body) 0) ∨
        (∃ ds, ts = .placeholder ds :: r ∧ 1 ≤ decodePlaceholder ds ∧
          e = .eq c [] (decodePlaceholder ds))) := by
  constructor
  · intro h; cases h with
    | cmpValue _ body _ => exact ⟨rfl, .inl ⟨body, rfl, rfl⟩⟩
    | cmpPlaceholder _ ds _ h => exact ⟨rfl, .inr ⟨ds, rfl, h, rfl⟩⟩
  · rintro ⟨rfl, ⟨body, rfl, rfl⟩ | ⟨ds, rfl, h, rfl⟩⟩
    · exact .cmpValue _ _ _
    · exact .cmpPlaceholder _ _ _ h

/-- `s₀ & s₁ & … & sₙ` (n ≥ 1 further operands) is ONE n-ary `and` node, operands in source order -/
theorem and_chain_one_node {p : List Tok} {e : PExpr} (hp : SimplePhrase p e)
    (ps : List (List Tok × PExpr)) (hps : ∀ x ∈ ps, SimplePhrase x.1 x.2) (hne : ps ≠ [])
    {r : List Tok} (hr : r.head? ≠ some .and) :
    Expr (p ++ ps.flatMap (fun x => .and :: x.1) ++ r) (.and (e :: ps.map (·.2))) r := by
  cases ps with
  | nil => exact absurd rfl hne
  | cons x ps =>
    have hc := chain_of_phrases .and hr ps (fun z hz => hps z (by simp [hz])) x (hps x (by simp))
    have := Expr.and (hp _) hc
    simpa [List.append_assoc] using this

/-- the same for `|` -/
theorem or_chain_one_node {p : List Tok} {e : PExpr} (hp : SimplePhrase p e)
    (ps : List (List Tok × PExpr)) (hps : ∀ x ∈ ps, SimplePhrase x.1 x.2) (hne : ps ≠ [])
    {r : List Tok} (hr : r.head? ≠ some .or) :
    Expr (p ++ ps.flatMap (fun x => .or :: x.1) ++ r) (.or (e :: ps.map (·.2))) r := by
  cases ps with
  | nil => exact absurd rfl hne
  | cons x ps =>
    have hc := chain_of_phrases .or hr ps (fun z hz => hps z (by simp [hz])) x (hps x (by simp))
    have := Expr.or (hp _) hc
    simpa [List.append_assoc] using this

/-- every `and`/`or` node of a parsed tree has at least two operands (a lone operand is returned as
itself, never wrapped), at every depth -/
theorem nary_nodes_have_two_operands {ts : List Tok} {q : PQuery} (h : parseToks ts = some q) :
    nary2 q.expr = true :=
  parseToks_nary2 h

/-- a chain never stops in front of its own operator (maximal munch) -/
theorem chain_greedy {ts : List Tok} {es : List PExpr} {r : List Tok} :
    (Expr ts (.and es) r → ts.head? ≠ some .lparen → r.head? ≠ some .and) ∧
    (Expr ts (.or es) r → ts.head? ≠ some .lparen → r.head? ≠ some .or) := by
  constructor
  · intro h hp
    cases h with
    | single h _ _ => cases h with
      | group _ => simp at hp
    | and _ hc => exact hc.stop
  · intro h hp
    cases h with
    | single h _ _ => cases h with
      | group _ => simp at hp
    | or _ hc => exact hc.stop

/-- mixing `&` and `|` on one level without parentheses is not a sentence: `a & b | …` is rejected -/
theorem mixed_and_or_rejected {a b : List Tok} {ea eb : PExpr} (ha : SimplePhrase a ea)
    (hb : SimplePhrase b eb) (rest : List Tok) (q : PQuery) :
    ¬ Sentence (a ++ .and :: (b ++ .or :: rest)) q := by
  have key : ∀ e r, Expr (a ++ .and :: (b ++ .or :: rest)) e r → r = .or :: rest := by
    intro e r h
    cases h with
    | single h h1 _ =>
      obtain ⟨_, rfl⟩ := h.unique (ha _); simp at h1
    | and h hc =>
      obtain ⟨_, hr⟩ := h.unique (ha _)
      cases hr
      cases hc with
      | last h' _ => exact (h'.unique (hb _)).2
      | more h' _ => have := (h'.unique (hb _)).2; cases this
    | or h _ => have := (h.unique (ha _)).2; cases this
  intro h
  cases h with
  | plain h => have := key _ _ h; cases this
  | grouped h _ => have := key _ _ h; cases this

/-- and symmetrically `a | b & …` -/
theorem mixed_or_and_rejected {a b : List Tok} {ea eb : PExpr} (ha : SimplePhrase a ea)
    (hb : SimplePhrase b eb) (rest : List Tok) (q : PQuery) :
    ¬ Sentence (a ++ .or :: (b ++ .and :: rest)) q := by
  have key : ∀ e r, Expr (a ++ .or :: (b ++ .and :: rest)) e r → r = .and :: rest := by
    intro e r h
    cases h with
    | single h _ h2 =>
      obtain ⟨_, rfl⟩ := h.unique (ha _); simp at h2
    | or h hc =>
      obtain ⟨_, hr⟩ := h.unique (ha _)
      cases hr
      cases hc with
      | last h' _ => exact (h'.unique (hb _)).2
      | more h' _ => have := (h'.unique (hb _)).2; cases this
    | and h _ => have := (h.unique (ha _)).2; cases this
  intro h
  cases h with
  | plain h => have := key _ _ h; cases this
  | grouped h _ => have := key _ _ h; cases this

/-- comparisons are simple phrases (so the chain / mixing theorems apply to them) -/
theorem comparison_phrase (c body : Bytes) :
    SimplePhrase [.field c, .eq, .value body] (.eq c (unescape body) 0) :=
  fun r => .cmpValue c body r

theorem not_phrase {p : List Tok} {e : PExpr} (h : SimplePhrase p e) :
    SimplePhrase (.not :: p) (.not e) :=
  fun r => .not (h r)

/-- `unescape` distributes over well-escaped prefixes -/
theorem unescape_body_append {a : Bytes} (ha : StrBody a) (b : Bytes) :
    unescape (a ++ b) = unescape a ++ unescape b := by
  induction ha with
  | nil => simp [unescape]
  | @char x a hx h ih =>
    rw [List.cons_append, unescape, unescape, ih]
    · rfl
    · intro r h _; exact hx h
    · intro r h _; exact hx h
  | @quote a h ih =>
    rw [List.cons_append, List.cons_append, unescape, unescape, ih]; rfl

/-- `unescape` turns each doubled quote into one quote and changes nothing else -/
theorem unescape_doubled_quote {a : Bytes} (ha : StrBody a) (b : Bytes) :
    unescape (a ++ [34, 34] ++ b) = unescape a ++ 34 :: unescape b := by
  rw [List.append_assoc, unescape_body_append ha]; rfl

theorem unescape_plain {a : Bytes} (h : (34 : UInt8) ∉ a) : unescape a = a := by
  induction a with
  | nil => rfl
  | cons x a ih =>
    simp only [List.mem_cons, not_or] at h
    rw [unescape, ih h.2]
    intro r hx _; exact h.1 hx.symm

/-- rejected placeholders: `$` without digits, `$0`, and numbers above 2147483647 decode to 0 (`< 1`) -/
theorem placeholder_rejected :
    decodePlaceholder [] = 0 ∧ decodePlaceholder [48] = 0 ∧
    (∀ ds, 2147483647 < digitsVal ds → decodePlaceholder ds = 0) ∧
    (∀ c ds r e r', decodePlaceholder ds < 1 →
      ¬ Simple (.field c :: .eq :: .placeholder ds :: r) e r') := by
  refine ⟨rfl, by decide, fun _ h => by simp [decodePlaceholder, h], ?_⟩
  intro c ds r e r' hlt h
  cases h with
  | cmpPlaceholder _ _ _ h => omega

/-- accepted placeholders are exactly the non-empty digit strings with value in `1 … 2147483647`,
and they decode to their decimal value -/
theorem placeholder_accepted {ds : Bytes} :
    (1 ≤ decodePlaceholder ds ↔ ds ≠ [] ∧ 1 ≤ digitsVal ds ∧ digitsVal ds ≤ 2147483647) ∧
    (1 ≤ decodePlaceholder ds → decodePlaceholder ds = digitsVal ds) ∧
    (∀ d, digitsVal (ds ++ [d]) = digitsVal ds * 10 + (d.toNat - 48)) := by
  have inv : 1 ≤ decodePlaceholder ds → ds ≠ [] ∧ digitsVal ds ≤ 2147483647 := by
    intro h
    refine ⟨?_, Nat.le_of_not_lt fun hb => ?_⟩
    · rintro rfl; cases h
    · rw [placeholder_rejected.2.2.1 ds hb] at h; cases h
  have eq : 1 ≤ decodePlaceholder ds → decodePlaceholder ds = digitsVal ds :=
    fun h => decodePlaceholder_eq (inv h).1 (inv h).2
  exact ⟨⟨fun h => ⟨(inv h).1, eq h ▸ h, (inv h).2⟩,
      fun ⟨h1, h2, h3⟩ => (decodePlaceholder_eq h1 h3).symm ▸ h2⟩,
    eq, fun d => by simp [digitsVal, List.foldl_append]⟩

/-! ## 7. lexemes -/

/-- string literal: opening quote, a body in which every quote is doubled, closing quote not followed
by a further quote.  The item carries the still-escaped body (the parser applies `unescape`). -/
theorem lex_value {body rest : Bytes} (hb : StrBody body) (hr : rest.head? ≠ some 34) :
    lexAll (34 :: body ++ 34 :: rest) = .value body :: lexAll rest :=
  lexAll_value hb hr

/-- conversely, whenever a quote starts a `value` item, the input has exactly that form -/
theorem lex_value_inv {s : Bytes} {t : Tok} {l : List Tok} (h : lexAll (34 :: s) = t :: l) :
    (t = .error ∧ l = [] ∧ ¬ ∃ b r, s = b ++ 34 :: r ∧ StrBody b ∧ r.head? ≠ some 34) ∨
    (∃ b r, s = b ++ 34 :: r ∧ StrBody b ∧ r.head? ≠ some 34 ∧ t = .value b ∧ l = lexAll r) := by
  cases hs : scanStr s with
  | none =>
    rw [lexAll_quote_none hs] at h
    cases h
    exact .inl ⟨rfl, rfl, scanStr_none_iff.mp hs⟩
  | some br =>
    obtain ⟨b, r⟩ := br
    rw [lexAll_quote_some hs] at h
    cases h
    obtain ⟨h1, h2, h3⟩ := scanStr_some hs
    exact .inr ⟨b, r, h1, h2, h3, rfl, rfl⟩

/-- an unterminated string (no closing quote after a well-escaped body, or no such split at all)
yields the single item `error` at that point: the lexer stops -/
theorem lex_unterminated :
    (∀ {body : Bytes}, StrBody body → lexAll (34 :: body) = [.error]) ∧
    (∀ {s : Bytes}, (¬ ∃ b r, s = b ++ 34 :: r ∧ StrBody b ∧ r.head? ≠ some 34) →
      lexAll (34 :: s) = [.error]) :=
  ⟨fun hb => lexAll_quote_none (scanStr_unterminated hb),
   fun h => lexAll_quote_none (scanStr_none_iff.mpr h)⟩

/-- identifier: a letter followed by the longest run of letters, digits and `_` -/
theorem lex_field {c : UInt8} {cs rest : Bytes} (hc : isAlpha c = true)
    (hcs : ∀ x ∈ cs, isFieldChar x = true)
    (hrest : ∀ x, rest.head? = some x → isFieldChar x = false) :
    lexAll (c :: cs ++ rest) = .field (c :: cs) :: lexAll rest :=
  lexAll_field hc hcs hrest

/-- placeholder: `$` and the longest (possibly empty) run of digits -/
theorem lex_placeholder {ds rest : Bytes} (hds : ∀ x ∈ ds, isDigit x = true)
    (hrest : ∀ x, rest.head? = some x → isDigit x = false) :
    lexAll (36 :: ds ++ rest) = .placeholder ds :: lexAll rest :=
  lexAll_placeholder hds hrest

/-- the single-byte lexemes `( ) & | ^ , ; =` -/
theorem lex_punct (rest : Bytes) :
    lexAll (40 :: rest) = .lparen :: lexAll rest ∧ lexAll (41 :: rest) = .rparen :: lexAll rest ∧
    lexAll (38 :: rest) = .and :: lexAll rest ∧ lexAll (124 :: rest) = .or :: lexAll rest ∧
    lexAll (94 :: rest) = .not :: lexAll rest ∧ lexAll (44 :: rest) = .comma :: lexAll rest ∧
    lexAll (59 :: rest) = .semi :: lexAll rest ∧ lexAll (61 :: rest) = .eq :: lexAll rest :=
  ⟨lexAll_lparen _, lexAll_rparen _, lexAll_and _, lexAll_or _, lexAll_not _, lexAll_comma _,
   lexAll_semi _, lexAll_eq _⟩

/-- blanks, tabs, CR and LF between lexemes are skipped; the end of input gives `eof` -/
theorem lex_space_eof {ws : Bytes} (h : ∀ x ∈ ws, isSpace x = true) (rest : Bytes) :
    lexAll (ws ++ rest) = lexAll rest ∧ lexAll [] = [.eof] :=
  ⟨by rw [← lexAll_dropSpace (ws ++ rest), List.dropWhile_append_of_pos h, lexAll_dropSpace], lexAll_nil⟩

/-- every other byte makes the lexer stop with the single item `error` -/
theorem lex_unknown {c : UInt8} (rest : Bytes) (h0 : isSpace c = false)
    (h1 : c ∉ [40, 41, 38, 124, 94, 44, 59, 61, 34, 36]) (h2 : isAlpha c = false) :
    lexAll (c :: rest) = [.error] := by
  simp only [List.mem_cons, List.not_mem_nil, or_false, not_or] at h1
  obtain ⟨a1, a2, a3, a4, a5, a6, a7, a8, a9, a10⟩ := h1
  rw [lexAll]
  simp only [h0, h2, a1, a2, a3, a4, a5, a6, a7, a8, a9, a10, beq_iff_eq, Bool.false_eq_true,
    ↓reduceIte]

/-! ## 8. non-vacuity: concrete instances -/

/-- the bytes of ``a="x""y" & ^(b=$2|c="");a,b`` -/
def exBytes : Bytes :=
  [97, 61, 34, 120, 34, 34, 121, 34, 32, 38, 32, 94, 40, 98, 61, 36, 50, 124, 99, 61, 34, 34, 41,
   59, 97, 44, 98]

def exToks : List Tok :=
  [.field [97], .eq, .value [120, 34, 34, 121], .and, .not, .lparen, .field [98], .eq,
   .placeholder [50], .or, .field [99], .eq, .value [], .rparen, .semi, .field [97], .comma,
   .field [98], .eof]

/-- `and [a = x"y, not (or [b = $2, c = ""])]` grouped by `a, b` -/
def exQuery : PQuery :=
  ⟨.and [.eq [97] [120, 34, 121] 0, .not (.or [.eq [98] [] 2, .eq [99] [] 0])], [[97], [98]]⟩

theorem ex_lex : lexAll exBytes = exToks := by
  simp +decide [exBytes, exToks, lexAll_lparen, lexAll_rparen, lexAll_and, lexAll_or, lexAll_not,
    lexAll_comma, lexAll_semi, lexAll_eq, lexAll_nil, lexAll_field_raw, lexAll_placeholder_raw,
    lexAll_space, lexAll_quote, scanStr]

example : parseToks exToks = some exQuery := rfl
example : parseQuery exBytes = some exQuery := by rw [parseQuery, ex_lex]; rfl
example : Sentence (lexAll exBytes) exQuery :=
  parseQuery_iff_sentence.mp (by rw [parseQuery, ex_lex]; rfl)
/-- hypotheses of `lexAll_total_shape`, `fuel_adequate`, `parse_sound`, `parse_complete`,
    `grammar_unambiguous` are satisfiable -/
example : ∃ f e r, parseExpr f exToks = some (e, r) ∧ Expr exToks e r ∧ r.length < exToks.length :=
  ⟨20, _, _, rfl, (parse_sound 20).2.1 _ _ _ rfl, by decide⟩
example : nary2 exQuery.expr = true := nary_nodes_have_two_operands (ts := exToks) rfl

/-- a hand-written derivation: `^a="x"` is `not (a = x)` -/
example : Sentence [.not, .field [97], .eq, .value [120], .eof] ⟨.not (.eq [97] [120] 0), []⟩ :=
  .plain (.single (.not (.cmpValue [97] [120] [.eof])) (by simp) (by simp))

/-- `a="x" & b="y" & c="z"` is ONE ternary `and` (instance of `and_chain_one_node`) -/
example :
    Expr ([.field [97], .eq, .value [120]] ++
        [([Tok.field [98], Tok.eq, Tok.value [121]], PExpr.eq [98] [121] 0),
         ([Tok.field [99], Tok.eq, Tok.value [122]], PExpr.eq [99] [122] 0)].flatMap
          (fun x => Tok.and :: x.1) ++ [.eof])
      (.and [.eq [97] [120] 0, .eq [98] [121] 0, .eq [99] [122] 0]) [.eof] :=
  and_chain_one_node (comparison_phrase [97] [120]) _
    (by
      intro x hx
      simp only [List.mem_cons, List.not_mem_nil, or_false] at hx
      rcases hx with rfl | rfl
      · exact comparison_phrase [98] [121]
      · exact comparison_phrase [99] [122])
    (by simp) (by simp)
example :
    parseToks [.field [97], .eq, .value [120], .and, .field [98], .eq, .value [121], .and,
      .field [99], .eq, .value [122], .eof] =
    some ⟨.and [.eq [97] [120] 0, .eq [98] [121] 0, .eq [99] [122] 0], []⟩ := rfl

/-- `a="x" & b="y" | c="z"` is rejected (instance of `mixed_and_or_rejected`, and by computation) -/
example (q : PQuery) :
    ¬ Sentence ([.field [97], .eq, .value [120]] ++ .and ::
      ([.field [98], .eq, .value [121]] ++ .or :: [.field [99], .eq, .value [122], .eof])) q :=
  mixed_and_or_rejected (comparison_phrase [97] [120]) (comparison_phrase [98] [121]) _ q
example :
    parseToks [.field [97], .eq, .value [120], .and, .field [98], .eq, .value [121], .or,
      .field [99], .eq, .value [122], .eof] = none := rfl
/-- with parentheses it is accepted, and the parentheses leave no trace in the tree -/
example :
    parseToks [.field [97], .eq, .value [120], .and, .lparen, .field [98], .eq, .value [121], .or,
      .field [99], .eq, .value [122], .rparen, .eof] =
    some ⟨.and [.eq [97] [120] 0, .or [.eq [98] [121] 0, .eq [99] [122] 0]], []⟩ := rfl
example :
    parseToks [.lparen, .lparen, .field [97], .eq, .value [120], .rparen, .rparen, .eof] =
    some ⟨.eq [97] [120] 0, []⟩ := rfl
/-- `^a="x" & b="y"` negates only `a="x"` -/
example :
    parseToks [.not, .field [97], .eq, .value [120], .and, .field [98], .eq, .value [121], .eof] =
    some ⟨.and [.not (.eq [97] [120] 0), .eq [98] [121] 0], []⟩ := rfl

/-- placeholders: `a=$12` accepted with 12; `a=$0`, `a=$`, `a=$2147483648` rejected -/
example : parseToks [.field [97], .eq, .placeholder [49, 50], .eof] = some ⟨.eq [97] [] 12, []⟩ := rfl
example : parseToks [.field [97], .eq, .placeholder [48], .eof] = none := rfl
example : parseToks [.field [97], .eq, .placeholder [], .eof] = none := rfl
example : decodePlaceholder [50, 49, 52, 55, 52, 56, 51, 54, 52, 55] = 2147483647 := by decide
example : decodePlaceholder [50, 49, 52, 55, 52, 56, 51, 54, 52, 56] = 0 := by decide

/-- lexer errors: an unterminated string and an unknown byte (`#`); both are parse errors -/
example : lexAll [97, 61, 34, 120] = [.field [97], .eq, .error] := by
  simp +decide [lexAll_eq, lexAll_field_raw, lexAll_quote, scanStr]
example : parseQuery [97, 61, 34, 120] = none :=
  lex_error_rejected (by
    simp +decide [lexAll_eq, lexAll_field_raw, lexAll_quote, scanStr])
example : lexAll [35, 97] = [.error] := lex_unknown _ (by decide) (by decide) (by decide)
/-- the empty query and a trailing operator are rejected -/
example : parseQuery [] = none := by rw [parseQuery, lexAll_nil]; rfl
example : parseToks [.field [97], .eq, .value [120], .and, .eof] = none := rfl
/-- `unescape`: `x""y` ↦ `x"y` -/
example : unescape [120, 34, 34, 121] = [120, 34, 121] := by decide

end Updog.C09
