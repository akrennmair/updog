/-
C11 (extension): `numInput` computed through `Walk` is the highest placeholder number, and a full walk visits every
comparison exactly once in source order — the traversal `ReplacePlaceholders` relies on.
-/
import Updog.Model.Walk
import Updog.Props.C11
namespace Updog.C11
open Updog

mutual
theorem walk_full (e : PExpr) : (walkNodes (fun _ => true) e).1 = true := by
  match e with
  | .eq _ _ _ => simp [walkNodes]
  | .not c => simp [walkNodes, walk_full c]
  | .and cs => simp [walkNodes, walkList_full cs]
  | .or cs => simp [walkNodes, walkList_full cs]
theorem walkList_full (cs : List PExpr) : (walkList (fun _ => true) cs).1 = true := by
  match cs with
  | [] => simp [walkList]
  | c :: cs' => simp [walkList, walk_full c, walkList_full cs']
end

def phOfNodes (ns : List PExpr) : List Nat := ns.filterMap phOf

theorem phOfNodes_append (a b : List PExpr) : phOfNodes (a ++ b) = phOfNodes a ++ phOfNodes b := by
  simp [phOfNodes, List.filterMap_append]

mutual
/-- a full walk meets the comparisons in source order: their placeholder numbers are those of `leaves` -/
theorem walk_placeholders (e : PExpr) : phOfNodes (walkNodes (fun _ => true) e).2 = (leaves e).map (·.2.2) := by
  match e with
  | .eq c v ph => simp [walkNodes, phOfNodes, leaves, phOf]
  | .not c =>
    simp only [walkNodes, ite_true, leaves]
    rw [← walk_placeholders c]
    simp [phOfNodes, List.filterMap_cons, phOf]
  | .and cs =>
    simp only [walkNodes, ite_true, leaves]
    rw [← walkList_placeholders cs]
    simp [phOfNodes, List.filterMap_cons, phOf]
  | .or cs =>
    simp only [walkNodes, ite_true, leaves]
    rw [← walkList_placeholders cs]
    simp [phOfNodes, List.filterMap_cons, phOf]
theorem walkList_placeholders (cs : List PExpr) :
    phOfNodes (walkList (fun _ => true) cs).2 = (leavesL cs).map (·.2.2) := by
  match cs with
  | [] => simp [walkList, phOfNodes, leavesL]
  | c :: cs' =>
    simp only [walkList, walk_full c, ite_true, leavesL, List.map_append]
    rw [phOfNodes_append, walk_placeholders c, walkList_placeholders cs']
end

theorem foldl_max_eq_foldr (l : List Nat) (a : Nat) : l.foldl max a = max a (l.foldr max 0) := by
  induction l generalizing a with
  | nil => exact (Nat.max_zero a).symm
  | cons x xs ih => rw [List.foldl_cons, List.foldr_cons, ih, Nat.max_assoc]

/-- `NumInput()` as the driver computes it (a `Walk` keeping the maximum) is the highest placeholder number -/
theorem numInput_walk_eq_maxPh (e : PExpr) : numInputW e = maxPh e := by
  unfold numInputW walkPlaceholders
  have h := walk_placeholders e
  unfold phOfNodes at h
  rw [h, foldl_max_eq_foldr, maxPh_spec]
  omega

example : numInputW (.and [.eq [97] [] 2, .not (.eq [98] [] 5), .eq [99] [120] 0]) = 5 := by
  rw [numInput_walk_eq_maxPh]; simp [maxPh, maxPhList]

end Updog.C11
