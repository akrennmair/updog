/-
C19 (command level) — `updog create` as a whole: it always terminates; a malformed CSV or an existing output makes
it fail with exit status 1 without touching an existing output; a well-formed CSV and an absent output make it
succeed with a complete index — in both modes alike.  All statements are checked on all 16 input combinations.
(What the complete index contains is C19 `Props/C19.lean` + C05 `writers_agree`.)
-/
import Updog.Model.CreateCmd
namespace Updog.C19

/-- the whole table in closed form: the command always terminates, never touches an existing output, and succeeds —
    exit status 0, complete index — exactly on a well-formed CSV with no output in the way -/
theorem createCmd_eq (i : CreateIn) :
    createCmd i = ⟨if i.wellFormed && !i.outputExists then 0 else 1, false, i.wellFormed && !i.outputExists, true⟩ := by
  obtain ⟨h, c, o, b⟩ := i
  cases h <;> cases c <;> cases o <;> cases b <;> rfl

/-- **Termination.** The command terminates on every input, in both modes (in particular `--big` on a malformed
CSV: the deferred `idx.Close()` rolls the temp transaction back before `tempDB.Close()`). -/
theorem create_terminates (i : CreateIn) : (createCmd i).terminates = true := by
  rw [createCmd_eq]

/-- **Failure is safe.** Malformed CSV or existing output ⇒ exit status ≠ 0, an existing output is not touched, and
no complete index is claimed. -/
theorem create_fails_safely (i : CreateIn) (hbad : i.wellFormed = false ∨ i.outputExists = true) :
    (createCmd i).exitStatus ≠ 0 ∧ (createCmd i).existingOutputTouched = false ∧
    (createCmd i).outputIsCompleteIndex = false := by
  have : (i.wellFormed && !i.outputExists) = false := by rcases hbad with h | h <;> simp [h]
  rw [createCmd_eq, this]
  exact ⟨Nat.one_ne_zero, rfl, rfl⟩

/-- an existing output is never touched, whatever else happens -/
theorem create_never_touches_existing (i : CreateIn) : (createCmd i).existingOutputTouched = false := by
  rw [createCmd_eq]

/-- **Success.** Well-formed CSV and absent output ⇒ exit status 0 and the output is a complete index, whatever the
mode. -/
theorem create_succeeds (i : CreateIn) (hwf : i.wellFormed = true) (habs : i.outputExists = false) :
    createCmd i = ⟨0, false, true, true⟩ := by
  rw [createCmd_eq, hwf, habs]; rfl

/-- exit status 0 exactly for a well-formed CSV and an absent output; otherwise 1 (`os.Exit(1)`) -/
theorem create_exit_status (i : CreateIn) :
    (createCmd i).exitStatus = if i.wellFormed && !i.outputExists then 0 else 1 := by
  rw [createCmd_eq]

/-- exit status 0 ⇔ the output is a complete index written by this run -/
theorem create_exit_zero_iff_complete (i : CreateIn) :
    (createCmd i).exitStatus = 0 ↔ (createCmd i).outputIsCompleteIndex = true := by
  rw [createCmd_eq]
  cases (i.wellFormed && !i.outputExists) <;> decide

/-- **Both modes alike.** The outcome does not depend on `--big`. -/
theorem create_modes_agree (i : CreateIn) : createCmd { i with big := true } = createCmd { i with big := false } := by
  rw [createCmd_eq, createCmd_eq]; rfl

/-- The only observable difference between the modes: `--big` opens the output before it reads the records, so a
malformed record (after a readable header, output absent) leaves a new, incomplete output file behind — only then,
and the exit status says so. -/
theorem create_leftover_iff (i : CreateIn) :
    (createRun .repaired i).newIncompleteOutputLeft = (i.big && i.headerOk && !i.csvOk && !i.outputExists) ∧
    ((createRun .repaired i).newIncompleteOutputLeft = true → (createCmd i).exitStatus = 1) := by
  obtain ⟨h, c, o, b⟩ := i
  cases h <;> cases c <;> cases o <;> cases b <;> decide

/-! ### the two design decisions are needed (sensitivity of the model) -/

/-- without `defer idx.Close()` (the code before fix 72e7103) `--big` on a malformed CSV hangs -/
theorem unrepaired_hangs :
    (createRun ⟨true, false⟩ ⟨true, false, false, true⟩).terminates = false := rfl

/-- … and only there: the other 15 combinations terminate even then -/
theorem unrepaired_hangs_only_there (i : CreateIn) :
    (createRun ⟨true, false⟩ i).terminates = !(i.big && i.headerOk && !i.csvOk && !i.outputExists) := by
  obtain ⟨h, c, o, b⟩ := i
  cases h <;> cases c <;> cases o <;> cases b <;> rfl

/-- without O_EXCL an existing output would be opened and written into, in both modes -/
theorem nonexclusive_touches (big : Bool) :
    (createRun ⟨false, true⟩ ⟨true, true, true, big⟩).existingOutputTouched = true := by
  cases big <;> rfl

/-! ### non-vacuity: each hypothesis combination occurs -/

example : (⟨true, true, false, true⟩ : CreateIn).wellFormed = true ∧
    createCmd ⟨true, true, false, true⟩ = ⟨0, false, true, true⟩ ∧
    createCmd ⟨true, true, false, false⟩ = ⟨0, false, true, true⟩ := ⟨rfl, rfl, rfl⟩

example : (⟨true, false, false, true⟩ : CreateIn).wellFormed = false ∧
    createCmd ⟨true, false, false, true⟩ = ⟨1, false, false, true⟩ ∧
    createCmd ⟨true, true, true, false⟩ = ⟨1, false, false, true⟩ ∧
    createCmd ⟨false, false, true, true⟩ = ⟨1, false, false, true⟩ := ⟨rfl, rfl, rfl, rfl⟩

end Updog.C19
