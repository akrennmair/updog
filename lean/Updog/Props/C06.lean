/-
C06 — crash atomicity of index creation: a crash after any proper prefix of the committed
transactions of `IndexWriter.WriteToBoltDatabase` (any map iteration order, any batch size), or before
the single commit of `BigIndexWriter.Flush`, leaves a file that `OpenIndex` rejects.
Property theorems only; helper lemmas live in Updog/Proofs/BoltTx.lean.
-/
import Updog.Proofs.BoltTx
namespace Updog.C06
open Updog

/-! ### in-memory writer -/

/-- Main theorem. For every iteration order `perm`, every batch size ≥ 1 and every `k` smaller than the
number of transactions, the file after `k` commits has neither schema nor counter. -/
theorem crash_atomic (w : Writer) (perm : ValMap) (batch : Nat) (hb : 1 ≤ batch) (k : Nat)
    (hk : k < (writeTxs w.schema w.next perm batch).length) :
    (imageAfter (writeTxs w.schema w.next perm batch) k).hasHeader = false
    ∧ (imageAfter (writeTxs w.schema w.next perm batch) k).schema = none
    ∧ (imageAfter (writeTxs w.schema w.next perm batch) k).counter = none := by
  rw [writeTxs_length _ _ perm batch hb] at hk
  obtain ⟨h1, h2, _⟩ := imageAfter_writeTxs_prefix w.schema w.next perm batch hb k (by omega)
  exact ⟨by simp [BoltImage.hasHeader, h1], h1, h2⟩

/-- The file states reachable by a crash are exactly the `prefixState`s of Model/Open.lean. -/
theorem stateOf_prefix (w : Writer) (perm : ValMap) (batch : Nat) (hb : 1 ≤ batch) (k : Nat) :
    stateOf (imageAfter (writeTxs w.schema w.next perm batch) k)
      = prefixState (writeTxs w.schema w.next perm batch).length k := by
  rw [writeTxs_length _ _ perm batch hb]
  have hpre := imageAfter_writeTxs_prefix w.schema w.next perm batch hb k
  have hfull := imageAfter_writeTxs_full w.schema w.next perm batch hb k
  generalize perm.length / batch = q at hpre hfull ⊢
  unfold prefixState
  by_cases hk : k ≤ q
  · obtain ⟨h1, h2, h3⟩ := hpre hk
    rw [stateOf, h1, h2, h3, if_pos (Nat.lt_succ_of_le hk)]
    by_cases h0 : k = 0
    · rw [if_pos h0, h0]; rfl
    · rw [if_neg h0, decide_eq_true (Nat.pos_of_ne_zero h0)]; rfl
  · rw [hfull (by omega), if_neg (by omega), if_neg (by omega)]
    rfl

/-- `OpenIndex` on a crash prefix: it fails before the last transaction and succeeds (holding the lock) after it -/
theorem openIndex_prefixState (n k : Nat) (hn : 0 < n) (opts : OpenOpts) :
    openIndex (prefixState n k) opts = if k < n then (.error, false) else (.ok (), true) := by
  unfold prefixState
  by_cases h0 : k = 0
  · rw [if_pos h0, h0, if_pos hn]; rfl
  · rw [if_neg h0]; split <;> simp [openIndex]

/-- `OpenIndex` fails on every proper prefix, whatever the options; only the complete file opens. -/
theorem crash_open (w : Writer) (perm : ValMap) (batch : Nat) (hb : 1 ≤ batch) (opts : OpenOpts) :
    let txs := writeTxs w.schema w.next perm batch
    ∀ k, k ≤ txs.length → (openIndex (stateOf (imageAfter txs k)) opts).1 = .error ∨ k = txs.length := by
  intro txs k hk
  have hn : 0 < txs.length := by rw [writeTxs_length _ _ perm batch hb]; exact Nat.succ_pos _
  rcases Nat.lt_or_eq_of_le hk with hlt | he
  · exact .inl (by rw [stateOf_prefix w perm batch hb, openIndex_prefixState _ _ hn, if_pos hlt])
  · exact .inr he

/-- … and the complete file does open (and then holds the file lock). -/
theorem complete_opens (w : Writer) (perm : ValMap) (batch : Nat) (hb : 1 ≤ batch) (opts : OpenOpts) :
    let txs := writeTxs w.schema w.next perm batch
    openIndex (stateOf (imageAfter txs txs.length)) opts = (.ok (), true) := by
  intro txs
  have hn : 0 < txs.length := by rw [writeTxs_length _ _ perm batch hb]; exact Nat.succ_pos _
  rw [stateOf_prefix w perm batch hb, openIndex_prefixState _ _ hn, if_neg (Nat.lt_irrefl _)]

/-! ### big writer -/

/-- The output database of the big writer sees exactly one transaction: its crash prefixes are
"nothing" (rejected by `OpenIndex`) and "complete". -/
theorem big_crash_atomic (bw : BigWriter) (opts : OpenOpts) :
    bw.flushTxs.length = 1
    ∧ imageAfter bw.flushTxs 0 = {}
    ∧ (openIndex (stateOf (imageAfter bw.flushTxs 0)) opts).1 = .error
    ∧ (imageAfter bw.flushTxs 1).hasHeader = true
    ∧ openIndex (stateOf (imageAfter bw.flushTxs 1)) opts = (.ok (), true) := by
  have hfull := imageAfter_flushTxs_one bw 1 (Nat.le_refl 1)
  refine ⟨rfl, rfl, rfl, ?_, ?_⟩
  · rw [hfull]; rfl
  · rw [hfull]; simp [stateOf, openIndex]

theorem big_crash_open (bw : BigWriter) (opts : OpenOpts) :
    ∀ k, k ≤ bw.flushTxs.length →
      (openIndex (stateOf (imageAfter bw.flushTxs k)) opts).1 = .error ∨ k = bw.flushTxs.length := by
  intro k hk
  have hl : bw.flushTxs.length = 1 := rfl
  rw [hl] at hk ⊢
  by_cases h0 : k = 0
  · subst h0; exact .inl rfl
  · exact .inr (by omega)

/-! ### non-vacuity -/

/-- a writer with three values, written in the order 2,0,1 with batch size 1: four transactions, the
first three without header, and each of the four prefixes that is not the whole file is rejected -/
def w3 : Writer := { schema := [([1], [([2], 0)])], vals := [(0, 1), (1, 2), (2, 4)], next := 3 }

example : writeTxs w3.schema w3.next [(2, 4), (0, 1), (1, 2)] 1
    = [[.val 2 4], [.val 0 1], [.val 1 2], [.schema w3.schema, .counter 3]] := by decide +kernel

example : ([(2, 4), (0, 1), (1, 2)] : ValMap).Perm w3.vals := by decide +kernel

example : (List.range 4).map (fun k =>
      (openIndex (stateOf (imageAfter (writeTxs w3.schema w3.next [(2, 4), (0, 1), (1, 2)] 1) k)) ⟨true⟩).1)
    = [.error, .error, .error, .error] := by decide +kernel

example : openIndex (stateOf (imageAfter (writeTxs w3.schema w3.next [(2, 4), (0, 1), (1, 2)] 1) 4)) ⟨true⟩
    = (.ok (), true) := by decide +kernel

/-- batch size 1000 as in the Go code: one transaction, still atomic -/
example : (writeTxs w3.schema w3.next w3.vals 1000).length = 1 := by decide +kernel

end Updog.C06
