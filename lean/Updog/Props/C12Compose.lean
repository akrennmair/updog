/-
C12 (composition) — what database/sql delivers for a grouped query is exactly the SQL answer
`SELECT cols, COUNT(*) … WHERE e GROUP BY cols HAVING COUNT(*) > 0 ORDER BY cols`, one row per group:
the group's values as TEXT cells in group-by order followed by the count as a BIGINT cell.
Composition of `C02.execute_eq_some` (library = specification) with `C12.rows_grouped` / `C12.columns_spec`
(driver = library).
-/
import Updog.Props.C02
import Updog.Props.C12
import Updog.Props.C01Writers
namespace Updog.C12

/-- the driver row of one group: its values in group-by order as TEXT, then the count as BIGINT -/
def groupRow (g : Fields × Nat) : List Cell := g.1.map (fun cv => Cell.text cv.2) ++ [Cell.int g.2]

section
variable (H : Bytes → UInt64) (rows : List Row) (e : Expr) (cols : List Bytes)
  (hcols : ∀ c ∈ e.columns, c ∈ columnsOf rows) (hwf : e.arityPos = true)
  (hinj : NoCollision H rows e.pairs) (hD : DataNoCollision H rows)
  (hg : ∀ c ∈ cols, c ∈ columnsOf rows) (hne : cols ≠ [])
include hcols hwf hinj hD hg hne

/-- **Rows.** Under the hypotheses of `C02.groupBy_eq_spec` and with at least one group-by column, the query
succeeds and the rows database/sql delivers are the specification's groups (`specGroups`: SQL GROUP BY with
COUNT(*) > 0, ordered by the group-by columns), one row per group, in that order. -/
theorem driver_rows_eq_sql :
    ∃ groups, specGroups rows e cols = some groups ∧
      (execute H (Writer.addRows H {} rows).toIndex ⟨e, cols⟩).map (fun r => (newRows r cols).rows)
        = some (groups.map fun g => g.1.map (fun cv => Cell.text cv.2) ++ [Cell.int g.2]) := by
  obtain ⟨groups, hsg, hex⟩ := C02.execute_eq_some H rows e cols hcols hwf hinj hD hg
  refine ⟨groups, hsg, ?_⟩
  rw [hex, Option.map_some, rows_grouped _ cols hne]

omit hne in
/-- **Header.** … and the column names and types are the group-by columns (TEXT each) followed by
`count` (BIGINT) (this part also holds without a group-by clause). -/
theorem driver_header_eq_sql :
    (execute H (Writer.addRows H {} rows).toIndex ⟨e, cols⟩).map
        (fun r => ((newRows r cols).cols, (newRows r cols).types))
      = some (cols ++ [countCol], List.replicate cols.length "TEXT" ++ ["BIGINT"]) := by
  obtain ⟨groups, _, hex⟩ := C02.execute_eq_some H rows e cols hcols hwf hinj hD hg
  rw [hex, Option.map_some, (columns_spec _ cols).1, (columns_spec _ cols).2.1]

/-- Rows and header in one statement: the whole `driver.Rows` value. -/
theorem driver_result_eq_sql :
    ∃ groups, specGroups rows e cols = some groups ∧
      (execute H (Writer.addRows H {} rows).toIndex ⟨e, cols⟩).map (fun r => newRows r cols)
        = some ⟨cols ++ [countCol], List.replicate cols.length "TEXT" ++ ["BIGINT"], groups.map groupRow⟩ := by
  obtain ⟨groups, hsg, hex⟩ := C02.execute_eq_some H rows e cols hcols hwf hinj hD hg
  refine ⟨groups, hsg, ?_⟩
  rw [hex, Option.map_some]
  have h1 := rows_grouped ⟨specCount rows e, groups⟩ cols hne
  have h2 := columns_spec ⟨specCount rows e, groups⟩ cols
  generalize newRows ⟨specCount rows e, groups⟩ cols = R at h1 h2
  obtain ⟨c, t, r⟩ := R
  simp only at h1 h2
  rw [h1, h2.1, h2.2.1]
  rfl

/-- The delivered rows written out without `specGroups`: one row for every value combination `t` of the listed
columns (lexicographic, first column most significant) whose count among the rows satisfying `e` is not 0. -/
theorem driver_rows_explicit :
    (execute H (Writer.addRows H {} rows).toIndex ⟨e, cols⟩).map (fun r => (newRows r cols).rows)
      = some ((product (cols.map fun c => (c, sortedDistinct rows c))).filterMap fun t =>
          if groupCount rows e t = 0 then none
          else some (t.map (fun cv => Cell.text cv.2) ++ [Cell.int (groupCount rows e t)])) := by
  obtain ⟨groups, hsg, hrows⟩ := driver_rows_eq_sql H rows e cols hcols hwf hinj hD hg hne
  rw [hrows]
  rw [C02.specGroups_eq rows e cols hg] at hsg
  have he : cols.isEmpty = false := by
    cases cols with
    | nil => exact absurd rfl hne
    | cons _ _ => rfl
  simp only [he, Bool.false_eq_true, if_false, Option.some.injEq] at hsg
  rw [← hsg, List.map_filterMap]
  congr 2
  funext t
  by_cases hz : groupCount rows e t = 0 <;> simp [hz]

/-- every delivered row has one cell per column of the header -/
theorem driver_row_widths :
    ∀ res, execute H (Writer.addRows H {} rows).toIndex ⟨e, cols⟩ = some res →
      ∀ r ∈ (newRows res cols).rows, r.length = (newRows res cols).cols.length := by
  intro res hres
  apply row_widths res cols hne
  intro g hgm
  have := C02.groups_columns H rows e cols hcols hwf hinj hD hg hne res hres g hgm
  rw [← this, List.length_map]

/-- the same rows come out of the index written by the big writer -/
theorem driver_rows_eq_sql_big (hlen : rows.length ≤ 2 ^ 32) :
    ∃ groups, specGroups rows e cols = some groups ∧
      (execute H (C05.bigIndex H rows) ⟨e, cols⟩).map (fun r => (newRows r cols).rows)
        = some (groups.map fun g => g.1.map (fun cv => Cell.text cv.2) ++ [Cell.int g.2]) := by
  rw [C01.same_answer_both_writers H rows hlen]
  exact driver_rows_eq_sql H rows e cols hcols hwf hinj hD hg hne

end

/-! ### non-vacuity: the dataset, expression and (repeated-column) group-by list of `C02` -/

example : (∀ c ∈ C02.exExpr.columns, c ∈ columnsOf C02.exRows) ∧ C02.exExpr.arityPos = true ∧
    NoCollision C01.toyH C02.exRows C02.exExpr.pairs ∧ DataNoCollision C01.toyH C02.exRows ∧
    (∀ c ∈ C02.exCols, c ∈ columnsOf C02.exRows) ∧ C02.exCols ≠ [] :=
  ⟨by decide, by decide, C02.ex_noCollision, C02.ex_dataNoCollision, C02.ex_groupCols, by decide⟩

/-- the concrete rows: `a, b, a, count` = `1,1,1,1` and `2,1,2,1` -/
example : (execute C01.toyH (Writer.addRows C01.toyH {} C02.exRows).toIndex ⟨C02.exExpr, C02.exCols⟩).map
      (fun r => (newRows r C02.exCols).rows)
    = some [[Cell.text [49], Cell.text [49], Cell.text [49], Cell.int 1],
            [Cell.text [50], Cell.text [49], Cell.text [50], Cell.int 1]] := by
  rw [C02.ex_execute]; decide

end Updog.C12
