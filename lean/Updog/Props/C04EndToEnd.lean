/-
C04 end to end — concurrent evaluation over a shared LRU cache equals the specification.
Composition of C04 `lru_concurrent_results_sequential` (every finished goroutine has the sequential, cache-free
result) with C01 `eval_correct` (the cache-free result on the index written by the in-memory writer has exactly the
bits of the satisfying rows).
-/
import Updog.Props.C04
import Updog.Props.C01
namespace Updog.C04

variable (H : Bytes → UInt64)

/-- the C01 hypotheses for one expression over the data `rows` -/
structure ExprOK (rows : List Row) (e : Expr) : Prop where
  cols : ∀ c ∈ e.columns, c ∈ columnsOf rows
  wf : e.arityPos = true
  inj : NoCollision H rows e.pairs

/-- **Concurrent end to end.** Rows written by the in-memory writer; ANY number of goroutines evaluating the
expressions `es` concurrently over one shared LRU cache of ANY capacity (fresh), under ANY schedule: whenever
goroutine `i` has finished with result `r`, then `r` is a bitmap `b` (no error) whose bits are exactly the rows
satisfying `es[i]`, and whose cardinality is the specified count. -/
theorem lru_concurrent_equals_spec (rows : List Row) (sz : Nat → Nat) (c0 : Lru) (h0 : c0.items = [])
    (es : List Expr) (hok : ∀ e ∈ es, ExprOK H rows e)
    (hinj : InjOn H (es.flatMap (preimages H)))
    (hagree : KnownAgree H (Writer.addRows H {} rows).toIndex (es.flatMap Expr.pairs))
    (sched : List Nat) (i : Nat) (r : Option Nat)
    (hdone : (runSched (lruCacheImpl sz) c0 (es.map (evalProg H (Writer.addRows H {} rows).toIndex)) sched).2[i]?
      = some (.done r)) :
    ∃ e b, es[i]? = some e ∧ r = some b ∧ popcount b = specCount rows e ∧
      ∀ j, b.testBit j = (decide (j < rows.length) && sat (rowAt rows j) e) := by
  obtain ⟨e, he, hr⟩ := lru_concurrent_results_sequential H _ sz c0 h0 es hinj hagree sched i r hdone
  have ok := hok e (List.mem_of_getElem? he)
  obtain ⟨b, hb, hbits⟩ := eval_correct H rows e ok.cols ok.wf ok.inj
  exact ⟨e, b, he, hr.trans hb, popcount_eq_filter_length b rows (fun r => sat r e) hbits, hbits⟩

/-- the same with the goroutine's expression given by index (`i < es.length`) -/
theorem lru_concurrent_count (rows : List Row) (sz : Nat → Nat) (c0 : Lru) (h0 : c0.items = [])
    (es : List Expr) (hok : ∀ e ∈ es, ExprOK H rows e)
    (hinj : InjOn H (es.flatMap (preimages H)))
    (hagree : KnownAgree H (Writer.addRows H {} rows).toIndex (es.flatMap Expr.pairs))
    (sched : List Nat) (i : Nat) (hi : i < es.length) (r : Option Nat)
    (hdone : (runSched (lruCacheImpl sz) c0 (es.map (evalProg H (Writer.addRows H {} rows).toIndex)) sched).2[i]?
      = some (.done r)) :
    r.map popcount = some (specCount rows es[i]) := by
  obtain ⟨e, b, he, hr, hc, _⟩ := lru_concurrent_equals_spec H rows sz c0 h0 es hok hinj hagree sched i r hdone
  rw [List.getElem?_eq_getElem hi, Option.some.injEq] at he
  subst hr he
  simp [hc]

/-- a finished goroutine never reports an error under these hypotheses -/
theorem lru_concurrent_no_error (rows : List Row) (sz : Nat → Nat) (c0 : Lru) (h0 : c0.items = [])
    (es : List Expr) (hok : ∀ e ∈ es, ExprOK H rows e)
    (hinj : InjOn H (es.flatMap (preimages H)))
    (hagree : KnownAgree H (Writer.addRows H {} rows).toIndex (es.flatMap Expr.pairs))
    (sched : List Nat) (i : Nat) :
    (runSched (lruCacheImpl sz) c0 (es.map (evalProg H (Writer.addRows H {} rows).toIndex)) sched).2[i]?
      ≠ some (.done none) := by
  intro h
  obtain ⟨_, _, _, hr, _⟩ := lru_concurrent_equals_spec H rows sz c0 h0 es hok hinj hagree sched i none h
  cases hr

/-! ### non-vacuity -/

section Examples
open Updog.Toy

theorem toy_exprOK : ∀ e ∈ es, ExprOK toyH Toy.rows e := by
  intro e he
  simp only [es, List.mem_cons, List.not_mem_nil, or_false] at he
  have h1 : ExprOK toyH Toy.rows e1 := ⟨by decide, by decide, by unfold NoCollision; decide +kernel⟩
  have h2 : ExprOK toyH Toy.rows e2 := ⟨by decide, by decide, by unfold NoCollision; decide +kernel⟩
  rcases he with rfl | rfl | rfl <;> assumption

/-- all hypotheses of the main theorem hold for the toy instance (three goroutines sharing sub-expressions, LRU of
any capacity) … -/
example (cap : Nat) (i : Nat) (r : Option Nat)
    (h : (runSched (lruCacheImpl sz) (lru cap) (es.map (evalProg toyH (tix toyH))) sched).2[i]? = some (.done r)) :
    ∃ e b, es[i]? = some e ∧ r = some b ∧ popcount b = specCount Toy.rows e ∧
      ∀ j, b.testBit j = (decide (j < Toy.rows.length) && sat (rowAt Toy.rows j) e) :=
  lru_concurrent_equals_spec toyH Toy.rows sz (lru cap) rfl es toy_exprOK injOn_es knownAgree_es
    sched i r h

/-- … the premise `done` is reached under `sched` (capacity 0: every lookup misses; large: some hit), and the
specified counts are 1, 2, 1 -/
example :
    ((runSched (lruCacheImpl sz) (lru 0) (es.map (evalProg toyH (tix toyH))) sched).2.map Prog.result?) =
      [some (some 1), some (some 5), some (some 1)] ∧
    es.map (specCount Toy.rows) = [1, 2, 1] := by
  rw [lruCacheImpl_eq_lruS]
  decide +kernel

end Examples

end Updog.C04
