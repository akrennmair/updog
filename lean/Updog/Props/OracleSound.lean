/-
The oracle's answer, as the driver computes it (hash-map built index `Oracle.FastW`, fast evaluation
`executeFast`, the real `xxhash64`), equals the SQL specification — one statement composing
`OracleFastW.fastW_toIndex_eq_model`, `OracleFast.executeFast_eq` and `C02.groupBy_eq_spec`.
So a disagreement between implementation and oracle on a collision-free input is a disagreement with
the specification of C01/C02 itself, not with an artefact of the oracle's data structures.
-/
import Updog.Props.OracleFastW
import Updog.Props.EndToEnd
namespace Updog.OracleSound

/-- what the oracle's `q` request answers for the rows sent so far = `specExecute` -/
theorem oracle_answer_eq_sql (rows : List Row) (q : Query)
    (hD : DataNoCollision xxhash64 rows) (ok : EndToEnd.QueryOK xxhash64 rows q) :
    executeFast xxhash64 (rows.foldl Oracle.FastW.addRow {}).toIndex q = specExecute rows q := by
  rw [OracleFastW.fastW_toIndex_eq_model, OracleFast.executeFast_eq]
  obtain ⟨e, cols⟩ := q
  exact C02.groupBy_eq_spec xxhash64 rows e cols ok.cols ok.wf ok.inj hD ok.gb

/-- the oracle's row counter is the model's (hence, by C05, the written file's) -/
theorem oracle_next_eq (rows : List Row) :
    (rows.foldl Oracle.FastW.addRow {}).toIndex.next = (Writer.addRows xxhash64 {} rows).next := by
  rw [OracleFastW.fastW_toIndex_eq_model]; rfl

end Updog.OracleSound
