/-
C05 (composition) — `GetSchema` on the written index returns exactly the columns and, per column, the
distinct values that were added (both byte-wise ascending), for the in-memory writer and for the big
writer; and every (column, value) bitmap holds exactly the rows the pair was added to.
-/
import Updog.Proofs.Sort
import Updog.Proofs.Eval
import Updog.Props.C05
namespace Updog.C05
open Updog

/-- the index `OpenIndex` yields on the file written by the big writer's `Flush`
    (schema `S`, counter `I`, `GetCol` on the data bucket); this is the left-hand side of
    `writers_agree_index` -/
abbrev bigIndex (H : Bytes → UInt64) (rows : List Row) : Index :=
  ⟨(BigWriter.image H rows).2.1, (BigWriter.image H rows).2.2, (BigWriter.image H rows).1.get⟩

/-! ### helper lemmas: the column names of a schema -/

theorem mem_keys_iff_col (s : Schema) (c : Bytes) : c ∈ s.map (·.1) ↔ (s.col c).isSome = true := by
  rw [← Option.ne_none_iff_isSome, Ne, Schema.col_eq_none_iff, Classical.not_not]

theorem schema_add_keys_nodup (s : Schema) (k v : Bytes) (h : UInt64) (hs : (s.map (·.1)).Nodup) :
    ((s.add k v h).map (·.1)).Nodup := by
  rw [Schema.keys_add]
  split
  · exact hs
  · next hk => exact nodup_snoc hs ((Schema.col_eq_none_iff s k).mp (Option.not_isSome_iff_eq_none.mp hk))

theorem schema_fold_keys_nodup (H : Bytes → UInt64) (qs : List (Bytes × Bytes)) (s : Schema)
    (hs : (s.map (·.1)).Nodup) : ((qs.foldl (addS H) s).map (·.1)).Nodup := by
  induction qs generalizing s with
  | nil => exact hs
  | cons q qs ih => exact ih _ (schema_add_keys_nodup s _ _ _ hs)

theorem schema_keys_nodup (H : Bytes → UInt64) (rows : List Row) :
    ((Writer.addRows H {} rows).schema.map (·.1)).Nodup := by
  rw [addRows_schema]
  exact schema_fold_keys_nodup H _ _ (by simp [List.Nodup])

theorem mem_schema_keys (H : Bytes → UInt64) (rows : List Row) (c : Bytes) :
    c ∈ (Writer.addRows H {} rows).schema.map (·.1) ↔ c ∈ columnsOf rows := by
  rw [mem_keys_iff_col]
  constructor
  · intro h
    apply Classical.byContradiction
    intro hc
    rw [(schema_col_none_iff H rows c).mpr hc] at h
    exact Bool.noConfusion h
  · intro h
    obtain ⟨vs, hvs⟩ := schema_col_exists H rows c h
    rw [hvs]; rfl

theorem col_of_mem (s : Schema) (hs : (s.map (·.1)).Nodup) (cv : Bytes × List (Bytes × UInt64))
    (h : cv ∈ s) : s.col cv.1 = some cv.2 := by
  induction s with
  | nil => cases h
  | cons kv rest ih =>
    obtain ⟨hk, hr⟩ := List.nodup_cons.mp hs
    unfold Schema.col
    rcases List.mem_cons.mp h with rfl | h1
    · rw [if_pos (beq_self_eq_true _)]
    · rw [if_neg fun (e : (kv.1 == cv.1) = true) => hk (List.mem_map.mpr ⟨cv, h1, (beq_iff_eq.mp e).symm⟩)]
      exact ih hr h1

theorem sorted_keys_eq (H : Bytes → UInt64) (rows : List Row) :
    ((Writer.addRows H {} rows).schema.map (·.1)).mergeSort (fun a b => bytesLe a b)
      = (columnsOf rows).eraseDups.mergeSort (fun a b => bytesLe a b) := by
  apply StrictSorted.eq_of_mem_iff (strictSorted_mergeSort (schema_keys_nodup H rows))
    (strictSorted_mergeSort (nodup_eraseDups _))
  intro x
  rw [List.mem_mergeSort, List.mem_mergeSort, List.mem_eraseDups, mem_schema_keys]

/-! ### main theorems -/

section
variable (H : Bytes → UInt64)

/-- **Schema round trip.** For every dataset and EVERY hash function, `GetSchema` on the index written by the
in-memory writer returns exactly the set of columns that were added and, per column, exactly the distinct
values that were added for it; columns and values in byte-wise ascending order. -/
theorem schema_roundtrip (rows : List Row) :
    getSchema (Writer.addRows H {} rows).toIndex = specSchema rows := by
  unfold getSchema specSchema
  simp only [Writer.toIndex]
  have hmap : ((Writer.addRows H {} rows).schema.map fun cv => (cv.1, (sortVals cv.2).map (·.1)))
      = ((Writer.addRows H {} rows).schema.map (·.1)).map fun c => (c, sortedDistinct rows c) := by
    rw [List.map_map]
    apply List.map_congr_left
    intro cv hcv
    have hcol := col_of_mem _ (schema_keys_nodup H rows) cv hcv
    simp only [Function.comp, sortVals_eq_sortedDistinct H rows cv.1 cv.2 hcol]
  rw [hmap, ← sorted_keys_eq H rows]
  exact (List.map_mergeSort (r := fun a b => bytesLe a b)
    (s := fun (a b : Bytes × List Bytes) => bytesLe a.1 b.1)
    (f := fun c => (c, sortedDistinct rows c)) (fun _ _ _ _ => rfl)).symm

/-- The same for the disk-backed big writer (at most 2^32 rows, as in `writers_agree_index`). -/
theorem schema_roundtrip_big (rows : List Row) (hlen : rows.length ≤ 2 ^ 32) :
    getSchema (bigIndex H rows) = specSchema rows := by
  have h := writers_agree_index H rows hlen
  simp only at h
  rw [show bigIndex H rows = (Writer.addRows H {} rows).toIndex from h]
  exact schema_roundtrip H rows

/-- the members of the returned schema, without reference to sorting: `(c, vs)` is listed iff `c` is a column
of the data and `vs` is the ascending list of its distinct values -/
theorem mem_getSchema (rows : List Row) (c : Bytes) (vs : List Bytes) :
    (c, vs) ∈ getSchema (Writer.addRows H {} rows).toIndex ↔
      c ∈ columnsOf rows ∧ vs = sortedDistinct rows c := by
  rw [schema_roundtrip, specSchema, List.mem_map]
  constructor
  · rintro ⟨c', hc', he⟩
    rw [List.mem_mergeSort, List.mem_eraseDups] at hc'
    simp only [Prod.mk.injEq] at he
    obtain ⟨rfl, rfl⟩ := he
    exact ⟨hc', rfl⟩
  · rintro ⟨hc, rfl⟩
    exact ⟨c, by rw [List.mem_mergeSort, List.mem_eraseDups]; exact hc, rfl⟩

/-- a value is listed under a column iff some row was added with that (column, value) pair -/
theorem mem_getSchema_value (rows : List Row) (c v : Bytes) :
    (∃ vs, (c, vs) ∈ getSchema (Writer.addRows H {} rows).toIndex ∧ v ∈ vs) ↔ (c, v) ∈ pairsOf rows := by
  constructor
  · rintro ⟨vs, hm, hv⟩
    obtain ⟨_, rfl⟩ := (mem_getSchema H rows c vs).mp hm
    exact mem_sortedDistinct.mp hv
  · intro h
    refine ⟨sortedDistinct rows c, (mem_getSchema H rows c _).mpr ⟨?_, rfl⟩, mem_sortedDistinct.mpr h⟩
    simp only [pairsOf, List.mem_flatMap, id] at h
    obtain ⟨r, hr, hcv⟩ := h
    simp only [columnsOf, List.mem_flatMap, List.mem_map]
    exact ⟨r, hr, (c, v), hcv, rfl⟩

/-- the returned column names are strictly ascending (hence duplicate free), and so are the values of
every column -/
theorem getSchema_sorted (rows : List Row) :
    StrictSorted ((getSchema (Writer.addRows H {} rows).toIndex).map (·.1)) ∧
    ∀ cv ∈ getSchema (Writer.addRows H {} rows).toIndex, StrictSorted cv.2 := by
  rw [schema_roundtrip, specSchema]
  constructor
  · rw [List.map_map]
    have : ((fun cv : Bytes × List Bytes => cv.1) ∘ fun c => (c, sortedDistinct rows c)) = id := rfl
    rw [this, List.map_id]
    exact strictSorted_mergeSort (nodup_eraseDups _)
  · intro cv hcv
    obtain ⟨c, _, rfl⟩ := List.mem_map.mp hcv
    exact sortedDistinct_strictSorted rows c

/-- **Membership.** Under the value index of `(c, v)` the writer stored the bitmap of exactly the rows that
were added with `c = v` — provided no *different* pair of the data has the same value index. -/
theorem membership (rows : List Row) (c v : Bytes) (i : Nat) (hinj : NoCollision H rows [(c, v)]) :
    (((Writer.addRows H {} rows).vals.get (H (encodePair c v))).getD 0).testBit i
      = decide (i < rows.length ∧ (c, v) ∈ rowAt rows i) := by
  rw [(winv_addRows H rows).vals, rowHas_eq_contains H rows c v i hinj, Bool.eq_iff_iff]
  simp

/-- … and the same bitmap is read from the big writer's file. -/
theorem membership_big (rows : List Row) (hlen : rows.length ≤ 2 ^ 32) (c v : Bytes) (i : Nat)
    (hinj : NoCollision H rows [(c, v)]) :
    (((bigIndex H rows).getCol (H (encodePair c v))).getD 0).testBit i
      = decide (i < rows.length ∧ (c, v) ∈ rowAt rows i) := by
  show (((BigWriter.image H rows).1.get (H (encodePair c v))).getD 0).testBit i = _
  rw [writers_agree_get H rows hlen]
  exact membership H rows c v i hinj

end

/-! ### non-vacuity -/

/-- column `b` = [98] is added before column `a` = [97]; values out of order and repeated -/
def sRows : List Row := [[([98], [50]), ([97], [57])], [([97], [49])], [], [([98], [50]), ([97], [49])]]

example : specSchema sRows = [([97], [[49], [57]]), ([98], [[50]])] := by
  have h97 : sortedDistinct sRows [97] = [[49], [57]] :=
    sortedDistinct_eq_of (by unfold StrictSorted; decide) (by decide) (by decide)
  have h98 : sortedDistinct sRows [98] = [[50]] :=
    sortedDistinct_eq_of (by unfold StrictSorted; decide) (by decide) (by decide)
  have hk : (columnsOf sRows).eraseDups.mergeSort (fun a b => bytesLe a b) = [[97], [98]] := by
    apply StrictSorted.eq_of_mem_iff (strictSorted_mergeSort (nodup_eraseDups _))
      (by unfold StrictSorted; decide)
    intro x
    rw [List.mem_mergeSort, List.mem_eraseDups]
    simp [columnsOf, sRows]
    grind
  simp only [specSchema, hk, List.map, h97, h98]

/-- the theorem holds even for the constant hash (every pair collides) -/
example : getSchema (Writer.addRows H0 {} sRows).toIndex = specSchema sRows := schema_roundtrip H0 sRows

example : getSchema (bigIndex Hr sRows) = specSchema sRows := schema_roundtrip_big Hr sRows (by decide)

/-- the hypothesis of `membership` is satisfiable: with the toy hash `beDecode` no data pair collides with (a, 1) -/
example : NoCollision (fun b => (beDecode b).toUInt64) sRows [([97], [49])] := by
  unfold NoCollision; decide

end Updog.C05
