/-
Catalogue of the repaired defects (`fix:` commits of /repo). For every defect:
`<name>_original_violates` — a machine-checked NEGATION WITNESS: a concrete input / history / schedule on which the
ORIGINAL code (the mutant of `Updog/Model/Mutants.lean`) violates the property, and
`<name>_repaired_ok` — the current model on the same witness (with a pointer to the general theorem where one
exists). `…_general` theorems state the defect for all inputs where that is easy.
Helper lemmas live in Updog/Proofs/Mutants.lean.
-/
import Updog.Proofs.Mutants
import Updog.Proofs.ToyInstance
import Updog.Proofs.Lru
import Updog.Props.C06
import Updog.Props.C19Cmd
namespace Updog.Witnesses

/-! ## 1. cache keys — 8a6a8ef "derive cache keys by hashing node kind and operand keys in order" -/

/-- **General.** For EVERY hash function and all expressions `a b c`, the original keys of `(a ∨ c) ∧ (b ∨ c)` and
`¬a ∧ ¬b` coincide. -/
theorem cachekey_original_violates (H : Bytes → UInt64) (a b c : Expr) :
    cacheKeyOrig H (.and [.or [a, c], .or [b, c]]) = cacheKeyOrig H (.and [.not a, .not b]) := by
  simp only [cacheKeyOrig, cacheKeysOrig]
  exact xor_scheme_collision ..

/-- **General.** For every hash function and all `x y`: `AND(x, x, y)` and `AND(y)` share their original key. -/
theorem cachekey_dup_original_violates (H : Bytes → UInt64) (x y : Expr) :
    cacheKeyOrig H (.and [x, x, y]) = cacheKeyOrig H (.and [y]) := by
  simp only [cacheKeyOrig, cacheKeysOrig]
  exact xor_scheme_duplicate ..

/-- the mutant evaluator differs from `Updog.evalC` in the key function only -/
theorem evalCK_repaired_is_evalC (H : Bytes → UInt64) {σ : Type} (C : CacheImpl σ) (ix : Index) (s : σ) (e : Expr) :
    evalCK H (cacheKey H) C ix s e = evalC H C ix s e := evalCK_cacheKey H C ix s e

/-- `b = 2` on the toy index (rows `a=1,b=1`, `a=2,b=1`, `a=1,b=2`; `x` is `a = 1`, `y` is `b = 1`) -/
def z : Expr := .eq [98] [50]

open Updog.Toy in
/-- Witness: three rows, a map cache, the history `(x ∨ z) ∧ (y ∨ z)` then `¬x ∧ ¬y`. The original code answers the
second query with the first one's bitmap: count 2 instead of 0. -/
theorem cachekey_witness_original_violates :
    countsCK toyH (cacheKeyOrig toyH) mapCacheImpl (tix toyH) []
      [.and [.or [x, z], .or [y, z]], .and [.not x, .not y]] = [some 2, some 2]
    ∧ [Expr.and [.or [x, z], .or [y, z]], .and [.not x, .not y]].map
        (fun e => (eval toyH (tix toyH) e).map popcount) = [some 2, some 0] := by
  decide +kernel

open Updog.Toy in
theorem cachekey_witness_repaired_ok :
    countsCK toyH (cacheKey toyH) mapCacheImpl (tix toyH) []
      [.and [.or [x, z], .or [y, z]], .and [.not x, .not y]] = [some 2, some 0]
    ∧ (let r := evalC toyH mapCacheImpl (tix toyH) [] (.and [.or [x, z], .or [y, z]])
       (r.2.map popcount, (evalC toyH mapCacheImpl (tix toyH) r.1 (.and [.not x, .not y])).2.map popcount))
      = (some 2, some 0) := by
  decide +kernel

open Updog.Toy in
/-- Witness for the second collision: `AND(x, x, y)` then `AND(y)`: count 1 instead of 2. -/
theorem cachekey_dup_witness_original_violates :
    countsCK toyH (cacheKeyOrig toyH) mapCacheImpl (tix toyH) [] [.and [x, x, y], .and [y]] = [some 1, some 1]
    ∧ [Expr.and [x, x, y], .and [y]].map (fun e => (eval toyH (tix toyH) e).map popcount) = [some 1, some 2] := by
  decide +kernel

open Updog.Toy in
theorem cachekey_dup_witness_repaired_ok :
    countsCK toyH (cacheKey toyH) mapCacheImpl (tix toyH) [] [.and [x, x, y], .and [y]] = [some 1, some 2] := by
  decide +kernel

/-! ## 2. LRU overwrite — e2a88c0 "LRUCache.Put re-accounts the size when an existing key is overwritten" -/

/-- Witness: capacity 72, overhead 64; `Put(0, 8 bytes); Put(0, 90 bytes)`: 90 > 72 bytes resident, the account
still says 72. (A bitmap id is its size here.) -/
theorem lru_overwrite_original_violates :
    let c := ((Lru.empty 72 64).putOrig 0 8 8).putOrig 0 90 90
    c.resident id = 90 ∧ c.resident id > c.max ∧ c.cur = 72 := by
  decide +kernel

theorem lru_overwrite_repaired_ok :
    let c := ((Lru.empty 72 64).put 0 8 8).put 0 90 90
    c.resident id = 0 ∧ c.resident id ≤ c.max ∧ c.cur = 0 ∧ sizes c.items ≤ c.max := by
  decide +kernel

/-- **General.** In ANY cache state that holds key `k`, overwriting it with a bitmap larger than the capacity leaves
more than `max` bytes resident, and the account does not move. -/
theorem lru_overwrite_original_general (sz : Nat → Nat) (c : Lru) (k bm size : Nat) (it : Item)
    (h : c.items.find? (·.key == k) = some it) (hbig : c.max < sz bm) :
    (c.putOrig k bm size).max < (c.putOrig k bm size).resident sz ∧ (c.putOrig k bm size).cur = c.cur := by
  constructor
  · simp only [Lru.putOrig, h, Lru.resident, List.map_cons, List.sum_cons]
    omega
  · simp only [Lru.putOrig, h]

/-- the repaired `Put` keeps the bound from every state satisfying the invariant (= `Updog.C07.byte_bound`) -/
theorem lru_overwrite_repaired_general (c : Lru) (k bm size : Nat) (hc : c.Inv) :
    total (c.put k bm size).ovh (c.put k bm size).items ≤ (c.put k bm size).max ∨ (c.put k bm size).items = [] :=
  put_bound c k bm size hc

/-! ## 3. header placement — 70554fc "write schema and row counter in the last transaction of a flush" -/

/-- map iteration order of the three values of `C06.w3` -/
def perm3 : ValMap := [(2, 4), (0, 1), (1, 2)]

open Updog.C06 in
/-- Witness: three values, batch size 1, crash after the first of four commits: the file has the header,
`OpenIndex` accepts it (even with preloading), and it holds one of the three bitmaps. -/
theorem header_first_original_violates :
    let txs := writeTxsOrig w3.schema w3.next perm3 1
    txs.length = 4 ∧ (imageAfter txs 1).hasHeader = true
    ∧ openIndex (stateOf (imageAfter txs 1)) ⟨true⟩ = (.ok (), true)
    ∧ (imageAfter txs 1).vals = [(2, 4)] ∧ (imageAfter txs 1).vals.get 0 = none ∧ w3.vals.get 0 = some 1 := by
  decide

open Updog.C06 in
/-- the repaired writer on the same data: `Updog.C06.crash_open` -/
theorem header_first_repaired_ok :
    let txs := writeTxs w3.schema w3.next perm3 1
    txs.length = 4 ∧ (imageAfter txs 1).hasHeader = false
    ∧ (openIndex (stateOf (imageAfter txs 1)) ⟨true⟩).1 = .error :=
  ⟨by decide, by decide, (crash_open w3 perm3 1 (by decide) ⟨true⟩ 1 (by decide)).resolve_right (by decide)⟩

/-- **General.** Whatever the data, the map order and the batch size: after the FIRST commit of the original writer
(and after every later one) `OpenIndex` accepts the file. -/
theorem header_first_original_general (s : Schema) (n : Nat) (perm : ValMap) (batch k : Nat) (hk : 1 ≤ k)
    (o : OpenOpts) :
    (imageAfter (writeTxsOrig s n perm batch) k).hasHeader = true ∧
    openIndex (stateOf (imageAfter (writeTxsOrig s n perm batch) k)) o = (.ok (), true) := by
  have h := accepting_writeTxsOrig s n perm batch k hk
  exact ⟨by simp [BoltImage.hasHeader, h.2.1, h.2.2], h.opens o⟩

/-! ## 4. parser — 4f73f54, ffa2b0d, 1e650ea, 4ba8bbd -/

/-- `a="1" & b="2" | c="3"` -/
def s4a : Bytes := [97, 61, 34, 49, 34, 32, 38, 32, 98, 61, 34, 50, 34, 32, 124, 32, 99, 61, 34, 51, 34]
def toks4a : List Tok := [.field [97], .eq, .value [49], .and, .field [98], .eq, .value [50], .or,
  .field [99], .eq, .value [51], .eof]

/-- (a) Witness: without the end-of-input check `a="1" & b="2" | c="3"` is accepted and means `a & b`. -/
theorem trailing_original_violates :
    lexAll s4a = toks4a ∧ parseToksNoEof toks4a = some ⟨.and [.eq [97] [49] 0, .eq [98] [50] 0], []⟩ :=
  ⟨by decide +kernel, rfl⟩

theorem trailing_repaired_ok : parseQuery s4a = none := by
  rw [parseQuery, trailing_original_violates.1]; rfl

/-- `a = "x" "un` -/
def s4b : Bytes := [97, 32, 61, 32, 34, 120, 34, 32, 34, 117, 110]

/-- (b) Witness: the original lexer swallows the unterminated string, so the input is accepted as `a = "x"`
although the parser checks for the end of the input. -/
theorem unterminated_original_violates :
    lexAllOrig s4b = [.field [97], .eq, .value [120], .eof] ∧
    parseToks [.field [97], .eq, .value [120], .eof] = some ⟨.eq [97] [120] 0, []⟩ ∧
    (parseQueryLexOrig s4b).isSome = true := by
  have h : lexAllOrig s4b = [.field [97], .eq, .value [120], .eof] := by decide +kernel
  refine ⟨h, rfl, ?_⟩
  rw [parseQueryLexOrig, h]; rfl

theorem unterminated_repaired_ok :
    lexAll s4b = [.field [97], .eq, .value [120], .error] ∧ parseQuery s4b = none := by
  have h : lexAll s4b = [.field [97], .eq, .value [120], .error] := by decide +kernel
  refine ⟨h, ?_⟩
  rw [parseQuery, h]; rfl

/-- **General.** The original lexer is the repaired one except that the final `error` item of an unterminated
string becomes `eof`. -/
theorem unterminated_original_general (s : Bytes) :
    lexAllOrig s = lexAll s ∨ ∃ pre, lexAll s = pre ++ [.error] ∧ lexAllOrig s = pre ++ [.eof] :=
  lexAllOrig_sameOrSwallowed s

/-- the digits of 4294967297 = 2^32 + 1 and of 9223372036854775808 = 2^63 -/
def big1 : Bytes := [52, 50, 57, 52, 57, 54, 55, 50, 57, 55]
def big2 : Bytes := [57, 50, 50, 51, 51, 55, 50, 48, 51, 54, 56, 53, 52, 55, 55, 53, 56, 48, 56]

/-- (c) Witness: `$4294967297` is stored as placeholder 1, `$9223372036854775808` as placeholder −1. -/
theorem placeholder_original_violates :
    placeholderOrig big1 = some 1 ∧ placeholderOrig big2 = some (-1) := by decide +kernel

theorem placeholder_repaired_ok :
    decodePlaceholder big1 = 0 ∧ decodePlaceholder big2 = 0 ∧
    parseToks [.field [97], .eq, .placeholder big1, .eof] = none :=
  ⟨by decide +kernel, by decide +kernel, by decide +kernel⟩

/-- on the valid range 1 … 2^31−1 the original and the repaired decoding agree -/
theorem placeholder_agree_in_range (ds : Bytes) (hne : ds ≠ []) (h1 : 1 ≤ digitsVal ds)
    (h2 : digitsVal ds ≤ 2147483647) :
    placeholderOrig ds = some ((decodePlaceholder ds : Nat) : Int) := by
  have he : ds.isEmpty = false := by cases ds <;> simp_all
  have h3 : atoiSat ds = digitsVal ds := by unfold atoiSat; omega
  have h6 : toInt32 (digitsVal ds) = ((digitsVal ds : Nat) : Int) := by unfold toInt32; omega
  have h4 : ¬ digitsVal ds < 1 := by omega
  have h5 : ¬ digitsVal ds > 2147483647 := by omega
  simp only [placeholderOrig, decodePlaceholder, he, h3, h4, h5, h6, if_false, Bool.false_eq_true]

/-- `a="1" b` -/
def toks4d : List Tok := [.field [97], .eq, .value [49], .field [98], .eof]

/-- (d) Witness: `a="1" b` is rejected after 4 of the 5 items have been received; the lexer goroutine stays blocked
on sending the last one. -/
theorem leak_original_violates :
    lexAll [97, 61, 34, 49, 34, 32, 98] = toks4d ∧ parseToks toks4d = none ∧
    parserPulled toks4d = 4 ∧ unreadOrig toks4d = 1 :=
  ⟨by decide +kernel, rfl, by decide +kernel, by decide +kernel⟩

/-- **General.** With the deferred drain nothing is left unread, whatever the parser did. -/
theorem leak_repaired_ok (ts : List Tok) : unreadRepaired ts = 0 := by
  have := parserPulled_le ts
  unfold unreadRepaired; omega

/-! ## 5. group-by — 5db3b87 "reset resolved group-by fields on every Execute",
0467227 "result groups no longer share the backing array of their field lists" -/

open Updog.Toy in
/-- `b = 1 ; a` as a fresh `Query` value -/
def q5 : QueryState := ⟨y, [[97]], []⟩

open Updog.Toy in
theorem toy_sorted : SortedSchema (tix toyH).schema := by decide +kernel

open Updog.Toy in
/-- (a) Witness: the same `Query` value executed twice: every group of the second result has its field twice. -/
theorem stale_groupby_original_violates :
    let r1 := executeQOrig toyH (tix toyH) q5
    let r2 := executeQOrig toyH (tix toyH) r1.2
    r1.1 = some ⟨2, [([([97], [49])], 1), ([([97], [50])], 1)]⟩ ∧
    r2.1 = some ⟨2, [([([97], [49]), ([97], [49])], 1), ([([97], [50]), ([97], [50])], 1)]⟩ := by
  simp only [executeQOrig, populateGroupByQ_sorted toy_sorted]
  decide +kernel

open Updog.Toy in
/-- the repaired code (in general: `Updog.C08.execute_pure`, `Updog.C08.reuse_any_history`) -/
theorem stale_groupby_repaired_ok :
    let r1 := executeQ toyH (tix toyH) q5
    let r2 := executeQ toyH (tix toyH) r1.2
    r1.1 = some ⟨2, [([([97], [49])], 1), ([([97], [50])], 1)]⟩ ∧ r2.1 = r1.1 := by
  simp only [executeQ, populateGroupByQ_sorted toy_sorted]
  decide +kernel

/-- two rows that differ in the fourth column only -/
def rows4 : List Row :=
  [[([97], [49]), ([98], [49]), ([99], [49]), ([100], [49])],
   [([97], [49]), ([98], [49]), ([99], [49]), ([100], [50])]]
def ix4 : Index := (Writer.addRows Toy.toyH {} rows4).toIndex
def cols4 : List Bytes := [[97], [98], [99], [100]]

theorem ix4_sorted : SortedSchema ix4.schema := by decide +kernel

/-- (b) Witness: four group-by columns; the two sibling groups `d=1` and `d=2` share the backing array (length 3,
capacity 4) of their parent and both report `d=2`. -/
theorem shared_backing_original_violates :
    (populateGroupBy ix4.schema cols4).map (fun fs => groupByOrig ix4 fs 3) =
      some [([([97], [49]), ([98], [49]), ([99], [49]), ([100], [50])], 1),
            ([([97], [49]), ([98], [49]), ([99], [49]), ([100], [50])], 1)] := by
  rw [populateGroupBy_sorted ix4_sorted]
  decide +kernel

theorem shared_backing_repaired_ok :
    (populateGroupBy ix4.schema cols4).map (fun fs => groupBy ix4 fs 3) =
      some [([([97], [49]), ([98], [49]), ([99], [49]), ([100], [49])], 1),
            ([([97], [49]), ([98], [49]), ([99], [49]), ([100], [50])], 1)] := by
  rw [populateGroupBy_sorted ix4_sorted]
  decide +kernel

/-- with three columns (`d, b, c`: the siblings are created at length 0 → capacity 1) the original code is right -/
theorem shared_backing_three_columns_fine :
    (populateGroupBy ix4.schema [[100], [98], [99]]).map (fun fs => groupByOrig ix4 fs 3) =
    (populateGroupBy ix4.schema [[100], [98], [99]]).map (fun fs => groupBy ix4 fs 3) := by
  rw [populateGroupBy_sorted ix4_sorted]
  decide +kernel

/-! ## 6. driver — 6025f99, 2ab91ba, 08da9c3, cac1b90 -/

/-- `a = $2` -/
def q6 : PQuery := ⟨.eq [97] [] 2, []⟩

/-- (a) Witness: `a = $2` executed with one argument. -/
theorem bind_original_violates : bindOrig q6 [[120]] = .panic := rfl
theorem bind_repaired_ok : bind q6 [[120]] = .error := rfl
theorem bind_repaired_general (q : PQuery) (args : List Bytes) : bind q args ≠ .panic := by
  unfold bind; split <;> simp

/-- (b) Witness: a grouped query without matching group is reported as one row holding the total count. -/
theorem newRows_original_violates (c : Bytes) : (newRowsOrig ⟨0, []⟩ [c]).rows = [[Cell.int 0]] := rfl
theorem newRows_repaired_ok (c : Bytes) (n : Nat) : (newRows ⟨n, []⟩ [c]).rows = [] := rfl

/-- one file, two option strings -/
def k0 : DKey := ⟨0, 0⟩
def k1 : DKey := ⟨0, 1⟩

/-- (c1) Witness: `open; close; open; query` — the reopened connection is the cached one, its index is nil. -/
theorem reopen_original_violates :
    (DrvOrig.run (fun _ => true) .empty [.open k0, .close k0, .open k0, .query k0]).2
      = [.ok (), .ok (), .ok (), .panic] := by decide +kernel

theorem reopen_repaired_ok :
    (Drv.run (fun _ => true) .empty [.open k0, .close k0, .open k0, .query k0]).2
      = [.ok (), .ok (), .ok (), .ok ()] := by decide +kernel

/-- two goroutines about to call `openFile` -/
def twoOpeners (a b : DKey) : List (DKey × OpenPc) := [(a, .lookup), (b, .lookup)]

/-- (c2) Witness: two first users of the same data source, schedule `lookup₀ lookup₁ open₀ open₁ insert₀`:
goroutine 1 waits in `OpenIndex` for the exclusive file lock — under EVERY continuation of the schedule. -/
theorem concurrent_first_use_original_violates (rest : List Nat) :
    (runOpens true .empty (twoOpeners k0 k0) ([0, 1, 0, 1, 0] ++ rest)).2 = [(k0, .done), (k0, .openIdx)] := by
  have h : runOpens true .empty (twoOpeners k0 k0) ([0, 1, 0, 1, 0] ++ rest) =
      runOpens true ((runOpens true .empty (twoOpeners k0 k0) [0, 1, 0, 1, 0]).1)
        [(k0, .done), (k0, .openIdx)] rest := rfl
  rw [h, stuck_forever _ _ _ (by decide)]

/-- the repaired `openFile` is one critical section: both serialisations finish (with either kind of file lock),
as in the atomic model `Drv.step` -/
theorem concurrent_first_use_repaired_ok (excl : Bool) :
    ((runOpens excl .empty (twoOpeners k0 k0) [0, 0, 0, 1, 1, 1]).2.map (·.2)) = [.done, .done] ∧
    ((runOpens excl .empty (twoOpeners k0 k0) [1, 1, 1, 0, 0, 0]).2.map (·.2)) = [.done, .done] ∧
    (Drv.run (fun _ => true) .empty [.open k0, .open k0]).2 = [.ok (), .ok ()] := by
  cases excl <;> decide +kernel

/-- (d) Witness: exclusive file lock, two option strings on one file, strictly one after the other: the second
`openFile` never returns. -/
theorem exclusive_lock_original_violates (rest : List Nat) :
    (runOpens true .empty (twoOpeners k0 k1) ([0, 0, 0, 1, 1] ++ rest)).2 = [(k0, .done), (k1, .openIdx)] := by
  have h : runOpens true .empty (twoOpeners k0 k1) ([0, 0, 0, 1, 1] ++ rest) =
      runOpens true ((runOpens true .empty (twoOpeners k0 k1) [0, 0, 0, 1, 1]).1)
        [(k0, .done), (k1, .openIdx)] rest := rfl
  rw [h, stuck_forever _ _ _ (by decide)]

/-- with the shared (read-only) lock both handles open -/
theorem exclusive_lock_repaired_ok :
    ((runOpens false .empty (twoOpeners k0 k1) [0, 0, 0, 1, 1, 1]).2.map (·.2)) = [.done, .done] ∧
    (Drv.run (fun _ => true) .empty [.open k0, .open k1, .query k0, .query k1]).2
      = [.ok (), .ok (), .ok (), .ok ()] := by
  decide +kernel

/-! ## 7. OpenIndex — 2112911 "rejects bbolt files that are not a complete index instead of panicking",
983938d "closes the database when an option fails" -/

/-- Witness: a bbolt file without data bucket (e.g. the file left by a crash before the first commit). -/
theorem open_nobucket_original_violates (o : OpenOpts) :
    openIndexOrig (.bolt false .missing .missing true) 0 o = (.panic, true) := rfl

/-- Witness: schema present, row counter missing or 3 bytes long. -/
theorem open_nocounter_original_violates (o : OpenOpts) :
    openIndexOrig (.bolt true .good .missing true) 0 o = (.panic, true) ∧
    openIndexOrig (.bolt true .good .malformed true) 3 o = (.panic, true) := ⟨rfl, rfl⟩

/-- Witness: a 5-byte row counter is silently accepted. -/
theorem open_longcounter_original_violates :
    openIndexOrig (.bolt true .good .malformed true) 5 ⟨false⟩ = (.ok (), true) := rfl

theorem open_incomplete_repaired_ok (o : OpenOpts) :
    openIndex (.bolt false .missing .missing true) o = (.error, false) ∧
    openIndex (.bolt true .good .missing true) o = (.error, false) ∧
    openIndex (.bolt true .good .malformed true) o = (.error, false) := ⟨rfl, rfl, rfl⟩

/-- the repaired `OpenIndex` has two outcomes: an error with the lock released, or success holding the lock -/
theorem openIndex_cases (fs : FileState) (o : OpenOpts) :
    openIndex fs o = (.error, false) ∨ openIndex fs o = (.ok (), true) := by
  cases fs with
  | absent => exact .inl rfl
  | notBolt => exact .inl rfl
  | bolt b s i v =>
    rw [openIndex]
    by_cases h1 : (!b) = true
    · exact .inl (if_pos h1)
    rw [if_neg h1]
    by_cases h2 : (s != .good) = true
    · exact .inl (if_pos h2)
    rw [if_neg h2]
    by_cases h3 : (i != .good) = true
    · exact .inl (if_pos h3)
    rw [if_neg h3]
    by_cases h4 : (o.preload && !v) = true
    · exact .inl (if_pos h4)
    · exact .inr (if_neg h4)

/-- **General.** The repaired `OpenIndex` neither panics nor blocks, on any file. -/
theorem open_repaired_general (fs : FileState) (o : OpenOpts) :
    (openIndex fs o).1 ≠ .panic ∧ (openIndex fs o).1 ≠ .hang := by
  rcases openIndex_cases fs o with h | h <;> rw [h] <;> exact ⟨nofun, nofun⟩

/-- Witness: preloading hits an undecodable bitmap: error returned, lock kept. -/
theorem open_preload_original_violates :
    openIndexLeak (.bolt true .good .good false) ⟨true⟩ = (.error, true) := rfl
theorem open_preload_repaired_ok :
    openIndex (.bolt true .good .good false) ⟨true⟩ = (.error, false) := rfl

/-- **General.** Every failing repaired `OpenIndex` releases the lock. -/
theorem open_preload_repaired_general (fs : FileState) (o : OpenOpts) (h : (openIndex fs o).1 = .error) :
    (openIndex fs o).2 = false := by
  rcases openIndex_cases fs o with h' | h' <;> rw [h'] at h ⊢
  cases h

/-! ## 8. server — b3a7fa1 "incomplete expression trees are rejected with an error instead of crashing" -/

/-- Witness (any hash, any index): a query without expression, an expression without value, a NOT without operand,
an AND with a member without value. -/
theorem server_original_violates (H : Bytes → UInt64) (ix : Index) (id : Int) :
    serverExecuteOrig H ix ⟨id, none, []⟩ = .panic ∧
    serverExecuteOrig H ix ⟨id, some .unset, []⟩ = .panic ∧
    serverExecuteOrig H ix ⟨id, some (.not none), []⟩ = .panic ∧
    serverExecuteOrig H ix ⟨id, some (.and [.eq [97] [49], .unset]), []⟩ = .panic := ⟨rfl, rfl, rfl, rfl⟩

theorem server_repaired_ok (H : Bytes → UInt64) (ix : Index) (id : Int) :
    serverExecute H ix ⟨id, none, []⟩ = .error ∧
    serverExecute H ix ⟨id, some .unset, []⟩ = .error ∧
    serverExecute H ix ⟨id, some (.not none), []⟩ = .error ∧
    serverExecute H ix ⟨id, some (.and [.eq [97] [49], .unset]), []⟩ = .error := ⟨rfl, rfl, rfl, rfl⟩

theorem server_repaired_general (H : Bytes → UInt64) (ix : Index) (q : WQuery) :
    serverExecute H ix q ≠ .panic := by
  unfold serverExecute
  repeat' split
  all_goals simp

/-! ## 9. big writer — 4e9f82a "no longer panics when the smallest value index is 0",
72e7103 "updog create --big exits on a malformed CSV instead of hanging" -/

/-- **General.** Whenever the smallest temp key has value index 0, the original cursor walk panics. -/
theorem bigwriter_zero_original_general (k : Bytes) (ks : List Bytes) (h : beDecode (k.take 8) = 0) :
    walkOrig (k :: ks) = .panic := by
  have h1 : walkStepOrig (.ok {}) k = .panic := by
    simp [walkStepOrig, Outcome.bind, h]
  simp only [walkOrig, List.foldl_cons, h1, foldl_walkStepOrig_panic]
  rfl

/-- the constant-0 hash and a one-row dataset -/
def H0 : Bytes → UInt64 := fun _ => 0
def rows9 : List Row := [[([97], [49])]]

theorem rows9_temp : (BigWriter.addRows H0 {} rows9).temp = [tempKey 0 0] := by decide +kernel

theorem rows9_sorted : sortKeys (BigWriter.addRows H0 {} rows9).temp = [tempKey 0 0] := by
  rw [rows9_temp]; exact List.mergeSort_singleton _

theorem rows9_lengths : (BigWriter.addRows H0 {} rows9).temp.all (·.length == 12) = true := by
  rw [rows9_temp]; decide

theorem bigwriter_zero_original_violates : (BigWriter.addRows H0 {} rows9).flushOrig = .panic := by
  rw [BigWriter.flushOrig, rows9_lengths, rows9_sorted, bigwriter_zero_original_general _ _ (by decide)]
  rfl

theorem bigwriter_zero_repaired_ok :
    (BigWriter.addRows H0 {} rows9).flush = .ok ([(0, 1)], [([97], [([49], 0)])], 1) := by
  have h1 : walk [tempKey 0 0] = [(0, 1)] := by decide +kernel
  have h2 : (BigWriter.addRows H0 {} rows9).schema = [([97], [([49], 0)])] := by decide +kernel
  have h3 : (BigWriter.addRows H0 {} rows9).next = 1 := by decide +kernel
  rw [BigWriter.flush, rows9_lengths, BigWriter.flushCore, rows9_sorted, h1, h2, h3]
  rfl

/-- Witness (= `Updog.C19.unrepaired_hangs`): header readable, a malformed record, no output file yet, `--big`;
without `defer idx.Close()` the deferred `tempDB.Close()` never returns. -/
theorem create_big_original_violates :
    (createRun ⟨true, false⟩ ⟨true, false, false, true⟩).terminates = false := C19.unrepaired_hangs

theorem create_big_repaired_ok :
    (createCmd ⟨true, false, false, true⟩).terminates = true ∧
    (createCmd ⟨true, false, false, true⟩).exitStatus = 1 := ⟨rfl, rfl⟩

/-! ## 10. LRU mutex — d0a4588 "LRUCache is safe for concurrent use"

Not expressible as a value-level witness: the defect is a data race in the Go memory model (unsynchronised map, list
and counter updates). In this model `Get` and `Put` are atomic steps — which is exactly what the mutex provides — so
the original and the repaired code have the same model. The property is covered by the extracted lock-discipline
facts and `-race` runs, not by a theorem. -/

/-! ### non-vacuity of the general statements -/

/-- `lru_overwrite_original_general`: a state holding key 0 and a bitmap larger than the capacity -/
example : ((Lru.empty 72 64).putOrig 0 8 8).items.find? (·.key == 0) = some ⟨0, 8, 8⟩ ∧
    ((Lru.empty 72 64).putOrig 0 8 8).max < id 90 := by decide +kernel

/-- `header_first_original_general` at the witness of `header_first_original_violates` -/
example : openIndex (stateOf (imageAfter (writeTxsOrig C06.w3.schema C06.w3.next perm3 1) 1)) ⟨true⟩ = (.ok (), true) :=
  (header_first_original_general _ _ _ _ 1 (Nat.le_refl 1) _).2

/-- `placeholder_agree_in_range`: `$12` -/
example : placeholderOrig [49, 50] = some 12 ∧ decodePlaceholder [49, 50] = 12 := by decide +kernel

/-- `bigwriter_zero_original_general`: the temp key of value index 0, row 0 -/
example : beDecode ((tempKey 0 0).take 8) = 0 := by decide

/-- `unterminated_original_general`: both alternatives occur -/
example : lexAllOrig [97] = lexAll [97] ∧ lexAll [34, 120] = [] ++ [.error] ∧ lexAllOrig [34, 120] = [] ++ [.eof] := by
  decide +kernel

end Updog.Witnesses
