/-
C04 — concurrent queries return sequential answers, for every schedule.
Goroutines evaluating expressions against one shared cache are programs whose atomic steps are the cache
operations (`Get` / `Put` hold the cache mutex for their whole body; the index itself is only read, under `RLock`).
A schedule is any list of goroutine indexes. Helper lemmas live in Updog/Proofs/Sched.lean.
-/
import Updog.Proofs.Sched
import Updog.Proofs.Universe
import Updog.Proofs.ToyInstance
namespace Updog.C04

variable {H : Bytes → UInt64} {ix : Index} {U : List Expr} {σ : Type} {C : CacheImpl σ}

/-- The program view is faithful: run without interruption, the program of `e` is exactly `evalC` (answer and final
cache state). -/
theorem solo_run_is_evalC (H : Bytes → UInt64) (C : CacheImpl σ) (ix : Index) (e : Expr) (s : σ) :
    runProg C s (evalProg H ix e) = evalC H C ix s e :=
  runProg_evalProg H C ix e s

/-- **Main theorem.** Any number of goroutines evaluating the expressions `es` concurrently on one shared lawful
cache, from any sound cache state, under EVERY schedule (any interleaving of the atomic cache operations, including
schedules that starve goroutines or name goroutines that are finished or do not exist): whenever goroutine `i` has
finished, its result is the sequential, cache-free result of its expression. -/
theorem concurrent_results_sequential (L : CacheLaws C) (hU : SubClosed U) (hkey : KeyOK H ix U)
    (es : List Expr) (hes : ∀ e ∈ es, e ∈ U) (s : σ) (hs : Sound H ix U L s) (sched : List Nat)
    (i : Nat) (r : Option Nat)
    (hdone : (runSched C s (es.map (evalProg H ix)) sched).2[i]? = some (.done r)) :
    ∃ e, es[i]? = some e ∧ r = eval H ix e := by
  have h := (runSched_preserves (L := L) sched s hs _ _ (allGood_evalProg hkey hU es hes)).2 i _ hdone
  obtain ⟨x, hx, hgood⟩ := h
  rw [List.getElem?_map] at hx
  cases he : es[i]? with
  | none => simp [he] at hx
  | some e =>
    simp only [he, Option.map_some, Option.some.injEq] at hx
    exact ⟨e, rfl, hgood.trans hx.symm⟩

/-- … and the shared cache is sound after every schedule (hence at every moment: every prefix of a schedule is a
schedule), so whatever runs afterwards — sequentially or concurrently — is again answered correctly. -/
theorem concurrent_cache_sound (L : CacheLaws C) (hU : SubClosed U) (hkey : KeyOK H ix U)
    (es : List Expr) (hes : ∀ e ∈ es, e ∈ U) (s : σ) (hs : Sound H ix U L s) (sched : List Nat) :
    Sound H ix U L (runSched C s (es.map (evalProg H ix)) sched).1 :=
  (runSched_preserves (L := L) sched s hs _ _ (allGood_evalProg hkey hU es hes)).1

/-- no goroutine appears or disappears -/
theorem schedule_keeps_goroutines (C : CacheImpl σ) (s : σ) (progs : List Prog) (sched : List Nat) :
    (runSched C s progs sched).2.length = progs.length :=
  runSched_length sched s progs

/-- **Query level.** Concurrent `Execute` calls: the answer each finished goroutine returns is the answer of the
cache-free sequential `Execute`. -/
theorem concurrent_answers_sequential (L : CacheLaws C) (hU : SubClosed U) (hkey : KeyOK H ix U)
    (qs : List Query) (hqs : ∀ q ∈ qs, q.expr ∈ U) (s : σ) (hs : Sound H ix U L s) (sched : List Nat)
    (i : Nat) (r : Option Nat)
    (hdone : (runSched C s ((qs.map (·.expr)).map (evalProg H ix)) sched).2[i]? = some (.done r)) :
    ∃ q, qs[i]? = some q ∧ finishQuery ix q r = execute H ix q := by
  obtain ⟨e, he, hr⟩ := concurrent_results_sequential L hU hkey (qs.map (·.expr))
    (by intro e he; obtain ⟨q, hq, rfl⟩ := List.mem_map.mp he; exact hqs q hq) s hs sched i r hdone
  rw [List.getElem?_map] at he
  cases hq : qs[i]? with
  | none => simp [hq] at he
  | some q =>
    simp only [hq, Option.map_some, Option.some.injEq] at he
    refine ⟨q, rfl, ?_⟩
    subst he hr
    rfl

/-- **End to end, LRU.** Goroutines on a shared `LRUCache` of any capacity that starts without items:
if the hash has no collision on the strings hashed for the cache keys of the workload and leaves with equal value
index agree on the existence of their column, every finished goroutine has the sequential result, under every
schedule. -/
theorem lru_concurrent_results_sequential (H : Bytes → UInt64) (ix : Index) (sz : Nat → Nat) (c0 : Lru)
    (h0 : c0.items = []) (es : List Expr) (hinj : InjOn H (es.flatMap (preimages H)))
    (hagree : KnownAgree H ix (es.flatMap Expr.pairs)) (sched : List Nat) (i : Nat) (r : Option Nat)
    (hdone : (runSched (lruCacheImpl sz) c0 (es.map (evalProg H ix)) sched).2[i]? = some (.done r)) :
    ∃ e, es[i]? = some e ∧ r = eval H ix e :=
  concurrent_results_sequential (lruCacheLaws sz) (subsOf_closed es) (keyOK_of_injOn H ix es hinj hagree) es
    (subsOf_mem es) c0
    ((lru_emptyState sz c0 h0).sound H ix _ _) sched i r hdone

/-- **Completeness (no deadlock / no livelock in the model).** Whatever the cache does, the schedule that runs the
goroutines one after the other, each until it is finished, finishes everybody — so the main theorem is not vacuous:
schedules under which all goroutines are `done` exist from every state. -/
theorem sequential_schedule_completes (C : CacheImpl σ) (s : σ) (progs : List Prog) :
    ∃ sched, ∀ p ∈ (runSched C s progs sched).2, p.isDone = true := by
  simpa using sequential_schedule_finishes (C := C) progs [] s (by simp)

/-! ### non-vacuity -/

section Examples
open Updog.Toy

/-- the hypotheses of the main theorem hold for this instance, with an LRU of every capacity -/
example (cap : Nat) (i : Nat) (r : Option Nat)
    (h : (runSched (lruCacheImpl sz) (lru cap) (es.map (evalProg toyH (tix toyH))) sched).2[i]? = some (.done r)) :
    ∃ e, es[i]? = some e ∧ r = eval toyH (tix toyH) e :=
  lru_concurrent_results_sequential toyH (tix toyH) sz (lru cap) rfl es injOn_es knownAgree_es
    sched i r h

/-- … and the premise `done` is reached: under `sched` all three goroutines finish, on an LRU of capacity 0 and on a
large one, with the bitmaps {0}, {0,2}, {0}; on the large one some lookups are hits. -/
example :
    ((runSched (lruCacheImpl sz) (lru 0) (es.map (evalProg toyH (tix toyH))) sched).2.map Prog.result?) =
      [some (some 1), some (some 5), some (some 1)] ∧
    ((runSched (lruCacheImpl sz) (lru 100000) (es.map (evalProg toyH (tix toyH))) sched).2.map Prog.result?) =
      [some (some 1), some (some 5), some (some 1)] ∧
    (runSched (lruCacheImpl sz) (lru 100000) (es.map (evalProg toyH (tix toyH))) sched).1.hits > 0 := by
  rw [lruCacheImpl_eq_lruS]
  decide +kernel

/-- the abstract form of the hypotheses (`SubClosed`, `KeyOK`, `Sound`) for the same instance -/
example : SubClosed (subsOf es) ∧ KeyOK toyH (tix toyH) (subsOf es) ∧
    Sound toyH (tix toyH) (subsOf es) (lruCacheLaws sz) (lru 0) ∧ (∀ e ∈ es, e ∈ subsOf es) :=
  ⟨subsOf_closed es, keyOK_of_injOn toyH (tix toyH) es injOn_es knownAgree_es,
    (lru_emptyState sz _ rfl).sound _ _ _ _, subsOf_mem es⟩

/-- The collision hypothesis cannot be dropped here either: if all cache keys collide, an interleaving makes
goroutine 0 return a wrong bitmap. -/
example : ((runSched (lruCacheImpl sz) (lru 100000) (es.map (evalProg badH (tix badH))) sched).2.map Prog.result?)
      ≠ [some (some 1), some (some 5), some (some 1)] ∧
    es.map (eval badH (tix badH)) = [some 1, some 5, some 1] := by
  rw [lruCacheImpl_eq_lruS]
  decide +kernel

end Examples

end Updog.C04
