/-
C14 — no request can crash the server.
-/
import Updog.Model.Server
namespace Updog.C14
variable (H : Bytes → UInt64)

/-- a single query of a request, however incomplete its tree, is answered with a result or an error -/
theorem serverExecute_never_panics (ix : Index) (q : WQuery) :
    serverExecute H ix q ≠ .panic ∧ serverExecute H ix q ≠ .hang := by
  unfold serverExecute
  cases q.expr with
  | none => simp
  | some w =>
    cases hw : w.complete with
    | none => simp [hw]
    | some e => cases he : execute H ix ⟨e, q.groupBy⟩ <;> simp [hw, he]

/-- every decodable request is answered with a response or an RPC error; the handler never panics -/
theorem server_never_panics (ix : Index) (qs : List WQuery) (pos : Nat) :
    serverQuery H ix qs pos ≠ .panic ∧ serverQuery H ix qs pos ≠ .hang := by
  induction qs generalizing pos with
  | nil => simp [serverQuery]
  | cons q rest ih =>
    have hq := serverExecute_never_panics H ix q
    have hr := ih (pos + 1)
    simp only [serverQuery]
    cases h1 : serverExecute H ix q with
    | ok r =>
      cases h2 : serverQuery H ix rest (pos + 1) with
      | ok rs => simp
      | error => simp
      | panic => exact absurd h2 hr.1
      | hang => exact absurd h2 hr.2
    | error => simp
    | panic => exact absurd h1 hq.1
    | hang => exact absurd h1 hq.2

mutual
/-- embedding of complete trees -/
def ofExpr : Expr → WExpr
  | .eq c v => .eq c v
  | .not e => .not (some (ofExpr e))
  | .and es => .and (ofExprs es)
  | .or es => .or (ofExprs es)
def ofExprs : List Expr → List WExpr
  | [] => []
  | e :: es => ofExpr e :: ofExprs es
end

mutual
theorem complete_ofExpr (e : Expr) : (ofExpr e).complete = some e := by
  match e with
  | .eq c v => rfl
  | .not e' => exact congrArg (Option.map Expr.not) (complete_ofExpr e')
  | .and es => exact congrArg (Option.map Expr.and) (completeList_ofExprs es)
  | .or es => exact congrArg (Option.map Expr.or) (completeList_ofExprs es)
theorem completeList_ofExprs (es : List Expr) : WExpr.completeList (ofExprs es) = some es := by
  match es with
  | [] => rfl
  | e :: es' =>
    show (match WExpr.complete (ofExpr e) with
      | none => none
      | some x => (WExpr.completeList (ofExprs es')).map (x :: ·)) = _
    rw [complete_ofExpr e, completeList_ofExprs es']
    rfl
end

/-- the server keeps answering well-formed requests correctly: a complete tree gets exactly the library's answer,
    independently of anything sent before (the handler has no state besides the result cache, see C03) -/
theorem wellformed_answered_like_library (ix : Index) (id : Int) (e : Expr) (gb : List Bytes) :
    serverExecute H ix ⟨id, some (ofExpr e), gb⟩ =
      match execute H ix ⟨e, gb⟩ with
      | some r => .ok r
      | none => .error := by
  simp only [serverExecute, complete_ofExpr]
  cases execute H ix ⟨e, gb⟩ <;> rfl

/-- the structural omissions are errors -/
example (ix : Index) : serverExecute H ix ⟨0, none, []⟩ = .error := rfl
example (ix : Index) : serverExecute H ix ⟨0, some .unset, []⟩ = .error := rfl
example (ix : Index) : serverExecute H ix ⟨0, some (.not none), []⟩ = .error := rfl
example (ix : Index) : serverExecute H ix ⟨0, some (.and [.eq [97] [49], .unset]), []⟩ = .error := by
  rfl

end Updog.C14
