/-
C02 (32-bit row counter) — `groupBy_eq_spec` for the index opened from the file the CODE persists (`uint32` counter;
`Model/Counter32.lean`), for both writers, under `FitsCounter rows` (fewer than 2^32 rows).
`C02.groupBy_eq_spec` is true as stated, on the unbounded counter of `Model/Index.lean`; for the code's counter the
property should cite `groupBy_eq_spec_fits`. The SQL-reading corollaries of `C02.lean` (`groups_eq`, `mem_groups_iff`,
`groups_columns`, `groups_count_pos`, `groups_strictly_ascending`, `groups_tuples_nodup`,
`repeated_column_same_value`) take a hypothesis `execute H (Writer.addRows H {} rows).toIndex ⟨e, cols⟩ = some res`;
`result_transfers_fits` turns a result obtained from either persisted file into that hypothesis.
-/
import Updog.Props.C01Counter
import Updog.Props.C02
namespace Updog.C02
open Updog

variable (H : Bytes → UInt64)

/-- **Group-by, code's counter.** Under the hypotheses of `groupBy_eq_spec` and with fewer than 2^32 rows, `Execute`
on the index opened from the file written by the in-memory writer, and on the one written by the big writer, returns
exactly the answer of the specification. -/
theorem groupBy_eq_spec_fits (rows : List Row) (e : Expr) (cols : List Bytes) (hfit : FitsCounter rows)
    (hcols : ∀ c ∈ e.columns, c ∈ columnsOf rows) (hwf : e.arityPos = true)
    (hinj : NoCollision H rows e.pairs) (hD : DataNoCollision H rows)
    (hg : ∀ c ∈ cols, c ∈ columnsOf rows) :
    execute H (Writer32.image H rows).open ⟨e, cols⟩ = specExecute rows ⟨e, cols⟩ ∧
    execute H (BigWriter32.image H rows).open ⟨e, cols⟩ = specExecute rows ⟨e, cols⟩ := by
  obtain ⟨h1, h2⟩ := C01.execute32_eq_fits H rows hfit ⟨e, cols⟩
  rw [h1, h2]
  exact ⟨groupBy_eq_spec H rows e cols hcols hwf hinj hD hg, groupBy_eq_spec H rows e cols hcols hwf hinj hD hg⟩

/-- a result read from either persisted file is a result of the index the corollaries of `C02.lean` speak about -/
theorem result_transfers_fits (rows : List Row) (hfit : FitsCounter rows) (q : Query) (res : Result)
    (hres : execute H (Writer32.image H rows).open q = some res ∨ execute H (BigWriter32.image H rows).open q = some res) :
    execute H (Writer.addRows H {} rows).toIndex q = some res := by
  obtain ⟨h1, h2⟩ := C01.execute32_eq_fits H rows hfit q
  rcases hres with h | h
  · rw [← h1]; exact h
  · rw [← h2]; exact h

/-- an unknown group-by column is an error on both files -/
theorem unknown_groupby_column_errors_fits (rows : List Row) (hfit : FitsCounter rows) (e : Expr) (cols : List Bytes)
    (c : Bytes) (hc : c ∈ cols) (hno : c ∉ columnsOf rows) :
    execute H (Writer32.image H rows).open ⟨e, cols⟩ = none ∧
    execute H (BigWriter32.image H rows).open ⟨e, cols⟩ = none := by
  obtain ⟨h1, h2⟩ := C01.execute32_eq_fits H rows hfit ⟨e, cols⟩
  rw [h1, h2]
  exact ⟨unknown_groupby_column_errors H rows e cols c hc hno, unknown_groupby_column_errors H rows e cols c hc hno⟩

/-! ### non-vacuity -/

/-- the hypotheses of `groupBy_eq_spec_fits` hold for the dataset, expression and group-by list of `C02.lean` -/
example : FitsCounter exRows ∧ (∀ c ∈ exExpr.columns, c ∈ columnsOf exRows) ∧ exExpr.arityPos = true ∧
    NoCollision C01.toyH exRows exExpr.pairs ∧ DataNoCollision C01.toyH exRows ∧
    (∀ c ∈ exCols, c ∈ columnsOf exRows) := by
  refine ⟨by decide +kernel, by decide +kernel, by decide +kernel, ?_, ?_, by decide +kernel⟩
  · unfold NoCollision; decide +kernel
  · unfold DataNoCollision; decide +kernel

/-- the concrete result on both persisted files -/
example : execute C01.toyH (Writer32.image C01.toyH exRows).open ⟨exExpr, exCols⟩ = some exResult ∧
    execute C01.toyH (BigWriter32.image C01.toyH exRows).open ⟨exExpr, exCols⟩ = some exResult := by
  obtain ⟨h1, h2⟩ := C01.execute32_eq_fits C01.toyH exRows (by decide +kernel) ⟨exExpr, exCols⟩
  rw [h1, h2]
  exact ⟨ex_execute, ex_execute⟩

end Updog.C02
