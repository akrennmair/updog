/-
The hash-map based index builder of the compiled oracle (`Updog.Oracle.FastW`) computes the same index as the
list-based model writer (`Writer.addRows xxhash64`).
-/
import Updog.Oracle.Idx
import Updog.Props.OracleFast
import Std.Data.HashMap.Lemmas
namespace Updog.OracleFastW
open Updog.Oracle

theorem natOfIdsArray_push (a : Array Nat) (i : Nat) :
    natOfIdsArray (a.push i) = setBit (natOfIdsArray a) i := by
  unfold natOfIdsArray
  rw [OracleFast.natOfIdsArray_eq, OracleFast.natOfIdsArray_eq]
  simp [List.foldl_append]

theorem natOfIdsArray_single (i : Nat) : natOfIdsArray #[i] = setBit 0 i := by
  unfold natOfIdsArray
  rw [OracleFast.natOfIdsArray_eq]
  simp

/-! ### the bitmaps -/

def idsF (next : Nat) : Option (Array Nat) → Option (Array Nat)
  | none => some #[next]
  | some a => some (a.push next)

theorem addPair_ids (fw : FastW) (kv : Bytes × Bytes) :
    (fw.addPair kv).ids = fw.ids.alter (xxhash64 (encodePair kv.1 kv.2)) (idsF fw.next) := by
  unfold FastW.addPair idsF
  by_cases hs : fw.seen.contains (kv.1, kv.2) <;> simp [hs] <;>
    (congr 1)

theorem addPair_next (fw : FastW) (kv : Bytes × Bytes) : (fw.addPair kv).next = fw.next := by
  unfold FastW.addPair
  by_cases hs : fw.seen.contains (kv.1, kv.2) <;> simp [hs]

def IdsInv (fw : FastW) (w : Writer) : Prop :=
  ∀ h, (fw.ids[h]?).map natOfIdsArray = w.vals.get h

theorem idsInv_addPair (fw : FastW) (w : Writer) (i : Nat) (hi : fw.next = i) (kv : Bytes × Bytes)
    (inv : IdsInv fw w) : IdsInv (fw.addPair kv) (Writer.addPair xxhash64 i w kv) := by
  intro h
  rw [addPair_ids, Std.HashMap.getElem?_alter]
  simp only [Writer.addPair, ValMap.get_addBit, beq_iff_eq, hi]
  split
  · rw [← inv]
    cases fw.ids[xxhash64 (encodePair kv.1 kv.2)]? <;>
      simp [idsF, natOfIdsArray_push, natOfIdsArray_single]
  · exact inv h

/-! ### the schema -/

structure Inv (fw : FastW) (w : Writer) : Prop where
  ids : IdsInv fw w
  next : fw.next = w.next
  cols : fw.cols.toList = w.schema.map (·.1)
  nodup : (w.schema.map (·.1)).Nodup
  colVals : ∀ k, (fw.colVals[k]?).map Array.toList = w.schema.col k
  seen : ∀ k v, fw.seen.contains (k, v) = ((w.schema.col k).getD []).any (·.1 == v)

theorem inv_empty : Inv {} {} := by
  constructor
  · intro h; simp [ValMap.get]
  · rfl
  · rfl
  · simp
  · intro k; simp [Schema.col]
  · intro k v; simp [Schema.col]

def cvF (v : Bytes) (h : UInt64) : Option (Array (Bytes × UInt64)) → Option (Array (Bytes × UInt64))
  | none => some #[(v, h)]
  | some a => some (a.push (v, h))

theorem addPair_seen_true (fw : FastW) (kv : Bytes × Bytes) (hs : fw.seen.contains (kv.1, kv.2) = true) :
    (fw.addPair kv).seen = fw.seen ∧ (fw.addPair kv).colVals = fw.colVals ∧
    (fw.addPair kv).cols = fw.cols := by
  unfold FastW.addPair; simp [hs]

theorem addPair_seen_false (fw : FastW) (kv : Bytes × Bytes) (hs : fw.seen.contains (kv.1, kv.2) = false) :
    (fw.addPair kv).seen = fw.seen.insert (kv.1, kv.2) () ∧
    (fw.addPair kv).colVals = fw.colVals.alter kv.1 (cvF kv.2 (xxhash64 (encodePair kv.1 kv.2))) ∧
    (fw.addPair kv).cols = if fw.colVals.contains kv.1 then fw.cols else fw.cols.push kv.1 := by
  unfold FastW.addPair cvF; simp [hs]; congr 1

theorem inv_addPair (fw : FastW) (w : Writer) (kv : Bytes × Bytes) (inv : Inv fw w) :
    Inv (fw.addPair kv) (Writer.addPair xxhash64 w.next w kv) := by
  have hids := idsInv_addPair fw w _ inv.next kv inv.ids
  have hnext := (addPair_next fw kv).trans inv.next
  have hseen := inv.seen kv.1 kv.2
  cases hs : fw.seen.contains (kv.1, kv.2)
  · -- a new pair: the value is appended to its column, the column is appended if it is new
    obtain ⟨e1, e2, e3⟩ := addPair_seen_false fw kv hs
    rw [hs] at hseen
    have hcol : ∀ k', (Writer.addPair xxhash64 w.next w kv).schema.col k' =
        if k' = kv.1 then some ((w.schema.col kv.1).getD [] ++ [(kv.2, xxhash64 (encodePair kv.1 kv.2))])
        else w.schema.col k' := by
      intro k'
      show (w.schema.add kv.1 kv.2 _).col k' = _
      rw [Schema.col_add, addVal, ← hseen]
      rfl
    have hc : fw.colVals.contains kv.1 = (w.schema.col kv.1).isSome := by
      rw [Std.HashMap.contains_eq_isSome_getElem?, ← inv.colVals, Option.isSome_map]
    have hkeys : (Writer.addPair xxhash64 w.next w kv).schema.map (·.1) = _ :=
      Schema.keys_add w.schema kv.1 kv.2 _
    refine ⟨hids, hnext, ?_, ?_, ?_, ?_⟩
    · rw [e3, hc, hkeys]
      split
      · exact inv.cols
      · rw [Array.toList_push, inv.cols]
    · rw [hkeys]
      split
      · exact inv.nodup
      · next hn =>
        have hnot := (Schema.col_eq_none_iff _ _).mp (Option.not_isSome_iff_eq_none.mp hn)
        exact List.nodup_append.mpr ⟨inv.nodup, List.pairwise_singleton _ _,
          fun a ha b hb e => hnot (List.mem_singleton.mp hb ▸ e ▸ ha)⟩
    · intro k'
      rw [e2, hcol, Std.HashMap.getElem?_alter]
      by_cases hk : k' = kv.1
      · rw [hk, if_pos rfl, if_pos (beq_self_eq_true kv.1), ← inv.colVals]
        cases fw.colVals[kv.1]? <;> simp [cvF]
      · rw [if_neg hk, if_neg (fun e => hk (eq_of_beq e).symm)]
        exact inv.colVals k'
    · intro k' v'
      rw [e1, hcol, Std.HashMap.contains_insert, inv.seen]
      by_cases hk : k' = kv.1
      · have : ((kv.1, kv.2) == (kv.1, v')) = (kv.2 == v') := by rw [Bool.eq_iff_iff]; simp
        rw [hk, if_pos rfl, Option.getD_some, List.any_append, List.any_cons, List.any_nil, Bool.or_false, this,
          Bool.or_comm]
      · have : ((kv.1, kv.2) == (k', v')) = false := beq_false_of_ne fun e => hk (Prod.mk.inj e).1.symm
        rw [if_neg hk, this, Bool.false_or]
  · -- a known pair: the schema does not change
    obtain ⟨e1, e2, e3⟩ := addPair_seen_true fw kv hs
    have hsame : (Writer.addPair xxhash64 w.next w kv).schema = w.schema :=
      Schema.add_eq_self _ _ _ _ (by rw [← hseen, hs])
    exact ⟨hids, hnext, by rw [e3, hsame]; exact inv.cols, by rw [hsame]; exact inv.nodup,
      fun k => by rw [e2, hsame]; exact inv.colVals k, fun k v => by rw [e1, hsame]; exact inv.seen k v⟩

theorem inv_foldPairs (r : Row) (i : Nat) : ∀ (fw : FastW) (w : Writer), Inv fw w → w.next = i →
    Inv (r.foldl FastW.addPair fw) (r.foldl (Writer.addPair xxhash64 i) w) ∧
      (r.foldl (Writer.addPair xxhash64 i) w).next = i := by
  induction r with
  | nil => intro fw w inv hi; exact ⟨inv, hi⟩
  | cons kv r ih =>
    intro fw w inv hi
    simp only [List.foldl_cons]
    apply ih
    · rw [← hi]; exact inv_addPair fw w kv inv
    · exact hi

theorem inv_addRow (fw : FastW) (w : Writer) (r : Row) (inv : Inv fw w) :
    Inv (fw.addRow r) (Writer.addRow xxhash64 w r) := by
  obtain ⟨h, _⟩ := inv_foldPairs r w.next fw w inv rfl
  unfold FastW.addRow Writer.addRow
  exact ⟨h.ids, by simp [inv.next], h.cols, h.nodup, h.colVals, h.seen⟩

theorem inv_addRows (rows : List Row) : ∀ (fw : FastW) (w : Writer), Inv fw w →
    Inv (rows.foldl FastW.addRow fw) (Writer.addRows xxhash64 w rows) := by
  induction rows with
  | nil => intro fw w inv; exact inv
  | cons r rows ih =>
    intro fw w inv
    simp only [List.foldl_cons, Writer.addRows]
    exact ih _ _ (inv_addRow fw w r inv)

/-! ### the fold in `FastW.toIndex` -/

theorem foldl_insert_eq_insertMany {V : Type} (g : V → Nat) (l : List (UInt64 × V))
    (m0 : Std.HashMap UInt64 Nat) :
    l.foldl (fun m p => m.insert p.1 (g p.2)) m0 = m0.insertMany (l.map fun p => (p.1, g p.2)) := by
  induction l generalizing m0 with
  | nil => rw [List.map_nil, Std.HashMap.insertMany_nil]; rfl
  | cons p l ih => rw [List.foldl_cons, ih, List.map_cons, Std.HashMap.insertMany_cons]

theorem fold_getElem? (ids : Std.HashMap UInt64 (Array Nat)) (h : UInt64) :
    (ids.fold (fun m h a => m.insert h (natOfIdsArray a)) ({} : Std.HashMap UInt64 Nat))[h]? =
      (ids[h]?).map natOfIdsArray := by
  rw [Std.HashMap.fold_eq_foldl_toList, foldl_insert_eq_insertMany natOfIdsArray]
  cases hc : ids[h]? with
  | none =>
    rw [Std.HashMap.getElem?_insertMany_list_of_contains_eq_false, Std.HashMap.getElem?_empty]
    · rfl
    · rw [Bool.eq_false_iff, Ne, List.contains_iff_mem, List.map_map]
      intro hm
      obtain ⟨⟨k, a⟩, hp, rfl⟩ := List.mem_map.mp hm
      cases hc.symm.trans (Std.HashMap.mem_toList_iff_getElem?_eq_some.mp hp)
  | some a =>
    exact Std.HashMap.getElem?_insertMany_list_of_mem (beq_self_eq_true h)
      (List.pairwise_map.mpr Std.HashMap.distinct_keys_toList)
      (List.mem_map.mpr ⟨(h, a), Std.HashMap.mem_toList_iff_getElem?_eq_some.mpr hc, rfl⟩)

theorem fastW_toIndex_eq (rows : List Row) :
    let fw := rows.foldl Oracle.FastW.addRow {}
    let w  := Writer.addRows xxhash64 {} rows
    fw.toIndex.schema = w.toIndex.schema ∧ fw.toIndex.next = w.toIndex.next ∧
    ∀ h, fw.toIndex.getCol h = w.toIndex.getCol h := by
  intro fw w
  have inv : Inv fw w := inv_addRows rows {} {} inv_empty
  refine ⟨?_, inv.next, ?_⟩
  · show fw.cols.toList.map (fun c => (c, (fw.colVals.getD c #[]).toList)) = w.schema
    rw [inv.cols]
    refine Eq.trans ?_ (Schema.eq_of_nodup_keys w.schema inv.nodup)
    apply List.map_congr_left
    intro c _
    rw [Std.HashMap.getD_eq_getD_getElem?, ← inv.colVals c]
    cases fw.colVals[c]? <;> simp
  · intro h
    show (fw.ids.fold (fun m h a => m.insert h (natOfIdsArray a)) ({} : Std.HashMap UInt64 Nat))[h]? = w.vals.get h
    rw [fold_getElem?]
    exact inv.ids h

/-- as one equation between index values: everything the oracle computes from the fast-built index
(`execute`, `GetSchema`, the row count) is computed from the model's written-and-opened index -/
theorem fastW_toIndex_eq_model (rows : List Row) :
    (rows.foldl Oracle.FastW.addRow {}).toIndex = (Writer.addRows xxhash64 {} rows).toIndex := by
  obtain ⟨h1, h2, h3⟩ := fastW_toIndex_eq rows
  have h3' : (rows.foldl Oracle.FastW.addRow {}).toIndex.getCol =
      (Writer.addRows xxhash64 {} rows).toIndex.getCol := funext h3
  cases hf : (rows.foldl Oracle.FastW.addRow {}).toIndex
  cases hw : (Writer.addRows xxhash64 {} rows).toIndex
  rw [hf, hw] at h1 h2 h3'
  simp only at h1 h2 h3'
  rw [h1, h2, h3']

/-- sanity on a concrete dataset (a repeated pair, a shared column) -/
example : ([[([97], [49]), ([97], [49])], [([97], [50]), ([98], [49])]].foldl Oracle.FastW.addRow {}).toIndex.next = 2 := by
  rw [fastW_toIndex_eq_model]; rfl

end Updog.OracleFastW
