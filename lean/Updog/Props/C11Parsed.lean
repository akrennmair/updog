/-
C11 (parsed text) — closes two gaps of `C11Compose`:

1. `prepared_equals_oneshot` / `prepared_equals_oneshot_rows` assume `WFQ q`. Here: EVERY query the parser returns
   for a text is well-formed (`parsed_wf`), so the hypothesis disappears for statements prepared from text.
2. The error side. Statement execution is `stmtQuery` / `queryText` of `Model/Stmt.lean` (`fileStmt.query`,
   `fileConn.QueryContext`), which also report the queries handed to `Index.Execute`.
   * On EVERY index (any schema, any bitmaps, consistent or not) the prepared execution with arguments and the
     one-shot execution of the literal text have the same outcome: the same rows or both an error
     (`prepared_equals_oneshot_exec`).
   * If the query names a column the index does not have — in the expression or in the group-by list — both fail
     (`unknown_column_both_fail`).
   * With fewer arguments than the highest placeholder number the statement fails before anything is executed
     (`too_few_args_fails_before_execution`).
Helper lemmas: `Proofs/C11Parsed.lean`, `Proofs/C11Exec.lean`.
-/
import Updog.Props.C11Compose
import Updog.Proofs.C11Exec
namespace Updog.C11
open Updog

/-! ### 1. parsed text is well-formed -/

/-- **Every query `ParseQuery` returns is well-formed**: column and group-by names are identifiers (the lexer
emits nothing else as a `field` item), every AND/OR has an operand, every placeholder number is in `1..2^31-1`. -/
theorem parsed_wf (s : Bytes) (q : PQuery) (hp : parseQuery s = some q) : WFQ q := parseQuery_wf hp

/-- `prepared_equals_oneshot` for every accepted query TEXT: no well-formedness hypothesis. -/
theorem prepared_equals_oneshot_text (s : Bytes) (q : PQuery) (hp : parseQuery s = some q) (args : List Bytes)
    (hargs : maxPh q.expr ≤ args.length) :
    let b := bound q args
    bind q args = .ok b ∧ WFQ b ∧ maxPh b.expr = 0 ∧ (∀ a, subst a b.expr = b.expr) ∧
    ∃ q', parseQuery (fmtQuery b) = some q' ∧ q'.groupBy = q.groupBy ∧ maxPh q'.expr = 0 ∧
      ∀ r : Row, sat r (toExpr q'.expr) = sat r (toExpr b.expr) :=
  prepared_equals_oneshot q (parsed_wf s q hp) args hargs

/-- `prepared_equals_oneshot_rows` for every accepted query text. -/
theorem prepared_equals_oneshot_rows_text (s : Bytes) (q q' : PQuery) (hp : parseQuery s = some q)
    (args : List Bytes) (hp' : parseQuery (fmtQuery (bound q args)) = some q') (rows : List Row) :
    rows.filter (sat · (toExpr q'.expr)) = rows.filter (sat · (toExpr (subst args q.expr))) ∧
    specCount rows (toExpr q'.expr) = specCount rows (toExpr (subst args q.expr)) ∧
    (toQuery q').groupBy = q.groupBy :=
  prepared_equals_oneshot_rows q q' (parsed_wf s q hp) args hp' rows

/-- the one-shot text of a statement prepared from text is always accepted (no hypothesis on the arguments'
    bytes, none on the statement beyond having been parsed) -/
theorem oneshot_text_accepted (s : Bytes) (q : PQuery) (hp : parseQuery s = some q) (args : List Bytes) :
    ∃ q', parseQuery (fmtQuery (bound q args)) = some q' :=
  C10.format_accepted _ ⟨subst_wf args q.expr (parsed_wf s q hp).expr, (parsed_wf s q hp).fields⟩

/-! ### 2. execution: same outcome on every index -/

section
variable (H : Bytes → UInt64) (ix : Index)

/-- On every index, `Execute` of the parsed one-shot text returns what `Execute` of the bound statement returns —
    the same count and groups, or both an error. -/
theorem execute_oneshot_eq (q : PQuery) (hq : WFQ q) (args : List Bytes) :
    ∃ q', parseQuery (fmtQuery (bound q args)) = some q' ∧ maxPh q'.expr = 0 ∧ q'.groupBy = q.groupBy ∧
      execute H ix (toQuery q') = execute H ix (toQuery (bound q args)) := by
  have hb : WFQ (bound q args) := ⟨subst_wf args q.expr hq.expr, hq.fields⟩
  have h0 : maxPh (bound q args).expr = 0 := subst_no_placeholder args q.expr
  have hn : norm (rp (bound q args).expr) = norm (bound q args).expr := (norm_rp.1 _).1
  have h0' : maxPh (rp (bound q args).expr) = 0 := (maxPh_eq_of_norm_eq hn).trans h0
  refine ⟨rpQ (bound q args), parseQuery_fmtQuery _ hb, h0', rfl, ?_⟩
  have hw' : WFE (rp (bound q args).expr) := (parseQuery_wf (parseQuery_fmtQuery _ hb)).expr
  have he := evs_eq_of_norm_eq H ix [] (NE_of_WFE.1 _ hw') (NE_of_WFE.1 _ hb.expr) hn
  simp only [evs, subst_of_no_placeholder [] _ h0', subst_of_no_placeholder [] _ h0] at he
  simp only [execute, toQuery, rpQ, he]

/-- **Prepared = one-shot, at the level of the driver, on every index.** A statement prepared from any accepted
text and executed with at least as many arguments as its highest placeholder has the same outcome — the same
result rows or an error — as `QueryContext` on the literal text (with no arguments, or any surplus arguments).
Each of the two runs hands exactly one query to `Index.Execute`. -/
theorem prepared_equals_oneshot_exec (s : Bytes) (q : PQuery) (hp : parseQuery s = some q) (args : List Bytes)
    (hargs : maxPh q.expr ≤ args.length) (extra : List Bytes) :
    (stmtQuery H ix q args).1 = (queryText H ix (fmtQuery (bound q args)) extra).1 ∧
    (stmtQuery H ix q args).2.length = 1 ∧ (queryText H ix (fmtQuery (bound q args)) extra).2.length = 1 := by
  obtain ⟨q', hp', h0, hg, he⟩ := execute_oneshot_eq H ix q (parsed_wf s q hp) args
  have hb' : bind q' extra = .ok q' := by
    rw [bind_exact q' extra (by omega), subst_of_no_placeholder extra q'.expr h0]
  have hbq : bind q args = .ok (bound q args) := bind_exact q args hargs
  simp only [stmtQuery, queryText, hp', hbq, hb', he]
  cases execute H ix (toQuery (bound q args)) with
  | none => exact ⟨rfl, rfl, rfl⟩
  | some r => exact ⟨by simp only [hg]; rfl, rfl, rfl⟩

/-! ### 3. the error side -/

/-- **Unknown column: both fail.** If the statement tests or groups by a column the index's schema does not have,
the prepared execution (with enough arguments) and the one-shot execution of the literal text both return an
error — the same outcome, and neither is a panic. -/
theorem unknown_column_both_fail (s : Bytes) (q : PQuery) (hp : parseQuery s = some q) (args : List Bytes)
    (hargs : maxPh q.expr ≤ args.length) (c : Bytes)
    (hc : c ∈ (toExpr q.expr).columns ∨ c ∈ q.groupBy) (hno : ix.schema.col c = none) (extra : List Bytes) :
    (stmtQuery H ix q args).1 = .error ∧ (queryText H ix (fmtQuery (bound q args)) extra).1 = .error := by
  have h1 : (stmtQuery H ix q args).1 = .error := by
    have : execute H ix (toQuery (bound q args)) = none := by
      apply execute_unknown_col H ix _ c _ hno
      simpa [toQuery, bound, columns_subst] using hc
    have hbq : bind q args = .ok (bound q args) := bind_exact q args hargs
    simp only [stmtQuery, hbq, this]
  exact ⟨h1, by rw [← (prepared_equals_oneshot_exec H ix s q hp args hargs extra).1, h1]⟩

/-- **Too few arguments: an error before any execution.** With fewer arguments than the highest placeholder
number `fileStmt.query` returns an error and hands NOTHING to `Index.Execute`, whatever the index. -/
theorem too_few_args_fails_before_execution (q : PQuery) (args : List Bytes) (h : args.length < maxPh q.expr) :
    stmtQuery H ix q args = (.error, []) := by
  simp [stmtQuery, bind_too_few q args h]

/-- the same through `QueryContext` on a text; a rejected text fails before any execution as well -/
theorem too_few_args_text (s : Bytes) (args : List Bytes) :
    (parseQuery s = none → queryText H ix s args = (.error, [])) ∧
    (∀ q, parseQuery s = some q → args.length < maxPh q.expr → queryText H ix s args = (.error, [])) := by
  refine ⟨fun h => by simp [queryText, h], fun q hp h => ?_⟩
  simp [queryText, hp, too_few_args_fails_before_execution H ix q args h]

/-- conversely: whenever a query reached `Index.Execute`, the arguments covered every placeholder, the executed
    query is the bound one and no placeholder is left in it -/
theorem executed_is_bound (q : PQuery) (args : List Bytes) (x : Query) (hx : x ∈ (stmtQuery H ix q args).2) :
    maxPh q.expr ≤ args.length ∧ x = toQuery (bound q args) ∧ maxPh (bound q args).expr = 0 := by
  rcases Nat.lt_or_ge args.length (maxPh q.expr) with h | h
  · rw [too_few_args_fails_before_execution H ix q args h] at hx; cases hx
  · refine ⟨h, ?_, subst_no_placeholder args q.expr⟩
    simp only [stmtQuery, bind_exact q args h] at hx
    cases he : execute H ix (toQuery ⟨subst args q.expr, q.groupBy⟩) with
    | none => rw [he] at hx; simpa [bound] using hx
    | some r => rw [he] at hx; simpa [bound] using hx

/-- statement execution never panics and never hangs -/
theorem stmtQuery_never_panics (q : PQuery) (args : List Bytes) :
    (stmtQuery H ix q args).1 ≠ .panic ∧ (stmtQuery H ix q args).1 ≠ .hang := by
  rcases Nat.lt_or_ge args.length (maxPh q.expr) with h | h
  · rw [too_few_args_fails_before_execution H ix q args h]; simp
  · simp only [stmtQuery, bind_exact q args h]
    cases execute H ix (toQuery ⟨subst args q.expr, q.groupBy⟩) <;> simp

end

/-! ### non-vacuity -/

/-- the statement text `a = $2 & ^ ( b = "x" | c = $1 ) ; g` -/
def exText : Bytes := fmtQuery exStmt

example : exText = [97, 32, 61, 32, 36, 50, 32, 38, 32, 94, 32, 40, 32, 98, 32, 61, 32, 34, 120, 34, 32, 124, 32,
    99, 32, 61, 32, 36, 49, 32, 41, 32, 59, 32, 103] := by
  have h1 : natDigits 1 = [49] := by rw [natDigits_eq]; decide
  have h2 : natDigits 2 = [50] := by rw [natDigits_eq]; decide
  simp only [exText, exStmt, fmtQuery, fmtExpr, fmtAnd, fmtOr, h1, h2]
  decide

/-- the parser accepts it and returns `exStmt` -/
theorem exText_parses : parseQuery exText = some exStmt := by
  rw [exText, parseQuery_fmtQuery exStmt exStmt_ok.1]
  simp [rpQ, exStmt, rp, rpCh, rpItem, rpLeaf, mk1, mkOp]

/-- hypotheses of `prepared_equals_oneshot_text` for the concrete text and arguments (a quote, a newline, a
    non-ASCII byte; the empty value) -/
example : ∃ q', parseQuery (fmtQuery (bound exStmt exArgs)) = some q' ∧ q'.groupBy = [[103]] ∧
    maxPh q'.expr = 0 ∧ ∀ r : Row, sat r (toExpr q'.expr) = sat r (toExpr (bound exStmt exArgs).expr) :=
  (prepared_equals_oneshot_text exText exStmt exText_parses exArgs (by decide)).2.2.2.2

/-- a toy value index: the length of the encoded pair -/
def exH (b : Bytes) : UInt64 := b.length.toUInt64

/-- an index with the columns `a`, `b`, `c`, `g` (three rows) -/
def exIx : Index :=
  { schema := [([97], [([], 2)]), ([98], [([120], 3)]), ([99], [([34, 10, 200], 5)]), ([103], [([49], 3)])],
    next := 3, getCol := fun h => if h == 2 then some 0b011 else if h == 3 then some 0b110 else if h == 5 then some 0b100 else none }

/-- the same index without column `c` -/
def exIxNoC : Index := { exIx with schema := [([97], [([], 2)]), ([98], [([120], 3)]), ([103], [([49], 3)])] }

/-- success: prepared and one-shot return the same single group -/
example : (stmtQuery exH exIx exStmt exArgs).1 = (queryText exH exIx (fmtQuery (bound exStmt exArgs)) []).1 :=
  (prepared_equals_oneshot_exec exH exIx exText exStmt exText_parses exArgs (by decide) []).1

/-- … and it is a result, not an error: on `exIx` both runs succeed -/
example : ∃ r, execute exH exIx (toQuery (bound exStmt exArgs)) = some r ∧
    (stmtQuery exH exIx exStmt exArgs).1 = .ok (newRows r [[103]]) ∧
    (queryText exH exIx (fmtQuery (bound exStmt exArgs)) []).1 = .ok (newRows r [[103]]) := by
  have hb : bind exStmt exArgs = .ok (bound exStmt exArgs) := bind_exact _ _ (by decide)
  have hx : (execute exH exIx (toQuery (bound exStmt exArgs))).isSome = true := by
    decide
  obtain ⟨r, hr⟩ := Option.isSome_iff_exists.mp hx
  have h1 : (stmtQuery exH exIx exStmt exArgs).1 = .ok (newRows r [[103]]) := by
    simp only [stmtQuery, hb, hr]; rfl
  exact ⟨r, hr, h1, by
    rw [← (prepared_equals_oneshot_exec exH exIx exText exStmt exText_parses exArgs (by decide) []).1, h1]⟩

/-- error: the index has no column `c` (named by the placeholder leaf `c = $1`): both fail -/
example : (stmtQuery exH exIxNoC exStmt exArgs).1 = .error ∧
    (queryText exH exIxNoC (fmtQuery (bound exStmt exArgs)) []).1 = .error :=
  unknown_column_both_fail exH exIxNoC exText exStmt exText_parses exArgs (by decide) [99]
    (.inl (by decide)) (by decide) []

/-- error: one argument for a statement whose highest placeholder is `$2`: nothing is executed -/
example : queryText exH exIx exText [[49]] = (.error, []) :=
  (too_few_args_text exH exIx exText [[49]]).2 exStmt exText_parses (by decide)

end Updog.C11
