/-
C03 — result caches are transparent; two expressions with different meaning never share a cached result
(up to 64-bit hash collisions on the strings actually hashed).
Property theorems only; helper lemmas live in Updog/Proofs/{Key,Cache,Universe}.lean,
the model is Updog/Model/Cache.lean.
-/
import Updog.Proofs.Universe
import Updog.Proofs.ToyInstance
namespace Updog.C03

variable (H : Bytes → UInt64)

/-! ### 1. no sharing -/

/-- **No sharing.** If the hash does not collide on the byte strings it is fed while computing the two cache keys
(`preimages`: one string `tag ‖ be64 key₁ ‖ … ‖ be64 keyₙ` per node), equal cache keys mean the two expressions
are the same tree up to the value indexes `H (column ‖ 0 ‖ value)` of their leaves. -/
theorem key_injective (e e' : Expr) (hinj : InjOn H (preimages H e ++ preimages H e'))
    (hk : cacheKey H e = cacheKey H e') : sameShape H e e' :=
  skeleton_eq_of_key_eq _ hinj e e' (fun _ hx => List.mem_append_left _ hx)
    (fun _ hx => List.mem_append_right _ hx) hk

/-- The meaning of an expression over known columns is a function of its skeleton alone. -/
theorem meaning_of_skeleton (ix : Index) (e : Expr) (hc : ColsKnown ix e) :
    eval H ix e = some (evalSkel ix (e.skeleton H)) :=
  eval_eq_evalSkel H ix e hc

/-- **Equal key, equal meaning** for expressions over columns of the schema. -/
theorem key_separates_meaning (ix : Index) (e e' : Expr) (hinj : InjOn H (preimages H e ++ preimages H e'))
    (hc : ColsKnown ix e) (hc' : ColsKnown ix e') (hk : cacheKey H e = cacheKey H e') :
    eval H ix e = eval H ix e' := by
  rw [meaning_of_skeleton H ix e hc, meaning_of_skeleton H ix e' hc', key_injective H e e' hinj hk]

/-- The same when columns may be unknown (the expression is an error): it suffices that two leaves with the same
value index agree on whether their column exists. -/
theorem key_separates_meaning_general (ix : Index) (e e' : Expr)
    (hinj : InjOn H (preimages H e ++ preimages H e'))
    (hagree : KnownAgree H ix (e.pairs ++ e'.pairs)) (hk : cacheKey H e = cacheKey H e') :
    eval H ix e = eval H ix e' :=
  eval_eq_of_skeleton_eq ix _ hagree e e' (fun _ hp => List.mem_append_left _ hp)
    (fun _ hp => List.mem_append_right _ hp) (key_injective H e e' hinj hk)

/-- For a whole workload `es`: no collision on the strings in play yields the hypothesis `KeyOK` of the
transparency theorems, on the universe of all sub-expressions of `es`. -/
theorem keyOK_of_no_collision (ix : Index) (es : List Expr) (hinj : InjOn H (es.flatMap (preimages H)))
    (hagree : KnownAgree H ix (es.flatMap Expr.pairs)) : KeyOK H ix (subsOf es) :=
  keyOK_of_injOn H ix es hinj hagree

/-! ### 2. transparency -/

section
variable {H} {ix : Index} {U : List Expr} {σ : Type} {C : CacheImpl σ}

/-- **Transparency.** For every cache implementation satisfying the contract `CacheLaws`, from every sound cache
state, the cached evaluation of an expression of the universe returns exactly what the cache-free evaluation
returns (bitmap or error), and leaves a sound cache state. -/
theorem cache_transparent (L : CacheLaws C) (hU : SubClosed U) (hkey : KeyOK H ix U) (s : σ)
    (hs : Sound H ix U L s) (e : Expr) (he : e ∈ U) :
    (evalC H C ix s e).2 = eval H ix e ∧ Sound H ix U L (evalC H C ix s e).1 :=
  evalC_sound (putOK_of_keyOK hkey) hU e he s hs

/-- The same for `Execute` (group-by resolution, count, groups). -/
theorem execute_transparent (L : CacheLaws C) (hU : SubClosed U) (hkey : KeyOK H ix U) (s : σ)
    (hs : Sound H ix U L s) (q : Query) (hq : q.expr ∈ U) :
    (executeC H C ix s q).2 = execute H ix q ∧ Sound H ix U L (executeC H C ix s q).1 :=
  executeC_sound (putOK_of_keyOK hkey) hU q hq s hs

/-- **History version.** Any list of queries executed one after the other on one cache, starting from a cache that
holds nothing: every answer is the cache-free answer. -/
theorem cache_transparent_history (L : CacheLaws C) (hU : SubClosed U) (hkey : KeyOK H ix U) (s0 : σ)
    (h0 : EmptyState L s0) (qs : List Query) (hqs : ∀ q ∈ qs, q.expr ∈ U) :
    (executeAllC H C ix s0 qs).2 = qs.map (fun q => execute H ix q) :=
  (executeAllC_sound (putOK_of_keyOK hkey) hU qs hqs s0 (h0.sound H ix U L)).1

end

/-- `nullCache` satisfies the contract. -/
def nullCache_contract : CacheLaws nullCacheImpl := nullCacheLaws

/-- `LRUCache` satisfies the contract for every size function; the capacity (`max`), the per-item overhead and the
statistics are part of the state and arbitrary — in particular capacity 0. -/
def lruCache_contract (sz : Nat → Nat) : CacheLaws (lruCacheImpl sz) := lruCacheLaws sz

theorem lru_empty (sz : Nat → Nat) (c : Lru) (h : c.items = []) : EmptyState (lruCache_contract sz) c :=
  lru_emptyState sz c h

/-- **End to end, LRU.** Any history of queries on a fresh `LRUCache` of any capacity: if the hash has no collision on
the strings hashed for the cache keys of the workload, and leaves with equal value index agree on the existence of
their column, all answers are the cache-free answers. -/
theorem lru_transparent_history (ix : Index) (sz : Nat → Nat) (c0 : Lru) (h0 : c0.items = [])
    (qs : List Query) (hinj : InjOn H ((qs.map (·.expr)).flatMap (preimages H)))
    (hagree : KnownAgree H ix ((qs.map (·.expr)).flatMap Expr.pairs)) :
    (executeAllC H (lruCacheImpl sz) ix c0 qs).2 = qs.map (fun q => execute H ix q) :=
  cache_transparent_history (lruCache_contract sz) (subsOf_closed _)
    (keyOK_of_no_collision H ix _ hinj hagree) c0 (lru_empty sz c0 h0) qs
    (fun q hq => subsOf_mem _ q.expr (List.mem_map.mpr ⟨q, hq, rfl⟩))

/-- **End to end, null cache** (no hypothesis on the hash is needed: nothing is ever answered from it). -/
theorem null_transparent_history (ix : Index) (qs : List Query) :
    (executeAllC H nullCacheImpl ix () qs).2 = qs.map (fun q => execute H ix q) := by
  have hall : ∀ s, Sound H ix (subsOf (qs.map (·.expr))) nullCache_contract s := fun _ _ _ h => h.elim
  exact (executeAllC_sound (L := nullCache_contract) (fun _ _ _ _ _ _ => hall _) (subsOf_closed _) qs
    (fun q hq => subsOf_mem _ q.expr (List.mem_map.mpr ⟨q, hq, rfl⟩)) () (hall _)).1

/-! ### 3. the store is not touched -/

/-- **Store unchanged.** True by construction of the model rather than by proof: `evalC` / `executeC` take the index
`ix` as a read-only argument and return only a new cache state and an answer (`σ × Option _`), so there is no way for
them to alter the index (in the Go code `eval` only calls `schema.Columns[..]`, `values.GetCol` and the cache, under
`RLock`). What can be stated is determinism: the answer and the new cache state are a function of
(cache state, index, expression) alone — evaluating twice from the same state gives the same result. -/
theorem store_unchanged {σ : Type} (C : CacheImpl σ) (ix : Index) (s s' : σ) (e : Expr) (h : s = s') :
    evalC H C ix s e = evalC H C ix s' e := by rw [h]

/-- Evaluating the same expression again on the cache left by the first evaluation gives the same answer. -/
theorem evalC_repeat {ix : Index} {U : List Expr} {σ : Type} {C : CacheImpl σ} (L : CacheLaws C)
    (hU : SubClosed U) (hkey : KeyOK H ix U) (s : σ) (hs : Sound H ix U L s) (e : Expr) (he : e ∈ U) :
    (evalC H C ix (evalC H C ix s e).1 e).2 = (evalC H C ix s e).2 := by
  have h1 := cache_transparent L hU hkey s hs e he
  have h2 := cache_transparent L hU hkey _ h1.2 e he
  rw [h1.1, h2.1]

/-! ### non-vacuity -/

section Examples
open Updog.Toy

/-- `key_injective`, non-trivially: two *different* expressions (column `a` value `\0b`, column `a\0` value `b`) have the
same cache key without any hash collision — they have the same value index because `column ‖ 0 ‖ value` is ambiguous —
and the theorem gives exactly what is true of them: same shape. -/
example : ea ≠ eb ∧ cacheKey toyH ea = cacheKey toyH eb ∧ sameShape toyH ea eb :=
  ⟨by simp [ea, eb], by decide +kernel, key_injective toyH ea eb (by decide +kernel) (by decide +kernel)⟩

/-- `key_separates_meaning` on an index that has both columns. -/
example : eval toyH ixAB ea = eval toyH ixAB eb :=
  key_separates_meaning toyH ixAB ea eb (by decide +kernel) (by decide +kernel) (by decide +kernel)
    (by decide +kernel)

/-- `key_separates_meaning_general` with an unknown column (`c`): both sides are the same error. -/
example : eval toyH (tix toyH) (.not (.eq [99] [49])) = eval toyH (tix toyH) (.not (.eq [99] [49])) :=
  key_separates_meaning_general toyH (tix toyH) _ _ (by decide +kernel) (by decide +kernel) rfl

/-- the hypotheses of `cache_transparent` / `cache_transparent_history`, concretely: universe = sub-expressions of
`e1 = (a=1 AND b=1)` and `e2 = (a=1 OR NOT b=1)`, which share `a=1` and `b=1`; three queries; LRU of capacity 0. -/
example : (executeAllC toyH (lruCacheImpl sz) (tix toyH) (lru 0) qs).2 = qs.map (fun q => execute toyH (tix toyH) q) :=
  cache_transparent_history (lruCache_contract sz) (subsOf_closed es)
    (keyOK_of_no_collision toyH (tix toyH) es injOn_es knownAgree_es) (lru 0)
    (lru_empty sz _ rfl) qs (by
      intro q hq
      simp only [qs, List.mem_cons, List.not_mem_nil, or_false] at hq
      rcases hq with rfl | rfl | rfl <;> exact subsOf_mem _ _ (by simp [es]))

/-- the same through the end-to-end theorem, LRU of large capacity … -/
example : (executeAllC toyH (lruCacheImpl sz) (tix toyH) (lru 100000) qs).2 =
    qs.map (fun q => execute toyH (tix toyH) q) :=
  lru_transparent_history toyH (tix toyH) sz (lru 100000) rfl qs injOn_es knownAgree_es

/-- … in which the cache really is in play: 5 entries are stored, 3 lookups are hits (the shared `a=1`, `b=1`, and the
repeated `e1`); with capacity 0 nothing is ever kept and nothing hits. -/
example :
    let c := (executeAllC toyH (lruCacheImpl sz) (tix toyH) (lru 100000) qs).1
    let c0 := (executeAllC toyH (lruCacheImpl sz) (tix toyH) (lru 0) qs).1
    c.items.length = 5 ∧ c.hits = 3 ∧ c0.items.length = 0 ∧ c0.hits = 0 ∧ c0.puts = 10 := by
  rw [lruCacheImpl_eq_lruS]
  decide +kernel

/-- the answers are not trivial: `e1` is the bitmap {0}, `e2` is {0, 2} -/
example : eval toyH (tix toyH) e1 = some 1 ∧ eval toyH (tix toyH) e2 = some 5 := by decide +kernel

/-- the single-expression statement, from a non-empty sound state (the cache left by `e1`) -/
example : (evalC toyH (lruCacheImpl sz) (tix toyH) (evalC toyH (lruCacheImpl sz) (tix toyH) (lru 100000) e1).1 e2).2 =
    eval toyH (tix toyH) e2 := by
  have hU := subsOf_closed es
  have hkey := keyOK_of_no_collision toyH (tix toyH) es injOn_es knownAgree_es
  have h1 := cache_transparent (lruCache_contract sz) hU hkey (lru 100000)
    ((lru_empty sz _ rfl).sound toyH (tix toyH) _ _) e1 (subsOf_mem _ _ (by simp [es]))
  exact (cache_transparent (lruCache_contract sz) hU hkey _ h1.2 e2 (subsOf_mem _ _ (by simp [es]))).1

/-- null cache -/
example : (executeAllC toyH nullCacheImpl (tix toyH) () qs).2 = qs.map (fun q => execute toyH (tix toyH) q) :=
  null_transparent_history toyH (tix toyH) qs

/-- The collision hypothesis cannot be dropped: with a hash under which all cache keys collide, the LRU cache answers the
second operand of `e1` with the cached bitmap of the first, and the result is wrong ({0, 2} instead of {0}). -/
example : (evalC badH (lruCacheImpl sz) (tix badH) (lru 100000) e1).2 = some 5 ∧ eval badH (tix badH) e1 = some 1 := by
  rw [lruCacheImpl_eq_lruS]
  decide +kernel

end Examples

end Updog.C03
