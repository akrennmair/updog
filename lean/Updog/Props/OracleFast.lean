/-
OracleFast — the fast helper functions the compiled oracle answers queries with (`Updog/Model/FastBits.lean`:
byte-table word count, divide-and-conquer population count of a big `Nat`, divide-and-conquer bit set from row ids,
`Execute` with these and with `r = 0` as the emptiness test) are total and equal to the model's definitions
(`popcount`, `setBit`, `execute` of `Updog/Model/Index.lean`). No hypotheses: the equalities hold for every input.
-/
import Updog.Proofs.FastBits
namespace Updog.OracleFast

/-- the set bits of `n` are those from position `k` up plus those below `k` -/
theorem popcount_split (n k : Nat) : popcount n = popcount (n >>> k) + popcount (n &&& (2 ^ k - 1)) :=
  Updog.popcount_split n k

/-- the word count (eight byte-table lookups) is the model's `popcount` of the word -/
theorem popcount64_eq (x : UInt64) : popcount64 x = popcount x.toNat := Updog.popcount64_eq x

/-- the divide-and-conquer population count is the model's `popcount`, for every `n` (the fuel always suffices) -/
theorem popcountFast_eq (n : Nat) : popcountFast n = popcount n := Updog.popcountFast_eq n

/-- `popcountFast` satisfies the recursion equation that its fuelled definition implements -/
theorem popcountFast_unfold (n : Nat) :
    popcountFast n =
      if n < 18446744073709551616 then popcount64 n.toUInt64
      else popcountFast (n >>> ((Nat.log2 n + 1) / 2)) + popcountFast (n &&& ((1 <<< ((Nat.log2 n + 1) / 2)) - 1)) :=
  Updog.popcountFast_unfold n

/-- the fast count is zero exactly on the empty bitmap -/
theorem popcountFast_eq_zero_iff (n : Nat) : popcountFast n = 0 ↔ n = 0 := by
  rw [Updog.popcountFast_eq]; exact popcount_eq_zero_iff n

/-- the divide-and-conquer bit set is the fold of `setBit` over the ids -/
theorem natOfIds_eq (ids : List Nat) : natOfIds ids = ids.foldl setBit 0 := Updog.natOfIds_eq ids

/-- bit `i` is set exactly if `i` is one of the ids (any order, duplicates allowed) -/
theorem testBit_natOfIds (ids : List Nat) (i : Nat) : (natOfIds ids).testBit i = decide (i ∈ ids) :=
  Updog.testBit_natOfIds ids i

/-- the array entry point used by the oracle (`natOfIdsRange a 0 a.size`) -/
theorem natOfIdsArray_eq (ids : Array Nat) : natOfIdsRange ids 0 ids.size = ids.toList.foldl setBit 0 :=
  Updog.natOfIdsArray_eq ids

theorem testBit_natOfIdsArray (ids : Array Nat) (i : Nat) :
    (natOfIdsRange ids 0 ids.size).testBit i = decide (i ∈ ids) := Updog.testBit_natOfIdsArray ids i

/-- any sub-range: bit `i` is set exactly if some `ids[j]`, `lo ≤ j < hi`, is `i` -/
theorem testBit_natOfIdsRange (ids : Array Nat) (lo hi i : Nat) :
    (natOfIdsRange ids lo hi).testBit i = true ↔ ∃ j, lo ≤ j ∧ j < hi ∧ ids[j]! = i :=
  Updog.testBit_natOfIdsRange ids lo hi i

/-- one refinement step with the test `r = 0` is the model's step with the test `popcount r = 0` -/
theorem refineFast_eq (ix : Index) (gbf : GBField) (rgs : List (Fields × Nat)) :
    refineFast ix gbf rgs = refine ix gbf rgs := Updog.refineFast_eq ix gbf rgs

/-- the oracle's `Execute` is the model's `execute`, for every hash, index and query -/
theorem executeFast_eq (H : Bytes → UInt64) (ix : Index) (q : Query) : executeFast H ix q = execute H ix q :=
  Updog.executeFast_eq_stale H ix q []

/-- … whatever stale group-by fields the query object carries -/
theorem executeFast_eq_stale (H : Bytes → UInt64) (ix : Index) (q : Query) (stale : List GBField) :
    executeFast H ix q = execute H ix q stale := Updog.executeFast_eq_stale H ix q stale

/-! ### the functions compute (evaluated by the kernel, not through the theorems) -/

/-- two levels of splitting (200 → 100 → 50 bits), then four word counts -/
example : popcountFast (2 ^ 200 - 1) = 200 := by decide +kernel
example : popcountFast (2 ^ 200 + 2 ^ 64 + 5) = 4 := by decide +kernel
example : popcountFast 0 = 0 ∧ popcountFast (2 ^ 64 - 1) = 64 ∧ popcountFast (2 ^ 64) = 1 := by decide +kernel
example : popcount64 0xf0f0f0f0f0f0f0f1 = 33 := by decide +kernel
/-- unsorted ids with a duplicate -/
example : natOfIds [3, 0, 5, 3] = 41 := by decide +kernel
example : natOfIdsRange #[3, 0, 5, 3, 70] 1 3 = 33 := by decide +kernel
example : natOfIds [70, 1] = 2 ^ 70 + 2 := by decide +kernel

/-- rows `a=1`, `a=2`, `a=1`; the schema lists the values unsorted -/
def exIx : Index :=
  { schema := [([97], [([50], 2), ([49], 1)])], next := 3,
    getCol := fun h => if h = 1 then some 5 else if h = 2 then some 2 else none }
def exH (b : Bytes) : UInt64 := if b = [97, 0, 49] then 1 else if b = [97, 0, 50] then 2 else 0

theorem exFields : populateGroupBy exIx.schema [[97]] = some [⟨[97], [([49], 1), ([50], 2)]⟩] := by
  simp [populateGroupBy, exIx, Schema.col, sortVals, List.mergeSort, List.MergeSort.Internal.splitInTwo,
    bytesLe, bytesLt]

theorem exEval : eval exH exIx (.not (.eq [97] [51])) = some 7 ∧ eval exH exIx (.not (.eq [97] [50])) = some 5 := by
  decide +kernel

/-- `NOT a=3 GROUP BY a`: both groups -/
example : executeFast exH exIx ⟨.not (.eq [97] [51]), [[97]]⟩
    = some ⟨3, [([([97], [49])], 2), ([([97], [50])], 1)]⟩ := by
  simp only [executeFast, exFields, exEval.1]
  decide +kernel

/-- `NOT a=2 GROUP BY a`: the empty group is pruned by the `r = 0` test -/
example : executeFast exH exIx ⟨.not (.eq [97] [50]), [[97]]⟩ = some ⟨2, [([([97], [49])], 2)]⟩ := by
  simp only [executeFast, exFields, exEval.2]
  decide +kernel

/-- and so the model's `execute` gives the same answers -/
example : execute exH exIx ⟨.not (.eq [97] [51]), [[97]]⟩
    = some ⟨3, [([([97], [49])], 2), ([([97], [50])], 1)]⟩ := by
  rw [← executeFast_eq]
  simp only [executeFast, exFields, exEval.1]
  decide +kernel

end Updog.OracleFast
