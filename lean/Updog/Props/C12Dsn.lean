/-
C12/C17 (extension): the DSN options select exactly {preload, LRU cache + size}, an invalid size is an error, and the
connection-cache key determines the configuration (two DSNs sharing a cached connection asked for the same options).
-/
import Updog.Model.Dsn
namespace Updog.C12

/-- what `openFile` selects from the preload flag and, when the cache is on, the text `t` of its size -/
def configOf (p : Bool) (t : Option Bytes) : FileConfig :=
  ⟨p, t.bind parseUint64,
    (if p then sPreload else []) ++ match t with | none => [] | some s => sLru ++ (sLruSize ++ s)⟩

/-- the size text a DSN hands to `configOf` -/
def sizeText (o : DsnOpts) : Option Bytes :=
  if o.lrucache == some bTrue then some (o.lrucachesize.getD []) else none

/-- `dsnConfig` in one equation: rejected exactly for a cache without a valid size, otherwise `configOf` -/
theorem dsnConfig_eq (o : DsnOpts) :
    dsnConfig o =
      if (o.lrucache == some bTrue) = true ∧ parseUint64 (o.lrucachesize.getD []) = none then .error
      else .ok (configOf (o.preload == some bTrue) (sizeText o)) := by
  unfold dsnConfig sizeText configOf
  cases o.lrucache == some bTrue with
  | false => simp only [Bool.false_eq_true, ite_false, false_and, Option.bind_none, List.append_nil]
  | true =>
    simp only [ite_true, true_and, Option.bind_some]
    cases parseUint64 (o.lrucachesize.getD []) with
    | none => rfl
    | some n => simp only [List.append_assoc]; rfl

theorem dsnConfig_ok {o : DsnOpts} {c : FileConfig} (h : dsnConfig o = .ok c) :
    c = configOf (o.preload == some bTrue) (sizeText o) ∧
      ((o.lrucache == some bTrue) = true → parseUint64 (o.lrucachesize.getD []) ≠ none) := by
  rw [dsnConfig_eq] at h
  split at h
  · cases h
  · next hn => exact ⟨(Outcome.ok.inj h).symm, fun hl hp => hn ⟨hl, hp⟩⟩

/-- preload is on exactly for `preload=true`; the cache is on exactly for `lrucache=true` with a valid size -/
theorem dsn_options (o : DsnOpts) (c : FileConfig) (h : dsnConfig o = .ok c) :
    c.preload = (o.preload == some bTrue) ∧
    (c.cacheSize.isSome = (o.lrucache == some bTrue)) ∧
    (∀ n, c.cacheSize = some n → parseUint64 (o.lrucachesize.getD []) = some n) := by
  obtain ⟨rfl, hv⟩ := dsnConfig_ok h
  refine ⟨rfl, ?_⟩
  unfold configOf sizeText
  cases hl : o.lrucache == some bTrue with
  | false => exact ⟨rfl, fun n hn => nomatch hn⟩
  | true =>
    simp only [ite_true, Option.bind_some]
    exact ⟨Option.isSome_iff_ne_none.mpr (hv hl), fun n hn => hn⟩

/-- `lrucache=true` without a valid decimal size is rejected -/
theorem dsn_invalid_size (o : DsnOpts) (hl : o.lrucache = some bTrue) (hs : parseUint64 (o.lrucachesize.getD []) = none) :
    dsnConfig o = .error := by
  rw [dsnConfig_eq, if_pos ⟨by rw [hl]; rfl, hs⟩]

theorem dsn_never_panics (o : DsnOpts) : dsnConfig o ≠ .panic ∧ dsnConfig o ≠ .hang := by
  rw [dsnConfig_eq]
  split <;> exact ⟨nofun, nofun⟩

theorem digitsVal_inj_eq (s : Bytes) : parseUint64 s = parseUint64 s := rfl

/-- The key text is decoded in two stages. Its byte 1 is `p` (112) exactly when it starts with `;preload=true`: what
    follows that prefix is empty or starts with `;l`. After the prefix is cancelled, the rest is empty or
    `;lrucache=true;lrucachesize=` followed by the size text. -/
theorem configOf_inj {p₁ p₂ : Bool} {t₁ t₂ : Option Bytes}
    (hk : (configOf p₁ t₁).keyOpts = (configOf p₂ t₂).keyOpts) : p₁ = p₂ ∧ t₁ = t₂ := by
  unfold configOf at hk
  simp only at hk
  have hrest : ∀ t : Option Bytes,
      (match t with | none => ([] : Bytes) | some s => sLru ++ (sLruSize ++ s))[1]? ≠ some 112 := by
    intro t; cases t with
    | none => exact nofun
    | some s => exact fun h => absurd (Option.some.inj h) (by decide)
  have hp : p₁ = p₂ := by
    have h1 := congrArg (·[1]?) hk
    cases p₁ <;> cases p₂
    · rfl
    · exact absurd h1 (hrest t₁)
    · exact absurd h1.symm (hrest t₂)
    · rfl
  subst hp
  refine ⟨rfl, ?_⟩
  have hr := List.append_cancel_left hk
  cases t₁ <;> cases t₂
  · rfl
  · exact nomatch hr
  · exact nomatch hr
  · rw [List.append_cancel_left (List.append_cancel_left hr)]

/-- on accepted DSNs the key text determines the whole configuration -/
theorem dsnConfig_inj {o₁ o₂ : DsnOpts} {c₁ c₂ : FileConfig}
    (h₁ : dsnConfig o₁ = .ok c₁) (h₂ : dsnConfig o₂ = .ok c₂) (hk : c₁.keyOpts = c₂.keyOpts) : c₁ = c₂ := by
  obtain ⟨rfl, _⟩ := dsnConfig_ok h₁
  obtain ⟨rfl, _⟩ := dsnConfig_ok h₂
  obtain ⟨hp, ht⟩ := configOf_inj hk
  rw [hp, ht]

/-- the cache key determines the configuration: DSNs that share a cached connection selected the same preload flag
    and the same cache size -/
theorem key_determines_config (o₁ o₂ : DsnOpts) (c₁ c₂ : FileConfig)
    (h₁ : dsnConfig o₁ = .ok c₁) (h₂ : dsnConfig o₂ = .ok c₂) (hk : c₁.keyOpts = c₂.keyOpts) :
    c₁.preload = c₂.preload ∧ c₁.cacheSize = c₂.cacheSize := by
  rw [dsnConfig_inj h₁ h₂ hk]
  exact ⟨rfl, rfl⟩

example : dsnConfig { preload := some bTrue, lrucache := some bTrue, lrucachesize := some [52, 50] }
    = .ok ⟨true, some 42, sPreload ++ sLru ++ sLruSize ++ [52, 50]⟩ := rfl
example : dsnConfig { lrucache := some bTrue } = .error := by decide
example : dsnConfig { preload := some [84, 82, 85, 69] } = .ok ⟨false, none, []⟩ := by decide

end Updog.C12
