/-
C01 — total count = number of rows satisfying the expression.
Property theorems only; helper lemmas live in Updog/Proofs.
-/
import Updog.Proofs.Eval
namespace Updog.C01

variable (H : Bytes → UInt64)

/-- Main theorem: for every dataset, every well-formed expression over columns of the data, and every
hash function without a collision between a data pair and a *different* tested pair, `Execute`
on the flushed-and-opened index returns exactly the number of rows satisfying the expression. -/
theorem count_correct (rows : List Row) (e : Expr)
    (hcols : ∀ c ∈ e.columns, c ∈ columnsOf rows) (hwf : e.arityPos = true)
    (hinj : NoCollision H rows e.pairs) :
    execute H (Writer.addRows H {} rows).toIndex ⟨e, []⟩ = some ⟨specCount rows e, []⟩ := by
  obtain ⟨b, hb, hbits⟩ := eval_correct H rows e hcols hwf hinj
  simp [execute, populateGroupBy, hb, groupBy, specCount, popcount_eq_filter_length b rows (sat · e) hbits]

mutual
theorem eval_unknown (rows : List Row) (e : Expr) (c : Bytes) (hc : c ∈ e.columns)
    (hno : c ∉ columnsOf rows) : eval H (Writer.addRows H {} rows).toIndex e = none := by
  match e with
  | .eq c' v =>
    simp only [Expr.columns, List.mem_singleton] at hc
    subst hc
    exact eval_unknown_column H rows c v hno
  | .not e' =>
    simp only [eval, eval_unknown rows e' c hc hno, Option.map_none]
  | .and es | .or es =>
    simp only [eval, evalList_unknown rows es c hc hno, Option.map_none]
theorem evalList_unknown (rows : List Row) (es : List Expr) (c : Bytes) (hc : c ∈ Expr.columnsList es)
    (hno : c ∉ columnsOf rows) : evalList H (Writer.addRows H {} rows).toIndex es = none := by
  match es with
  | [] => simp [Expr.columnsList] at hc
  | e :: es' =>
    simp only [Expr.columnsList, List.mem_append] at hc
    simp only [evalList]
    cases hc with
    | inl h => simp [eval_unknown rows e c h hno]
    | inr h =>
      cases eval H (Writer.addRows H {} rows).toIndex e with
      | none => rfl
      | some b => simp [evalList_unknown rows es' c h hno]
end

/-- A query that tests a column occurring in no row returns an error and no result. -/
theorem unknown_column_errors (rows : List Row) (q : Query) (c : Bytes) (hc : c ∈ q.expr.columns)
    (hno : c ∉ columnsOf rows) : execute H (Writer.addRows H {} rows).toIndex q = none := by
  simp only [execute, eval_unknown H rows q.expr c hc hno]
  cases populateGroupBy (Writer.addRows H {} rows).toIndex.schema q.groupBy <;> rfl

/-- the string hashed into the value index determines the pair when the column names have no NUL byte -/
theorem encodePair_injective_of_no_nul (c c' v v' : Bytes) (hc : (0 : UInt8) ∉ c) (hc' : (0 : UInt8) ∉ c')
    (h : encodePair c v = encodePair c' v') : c = c' ∧ v = v' := by
  unfold encodePair at h
  induction c generalizing c' with
  | nil =>
    cases c' with
    | nil => simpa using h
    | cons x xs =>
      simp at h
      exact absurd h.1.symm (by intro e; exact hc' (by simp [e]))
  | cons a as ih =>
    cases c' with
    | nil =>
      simp at h
      exact absurd h.1 (by intro e; exact hc (by simp [e]))
    | cons x xs =>
      simp only [List.cons_append, List.cons.injEq] at h
      have := ih xs (by intro m; exact hc (List.mem_cons_of_mem _ m))
        (by intro m; exact hc' (List.mem_cons_of_mem _ m)) h.2
      exact ⟨by rw [h.1, this.1], this.2⟩

/-- the known finding D15, for every hash function: with a NUL byte in a column name two different
(column,value) pairs get the same value index -/
theorem nul_column_collides : ∃ c v c' v' : Bytes, (c, v) ≠ (c', v') ∧
    ∀ H : Bytes → UInt64, H (encodePair c v) = H (encodePair c' v') :=
  ⟨[97, 0, 98], [99], [97], [98, 0, 99], by decide, fun _ => rfl⟩

/-- a toy hash for the non-vacuity examples (base-256 value of the bytes) -/
def toyH (b : Bytes) : UInt64 := (beDecode b).toUInt64

def exRows : List Row := [[([97], [49])], [([97], [50]), ([98], [50])], []]
def exExpr : Expr := .or [.eq [97] [49], .not (.eq [98] [50])]

theorem ex_noCollision : NoCollision toyH exRows exExpr.pairs := by unfold NoCollision; decide

/-- non-vacuity: a concrete dataset and expression meet all hypotheses of `count_correct` -/
example : (∀ c ∈ exExpr.columns, c ∈ columnsOf exRows) ∧ exExpr.arityPos = true ∧
    NoCollision toyH exRows exExpr.pairs :=
  ⟨by decide, by decide, ex_noCollision⟩

example : execute toyH (Writer.addRows toyH {} exRows).toIndex ⟨exExpr, []⟩ = some ⟨2, []⟩ := by
  rw [count_correct toyH exRows exExpr (by decide) (by decide) ex_noCollision]
  decide

end Updog.C01
