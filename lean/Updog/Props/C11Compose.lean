/-
C11 (composition) — executing a prepared statement with arguments selects exactly the rows that the
one-shot query with the literal values in place of the placeholders selects.
Composition of `C11.bind_exact` / `C11.subst_no_placeholder` with `C10.roundtrip` and `C10.norm_sound`.
-/
import Updog.Props.C10
import Updog.Props.C11
namespace Updog.C11
open Updog

/-! ### helper lemmas: binding a tree without placeholders, well-formedness of a bound tree -/

mutual
theorem subst_of_no_placeholder (a : List Bytes) (e : PExpr) (h : maxPh e = 0) : subst a e = e := by
  match e with
  | .eq c v ph =>
    simp only [maxPh] at h
    subst h
    simp [subst]
  | .not e' => simp [subst, subst_of_no_placeholder a e' (by simpa [maxPh] using h)]
  | .and es => simp [subst, substList_of_no_placeholder a es (by simpa [maxPh] using h)]
  | .or es => simp [subst, substList_of_no_placeholder a es (by simpa [maxPh] using h)]
theorem substList_of_no_placeholder (a : List Bytes) (es : List PExpr) (h : maxPhList es = 0) :
    substList a es = es := by
  match es with
  | [] => rfl
  | e :: es' =>
    simp only [maxPhList] at h
    simp [substList, subst_of_no_placeholder a e (by omega), substList_of_no_placeholder a es' (by omega)]
end

theorem substList_ne_nil (args : List Bytes) (es : List PExpr) (h : es ≠ []) : substList args es ≠ [] := by
  cases es with
  | nil => exact absurd rfl h
  | cons e es' => simp [substList]

mutual
/-- a bound tree is again well-formed: the argument values may be ANY bytes (quotes, newlines,
non-ASCII, empty), `WFE` puts no condition on literal values -/
theorem subst_wf (args : List Bytes) (e : PExpr) (h : WFE e) : WFE (subst args e) := by
  match e with
  | .eq c v ph =>
    simp only [WFE] at h
    simp only [subst]
    split <;> exact ⟨h.1, by omega⟩
  | .not e' =>
    simp only [WFE] at h
    simpa [subst, WFE] using subst_wf args e' h
  | .and es =>
    simp only [WFE] at h
    simp only [subst, WFE]
    exact ⟨substList_ne_nil args es h.1, substList_wf args es h.2⟩
  | .or es =>
    simp only [WFE] at h
    simp only [subst, WFE]
    exact ⟨substList_ne_nil args es h.1, substList_wf args es h.2⟩
theorem substList_wf (args : List Bytes) (es : List PExpr) (h : WFL es) : WFL (substList args es) := by
  match es with
  | [] => simp [substList, WFL]
  | e :: es' =>
    simp only [WFL] at h
    simp only [substList, WFL]
    exact ⟨subst_wf args e h.1, substList_wf args es' h.2⟩
end

/-! ### main theorems -/

/-- the bound query: the statement's tree with every `$n` replaced by the n-th argument -/
def bound (q : PQuery) (args : List Bytes) : PQuery := ⟨subst args q.expr, q.groupBy⟩

theorem bound_wf (q : PQuery) (hq : WFQ q) (args : List Bytes) (hargs : maxPh q.expr ≤ args.length) :
    bind q args = .ok (bound q args) ∧ WFQ (bound q args) ∧ maxPh (bound q args).expr = 0 ∧
    ∀ a, subst a (bound q args).expr = (bound q args).expr :=
  ⟨bind_exact q args hargs, ⟨subst_wf args q.expr hq.expr, hq.fields⟩, subst_no_placeholder args q.expr,
    fun a => subst_of_no_placeholder a _ (subst_no_placeholder args q.expr)⟩

/-- **Prepared = one-shot.** Let `q` be a well-formed prepared statement and `args` at least as many
arguments as its highest placeholder number (argument values: arbitrary bytes). Let `b` be the bound query.
The one-shot query text with the literal values is `fmtQuery b`. It is accepted by the parser; the parsed
one-shot query `q'` has the statement's group-by list, no placeholder, and for EVERY row it is satisfied iff
the bound prepared statement is: both executions select exactly the same rows. -/
theorem prepared_equals_oneshot (q : PQuery) (hq : WFQ q) (args : List Bytes)
    (hargs : maxPh q.expr ≤ args.length) :
    let b := bound q args
    bind q args = .ok b ∧ WFQ b ∧ maxPh b.expr = 0 ∧ (∀ a, subst a b.expr = b.expr) ∧
    ∃ q', parseQuery (fmtQuery b) = some q' ∧ q'.groupBy = q.groupBy ∧ maxPh q'.expr = 0 ∧
      ∀ r : Row, sat r (toExpr q'.expr) = sat r (toExpr b.expr) := by
  intro b
  obtain ⟨hb1, hb2, hb3, hb4⟩ := bound_wf q hq args hargs
  refine ⟨hb1, hb2, hb3, hb4, ?_⟩
  obtain ⟨q', hp, hn, hg⟩ := C10.roundtrip b hb2
  obtain ⟨hm, hs⟩ := C10.norm_sound q'.expr b.expr hn
  have hm' : maxPh q'.expr = 0 := by rw [hm]; exact hb3
  refine ⟨q', hp, hg, hm', ?_⟩
  intro r
  have := hs [] r
  rwa [subst_of_no_placeholder [] q'.expr hm', subst_of_no_placeholder [] b.expr hb3] at this

/-- Row-set form: on every dataset, the rows selected by the parsed one-shot text are the rows selected by the
prepared statement bound to the arguments; the specification's count agrees. -/
theorem prepared_equals_oneshot_rows (q q' : PQuery) (hq : WFQ q) (args : List Bytes)
    (hp : parseQuery (fmtQuery (bound q args)) = some q') (rows : List Row) :
    rows.filter (sat · (toExpr q'.expr)) = rows.filter (sat · (toExpr (subst args q.expr))) ∧
    specCount rows (toExpr q'.expr) = specCount rows (toExpr (subst args q.expr)) ∧
    (toQuery q').groupBy = q.groupBy := by
  have hw : WFQ (bound q args) := ⟨subst_wf args q.expr hq.expr, hq.fields⟩
  obtain ⟨hm, hg, hs⟩ := C10.roundtrip_semantics (bound q args) q' hw hp
  have h0 : maxPh (bound q args).expr = 0 := subst_no_placeholder args q.expr
  have hr : ∀ r : Row, sat r (toExpr q'.expr) = sat r (toExpr (subst args q.expr)) := by
    intro r
    have := hs [] r
    rwa [subst_of_no_placeholder [] q'.expr (hm.trans h0),
      subst_of_no_placeholder [] (bound q args).expr h0] at this
  have hf : rows.filter (sat · (toExpr q'.expr)) = rows.filter (sat · (toExpr (subst args q.expr))) :=
    List.filter_congr (fun r _ => hr r)
  exact ⟨hf, by unfold specCount; rw [hf], hg⟩

/-! ### non-vacuity -/

/-- `a = $2 & ^ ( b = "x" | c = $1 ) ; g` -/
def exStmt : PQuery := ⟨.and [.eq [97] [] 2, .not (.or [.eq [98] [120] 0, .eq [99] [] 1])], [[103]]⟩

/-- arguments with a quote, a newline and a non-ASCII byte; and the empty value -/
def exArgs : List Bytes := [[34, 10, 200], []]

theorem exStmt_ok : WFQ exStmt ∧ maxPh exStmt.expr ≤ exArgs.length := by
  refine ⟨⟨?_, by decide⟩, by decide⟩
  simp [exStmt, WFE, WFL, validIdent, isAlpha]

/-- the main theorem applied to the concrete statement and arguments -/
example : ∃ q', parseQuery (fmtQuery (bound exStmt exArgs)) = some q' ∧ q'.groupBy = [[103]] ∧
    maxPh q'.expr = 0 ∧ ∀ r : Row, sat r (toExpr q'.expr) = sat r (toExpr (bound exStmt exArgs).expr) :=
  (prepared_equals_oneshot exStmt exStmt_ok.1 exArgs exStmt_ok.2).2.2.2.2

example : bound exStmt exArgs
    = ⟨.and [.eq [97] [] 0, .not (.or [.eq [98] [120] 0, .eq [99] [34, 10, 200] 0])], [[103]]⟩ := by
  simp [bound, exStmt, exArgs, subst, substList]

/-- the one-shot text: `a = "" & ^ ( b = "x" | c = "<quote><quote>\n\xc8" ) ; g` -/
example : fmtQuery (bound exStmt exArgs) =
    [97, 32, 61, 32, 34, 34, 32, 38, 32, 94, 32, 40, 32, 98, 32, 61, 32, 34, 120, 34, 32, 124, 32,
     99, 32, 61, 32, 34, 34, 34, 10, 200, 34, 32, 41, 32, 59, 32, 103] := by
  simp only [bound, exStmt, exArgs, subst, substList, fmtQuery, fmtExpr, fmtAnd, fmtOr]
  decide

end Updog.C11
