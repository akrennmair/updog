/-
C11 — placeholder binding is exact and prepared statements are reusable.
-/
import Updog.Model.Formatter
namespace Updog.C11
open Updog

/-- tree shape without the leaves' contents -/
inductive Shape where
  | leaf
  | not (s : Shape)
  | and (ss : List Shape)
  | or (ss : List Shape)

mutual
def shape : PExpr → Shape
  | .eq _ _ _ => .leaf
  | .not e => .not (shape e)
  | .and es => .and (shapes es)
  | .or es => .or (shapes es)
def shapes : List PExpr → List Shape
  | [] => []
  | e :: es => shape e :: shapes es
end

mutual
/-- the leaves left to right: (column, value, placeholder) -/
def leaves : PExpr → List (Bytes × Bytes × Nat)
  | .eq c v ph => [(c, v, ph)]
  | .not e => leaves e
  | .and es => leavesL es
  | .or es => leavesL es
def leavesL : List PExpr → List (Bytes × Bytes × Nat)
  | [] => []
  | e :: es => leaves e ++ leavesL es
end

/-- what binding does to one leaf: `$n` becomes the n-th argument, a literal stays -/
def bindLeaf (args : List Bytes) (l : Bytes × Bytes × Nat) : Bytes × Bytes × Nat :=
  (l.1, if l.2.2 > 0 then args.getD (l.2.2 - 1) [] else l.2.1, 0)

mutual
theorem subst_shape (args : List Bytes) (e : PExpr) : shape (subst args e) = shape e := by
  match e with
  | .eq c v ph => simp only [subst]; split <;> rfl
  | .not e' => simp [subst, shape, subst_shape args e']
  | .and es => simp [subst, shape, substList_shapes args es]
  | .or es => simp [subst, shape, substList_shapes args es]
theorem substList_shapes (args : List Bytes) (es : List PExpr) : shapes (substList args es) = shapes es := by
  match es with
  | [] => rfl
  | e :: es' => simp [substList, shapes, subst_shape args e, substList_shapes args es']
end

mutual
/-- binding replaces every placeholder `$n` by the n-th argument and changes nothing else -/
theorem subst_leaves (args : List Bytes) (e : PExpr) : leaves (subst args e) = (leaves e).map (bindLeaf args) := by
  match e with
  | .eq c v ph => simp only [subst, leaves, bindLeaf, List.map]; split <;> simp_all [leaves]
  | .not e' => simp [subst, leaves, subst_leaves args e']
  | .and es => simp [subst, leaves, substList_leaves args es]
  | .or es => simp [subst, leaves, substList_leaves args es]
theorem substList_leaves (args : List Bytes) (es : List PExpr) :
    leavesL (substList args es) = (leavesL es).map (bindLeaf args) := by
  match es with
  | [] => rfl
  | e :: es' => simp [substList, leavesL, subst_leaves args e, substList_leaves args es']
end

mutual
/-- no placeholder is left after binding -/
theorem subst_no_placeholder (args : List Bytes) (e : PExpr) : maxPh (subst args e) = 0 := by
  match e with
  | .eq c v ph => simp only [subst]; split <;> rfl
  | .not e' => simp [subst, maxPh, subst_no_placeholder args e']
  | .and es => simp [subst, maxPh, substList_no_placeholder args es]
  | .or es => simp [subst, maxPh, substList_no_placeholder args es]
theorem substList_no_placeholder (args : List Bytes) (es : List PExpr) : maxPhList (substList args es) = 0 := by
  match es with
  | [] => rfl
  | e :: es' => simp [substList, maxPhList, subst_no_placeholder args e, substList_no_placeholder args es']
end

theorem foldr_max_append (xs ys : List Nat) :
    (xs ++ ys).foldr max 0 = max (xs.foldr max 0) (ys.foldr max 0) := by
  induction xs with
  | nil => exact (Nat.zero_max _).symm
  | cons a t ih => rw [List.cons_append, List.foldr_cons, List.foldr_cons, ih, Nat.max_assoc]

theorem le_foldr_max {x : Nat} {xs : List Nat} (h : x ∈ xs) : x ≤ xs.foldr max 0 := by
  induction xs with
  | nil => cases h
  | cons a t ih =>
    rcases List.mem_cons.mp h with rfl | h
    · exact Nat.le_max_left _ _
    · exact Nat.le_trans (ih h) (Nat.le_max_right _ _)

mutual
/-- `NumInput` is the highest placeholder number among the leaves -/
theorem maxPh_spec (e : PExpr) : maxPh e = ((leaves e).map (·.2.2)).foldr max 0 := by
  match e with
  | .eq c v ph => exact (Nat.max_zero ph).symm
  | .not e' => rw [maxPh, leaves, maxPh_spec e']
  | .and es => rw [maxPh, leaves, maxPhList_spec es]
  | .or es => rw [maxPh, leaves, maxPhList_spec es]
theorem maxPhList_spec (es : List PExpr) : maxPhList es = ((leavesL es).map (·.2.2)).foldr max 0 := by
  match es with
  | [] => rfl
  | e :: es' =>
    rw [maxPhList, leavesL, List.map_append, foldr_max_append, maxPh_spec e, maxPhList_spec es']
end

/-- with enough arguments binding succeeds with the exact substitution -/
theorem bind_exact (q : PQuery) (args : List Bytes) (h : maxPh q.expr ≤ args.length) :
    bind q args = .ok ⟨subst args q.expr, q.groupBy⟩ := by
  simp [bind, Nat.not_lt.mpr h]

/-- fewer arguments than the highest placeholder number: an error, never a panic, never a different query -/
theorem bind_too_few (q : PQuery) (args : List Bytes) (h : args.length < maxPh q.expr) : bind q args = .error := by
  simp [bind, h]

theorem bind_never_panics (q : PQuery) (args : List Bytes) : bind q args ≠ .panic ∧ bind q args ≠ .hang := by
  unfold bind; split <;> simp

/-- every placeholder that occurs is within the argument list when binding succeeds, so `getD`'s default is never used -/
theorem bound_leaf_in_range (q : PQuery) (args : List Bytes) (h : maxPh q.expr ≤ args.length)
    (l : Bytes × Bytes × Nat) (hl : l ∈ leaves q.expr) (hp : l.2.2 > 0) :
    ∃ a, args[l.2.2 - 1]? = some a ∧ (bindLeaf args l).2.1 = a := by
  have hle : l.2.2 ≤ maxPh q.expr := by
    rw [maxPh_spec]
    exact le_foldr_max (List.mem_map.mpr ⟨l, hl, rfl⟩)
  have hi : l.2.2 - 1 < args.length := by omega
  refine ⟨args[l.2.2 - 1], List.getElem?_eq_getElem hi, ?_⟩
  simp [bindLeaf, hp, List.getD_eq_getElem?_getD, List.getElem?_eq_getElem hi]

mutual
/-- surplus arguments are ignored -/
theorem subst_extra_args (args extra : List Bytes) (e : PExpr) (h : maxPh e ≤ args.length) :
    subst (args ++ extra) e = subst args e := by
  match e with
  | .eq c v ph =>
    simp only [maxPh] at h
    simp only [subst]
    split
    · rename_i hp
      have : ph - 1 < args.length := by omega
      simp [List.getD_eq_getElem?_getD, List.getElem?_append_left this]
    · rfl
  | .not e' => simp [subst, subst_extra_args args extra e' (by simpa [maxPh] using h)]
  | .and es => simp [subst, substList_extra_args args extra es (by simpa [maxPh] using h)]
  | .or es => simp [subst, substList_extra_args args extra es (by simpa [maxPh] using h)]
theorem substList_extra_args (args extra : List Bytes) (es : List PExpr) (h : maxPhList es ≤ args.length) :
    substList (args ++ extra) es = substList args es := by
  match es with
  | [] => rfl
  | e :: es' =>
    simp only [maxPhList] at h
    simp [substList, subst_extra_args args extra e (by omega), substList_extra_args args extra es' (by omega)]
end

/-- a prepared statement can be executed any number of times: binding is a function of the parsed query and the
    arguments only, and the parsed query is not changed by it (it is an argument, never an output) -/
theorem prepared_reusable (q : PQuery) (argss : List (List Bytes)) :
    argss.map (bind q) = argss.map fun args =>
      if maxPh q.expr > args.length then .error else .ok ⟨subst args q.expr, q.groupBy⟩ := rfl

example : bind ⟨.and [.eq [97] [] 2, .eq [98] [120] 0, .eq [99] [] 1], []⟩ [[49], [50]]
    = .ok ⟨.and [.eq [97] [50] 0, .eq [98] [120] 0, .eq [99] [49] 0], []⟩ := by
  simp [bind, maxPh, maxPhList, subst, substList]
example : bind ⟨.eq [97] [] 2, []⟩ [[49]] = .error := by simp [bind, maxPh]

end Updog.C11
