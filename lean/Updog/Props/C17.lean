/-
C17 — sql driver handles survive any open/close/concurrent-use sequence.
State machine of the driver's connection cache; every operation is one atomic step (Facts.C17_facts), so every
interleaving of concurrent goroutines is one of the operation sequences quantified over here.
-/
import Updog.Model.Driver
namespace Updog.C17

/-- the client discipline database/sql guarantees: a connection is queried or closed only while the client holds it.
    `h k` is the number of connections for key `k` the client holds before the history. Opens are on valid index files. -/
def Disciplined (valid : Nat → Bool) : (DKey → Nat) → List DrvOp → Prop
  | _, [] => True
  | h, .open k :: ops => valid k.file = true ∧ Disciplined valid (fun k' => if k' = k then h k' + 1 else h k') ops
  | h, .query k :: ops => h k > 0 ∧ Disciplined valid h ops
  | h, .close k :: ops => h k > 0 ∧ Disciplined valid (fun k' => if k' = k then h k' - 1 else h k') ops

/-- connections held after a history -/
def heldAfter : (DKey → Nat) → List DrvOp → (DKey → Nat)
  | h, [] => h
  | h, .open k :: ops => heldAfter (fun k' => if k' = k then h k' + 1 else h k') ops
  | h, .query _ :: ops => heldAfter h ops
  | h, .close k :: ops => heldAfter (fun k' => if k' = k then h k' - 1 else h k') ops

/-! A permitted step succeeds and sets the count of its key to `f (d.refs k)` for `f` = +1, identity, -1. -/

theorem step_open {valid : Nat → Bool} {k : DKey} (hv : valid k.file = true) (d : Drv) :
    d.step valid (.open k) = (d.set k (d.refs k + 1), .ok ()) := by
  show (if d.refs k > 0 then _ else if valid k.file then _ else _) = _
  split
  · rfl
  · next h => rw [Nat.eq_zero_of_not_pos h]

theorem step_query {valid : Nat → Bool} {d : Drv} {k : DKey} (h : d.refs k > 0) :
    d.step valid (.query k) = (d, .ok ()) :=
  if_pos h

/-- the counts after `set` are the client's tally `h` updated in the same way -/
theorem refs_set {d : Drv} {h : DKey → Nat} (hd : ∀ k, d.refs k = h k) (k : DKey) (f : Nat → Nat) (k' : DKey) :
    (d.set k (f (d.refs k))).refs k' = if k' = k then f (h k') else h k' := by
  show (if k' = k then f (d.refs k) else d.refs k') = _
  split
  · next e => rw [e, hd]
  · exact hd k'

/-- Main theorem. For every history of opens, queries and closes that respects the handle discipline — including
    reopening a data source after its last connection was closed, several connections per key, and several option
    strings on one file — no step panics, hangs or fails, and the cache's reference counts are exactly the numbers of
    connections the client holds. -/
theorem history_safe (valid : Nat → Bool) (ops : List DrvOp) (d : Drv) (h : DKey → Nat)
    (hd : ∀ k, d.refs k = h k) (hdisc : Disciplined valid h ops) :
    (∀ o ∈ (d.run valid ops).2, o = .ok ()) ∧ ∀ k, (d.run valid ops).1.refs k = heldAfter h ops k := by
  induction ops generalizing d h with
  | nil => exact ⟨nofun, hd⟩
  | cons op ops ih =>
    have cons : ∀ {d' : Drv} {h' : DKey → Nat}, d.step valid op = (d', .ok ()) → (∀ k, d'.refs k = h' k) →
        Disciplined valid h' ops →
        (∀ o ∈ (d.run valid (op :: ops)).2, o = .ok ()) ∧
          ∀ k, (d.run valid (op :: ops)).1.refs k = heldAfter h' ops k := by
      intro d' h' hs hd' hrest
      have := ih d' h' hd' hrest
      simp only [Drv.run, hs]
      exact ⟨List.forall_mem_cons.mpr ⟨rfl, this.1⟩, this.2⟩
    cases op with
    | «open» k => exact cons (step_open hdisc.1 d) (refs_set hd k (· + 1)) hdisc.2
    | query k => exact cons (step_query (hd k ▸ hdisc.1)) hd hdisc.2
    | close k => exact cons rfl (refs_set hd k (· - 1)) hdisc.2

/-- never a panic, never a hang (corollary) -/
theorem never_panics_or_hangs (valid : Nat → Bool) (ops : List DrvOp) (hdisc : Disciplined valid (fun _ => 0) ops) :
    ∀ o ∈ (Drv.empty.run valid ops).2, o ≠ .panic ∧ o ≠ .hang := by
  intro o ho
  have := (history_safe valid ops Drv.empty (fun _ => 0) (fun _ => rfl) hdisc).1 o ho
  subst this
  simp

/-- once the last handle on a file is closed, the file is released -/
theorem released_after_last_close (valid : Nat → Bool) (ops : List DrvOp) (hdisc : Disciplined valid (fun _ => 0) ops)
    (file : Nat) (hall : ∀ opts, heldAfter (fun _ => 0) ops ⟨file, opts⟩ = 0) :
    ¬ (Drv.empty.run valid ops).1.locked file := by
  intro ⟨opts, hpos⟩
  have := (history_safe valid ops Drv.empty (fun _ => 0) (fun _ => rfl) hdisc).2 ⟨file, opts⟩
  rw [this, hall opts] at hpos
  exact absurd hpos (by decide)

theorem run_length (valid : Nat → Bool) (d : Drv) (ops : List DrvOp) : (d.run valid ops).2.length = ops.length := by
  induction ops generalizing d with
  | nil => rfl
  | cons a t ih => exact congrArg (· + 1) (ih _)

/-- and while any handle on it is open, a query on that handle is answered -/
theorem query_on_open_handle_ok (valid : Nat → Bool) (pre : List DrvOp) (k : DKey)
    (hdisc : Disciplined valid (fun _ => 0) (pre ++ [.query k])) :
    (Drv.empty.run valid (pre ++ [.query k])).2.getLast? = some (.ok ()) := by
  have h := (history_safe valid _ Drv.empty (fun _ => 0) (fun _ => rfl) hdisc).1
  have hne : (Drv.empty.run valid (pre ++ [.query k])).2 ≠ [] := by
    intro he
    have := run_length valid Drv.empty (pre ++ [.query k])
    rw [he, List.length_append] at this
    exact absurd this (by simp)
  rw [List.getLast?_eq_some_getLast hne, h _ (List.getLast_mem hne)]

/-- the unrepaired behaviours, for the record: without the removal of the cache entry a query after reopen panics;
    in this model a query on a key without entry is `.panic` -/
example : (Drv.empty.step (fun _ => true) (.query ⟨0, 0⟩)).2 = .panic := rfl

/-- non-vacuity: open, query, close, reopen, query with another option string on the same file, close all -/
example : Disciplined (fun _ => true) (fun _ => 0)
    [.open ⟨0, 0⟩, .query ⟨0, 0⟩, .close ⟨0, 0⟩, .open ⟨0, 0⟩, .open ⟨0, 1⟩, .query ⟨0, 1⟩, .close ⟨0, 1⟩, .close ⟨0, 0⟩] := by
  simp [Disciplined]

end Updog.C17
