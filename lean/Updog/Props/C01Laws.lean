/-
C01 — algebraic laws of the total count that a user of the index relies on when combining queries:
complement (NOT), inclusion–exclusion (AND/OR of two operands), bounds, De Morgan and double negation.
They are stated on what `Execute` RETURNS on the written-and-opened index (through `C01.count_correct`),
not only on the specification. Property theorems only.
-/
import Updog.Props.C02
namespace Updog.C01

variable (H : Bytes → UInt64)

/-! ### on the specification -/

private theorem len_filter_not {α} (p : α → Bool) (l : List α) :
    (l.filter fun x => !p x).length + (l.filter p).length = l.length := by
  induction l with
  | nil => rfl
  | cons x l ih =>
    simp only [List.filter_cons]
    cases p x <;> simp <;> omega

private theorem len_filter_and_or {α} (p q : α → Bool) (l : List α) :
    (l.filter fun x => p x && q x).length + (l.filter fun x => p x || q x).length =
      (l.filter p).length + (l.filter q).length := by
  induction l with
  | nil => rfl
  | cons x l ih =>
    simp only [List.filter_cons]
    cases p x <;> cases q x <;> simp <;> omega

private theorem len_filter_mono {α} (p q : α → Bool) (l : List α) (h : ∀ x, p x = true → q x = true) :
    (l.filter p).length ≤ (l.filter q).length := by
  rw [← List.countP_eq_length_filter, ← List.countP_eq_length_filter]
  exact List.countP_mono_left fun x _ => h x

theorem specCount_le_length (rows : List Row) (e : Expr) : specCount rows e ≤ rows.length :=
  List.length_filter_le _ _

theorem specCount_not (rows : List Row) (e : Expr) :
    specCount rows (.not e) + specCount rows e = rows.length := by
  unfold specCount
  have : (rows.filter fun r => sat r (.not e)) = rows.filter fun r => !sat r e :=
    List.filter_congr fun r _ => by simp [sat]
  rw [this]
  exact len_filter_not (fun r => sat r e) rows

theorem specCount_not_not (rows : List Row) (e : Expr) :
    specCount rows (.not (.not e)) = specCount rows e := by
  unfold specCount
  congr 1
  apply List.filter_congr
  intro r _
  simp [sat]

/-- inclusion–exclusion for two operands -/
theorem specCount_and_or (rows : List Row) (a b : Expr) :
    specCount rows (.and [a, b]) + specCount rows (.or [a, b]) = specCount rows a + specCount rows b := by
  unfold specCount
  have h1 : (rows.filter fun r => sat r (.and [a, b])) = rows.filter fun r => sat r a && sat r b :=
    List.filter_congr fun r _ => by simp [sat, satAll]
  have h2 : (rows.filter fun r => sat r (.or [a, b])) = rows.filter fun r => sat r a || sat r b :=
    List.filter_congr fun r _ => by simp [sat, satAny]
  rw [h1, h2]
  exact len_filter_and_or (fun r => sat r a) (fun r => sat r b) rows

/-- De Morgan -/
theorem specCount_not_or (rows : List Row) (a b : Expr) :
    specCount rows (.not (.or [a, b])) = specCount rows (.and [.not a, .not b]) := by
  unfold specCount
  congr 1
  apply List.filter_congr
  intro r _
  simp [sat, satAll, satAny]

/-- a one-operand AND/OR is its operand -/
theorem specCount_singleton (rows : List Row) (a : Expr) :
    specCount rows (.and [a]) = specCount rows a ∧ specCount rows (.or [a]) = specCount rows a := by
  unfold specCount
  constructor <;> (congr 1; apply List.filter_congr; intro r _; simp [sat, satAll, satAny])

/-- adding an AND operand never raises the count, adding an OR operand never lowers it -/
theorem specCount_and_le (rows : List Row) (a : Expr) (es : List Expr) :
    specCount rows (.and (a :: es)) ≤ specCount rows (.and es) ∧
    specCount rows (.or es) ≤ specCount rows (.or (a :: es)) := by
  unfold specCount
  constructor
  · apply len_filter_mono
    intro r h
    simp only [sat, satAll, Bool.and_eq_true] at h
    simpa [sat] using h.2
  · apply len_filter_mono
    intro r h
    simp only [sat] at h
    simp [sat, satAny, h]

/-! ### on what `Execute` returns -/

section exec
variable (rows : List Row) (e : Expr)
  (hcols : ∀ c ∈ e.columns, c ∈ columnsOf rows) (hwf : e.arityPos = true)
  (hinj : NoCollision H rows e.pairs)
include hcols hwf hinj

/-- **Bound.** the returned count never exceeds the number of rows -/
theorem execute_count_le :
    ∃ res, execute H (Writer.addRows H {} rows).toIndex ⟨e, []⟩ = some res ∧ res.count ≤ rows.length :=
  ⟨_, count_correct H rows e hcols hwf hinj, specCount_le_length rows e⟩

/-- **Complement.** the counts returned for `e` and for `NOT e` add up to the number of rows -/
theorem execute_not_complement :
    ∃ r₁ r₂, execute H (Writer.addRows H {} rows).toIndex ⟨e, []⟩ = some r₁ ∧
      execute H (Writer.addRows H {} rows).toIndex ⟨.not e, []⟩ = some r₂ ∧
      r₂.count + r₁.count = rows.length := by
  refine ⟨_, _, count_correct H rows e hcols hwf hinj,
    count_correct H rows (.not e) hcols hwf hinj, specCount_not rows e⟩

/-- **Double negation.** `NOT NOT e` is answered like `e` -/
theorem execute_not_not :
    execute H (Writer.addRows H {} rows).toIndex ⟨.not (.not e), []⟩ =
      execute H (Writer.addRows H {} rows).toIndex ⟨e, []⟩ := by
  rw [count_correct H rows e hcols hwf hinj,
    count_correct H rows (.not (.not e)) hcols hwf hinj, specCount_not_not]

end exec

section exec2
variable (rows : List Row) (a b : Expr)
  (hca : ∀ c ∈ a.columns, c ∈ columnsOf rows) (hcb : ∀ c ∈ b.columns, c ∈ columnsOf rows)
  (hwa : a.arityPos = true) (hwb : b.arityPos = true)
  (hinj : NoCollision H rows (a.pairs ++ b.pairs))
include hca hcb hwa hwb hinj

/-- **Inclusion–exclusion.** on the real answers: `|a AND b| + |a OR b| = |a| + |b|` -/
theorem execute_and_or :
    ∃ ra rb rand ror,
      execute H (Writer.addRows H {} rows).toIndex ⟨a, []⟩ = some ra ∧
      execute H (Writer.addRows H {} rows).toIndex ⟨b, []⟩ = some rb ∧
      execute H (Writer.addRows H {} rows).toIndex ⟨.and [a, b], []⟩ = some rand ∧
      execute H (Writer.addRows H {} rows).toIndex ⟨.or [a, b], []⟩ = some ror ∧
      rand.count + ror.count = ra.count + rb.count := by
  have hia : NoCollision H rows a.pairs := fun p hp q hq => hinj p hp q (List.mem_append_left _ hq)
  have hib : NoCollision H rows b.pairs := fun p hp q hq => hinj p hp q (List.mem_append_right _ hq)
  have hcols : ∀ c ∈ Expr.columnsList [a, b], c ∈ columnsOf rows := fun c hc => by
    rw [Expr.columnsList, Expr.columnsList, Expr.columnsList, List.append_nil] at hc
    exact (List.mem_append.mp hc).elim (hca c) (hcb c)
  have hwf : (!([a, b] : List Expr).isEmpty && Expr.arityPosList [a, b]) = true := by
    rw [Expr.arityPosList, Expr.arityPosList, Expr.arityPosList, hwa, hwb]; rfl
  have hp : NoCollision H rows (Expr.pairsList [a, b]) := by
    rw [Expr.pairsList, Expr.pairsList, Expr.pairsList, List.append_nil]; exact hinj
  exact ⟨_, _, _, _, count_correct H rows a hca hwa hia, count_correct H rows b hcb hwb hib,
    count_correct H rows (.and [a, b]) hcols hwf hp, count_correct H rows (.or [a, b]) hcols hwf hp,
    specCount_and_or rows a b⟩

end exec2

/-! ### the complement law on the concrete dataset of C02 -/

example : specCount C02.exRows (.not C02.exExpr) + specCount C02.exRows C02.exExpr = 4 := by decide

end Updog.C01
