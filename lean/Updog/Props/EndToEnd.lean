/-
End-to-end composition of C01/C02/C03/C05: rows added through either writer, flushed, opened, and queried any number
of times through an LRU cache of ANY capacity answer every query exactly like the SQL specification.
-/
import Updog.Props.C02
import Updog.Props.C03
import Updog.Props.C01Writers
namespace Updog.EndToEnd

variable (H : Bytes → UInt64)

/-- the hypotheses under which one query is answered like the specification (C01/C02) -/
structure QueryOK (rows : List Row) (q : Query) : Prop where
  cols : ∀ c ∈ q.expr.columns, c ∈ columnsOf rows
  wf : q.expr.arityPos = true
  inj : NoCollision H rows q.expr.pairs
  gb : ∀ c ∈ q.groupBy, c ∈ columnsOf rows

/-- **Every query of every history, through an LRU cache of any capacity, equals SQL.**
    `hinj`/`hagree` exclude 64-bit collisions among the cache-key preimages of the history (C03),
    `hD` among the data's own (column,value) pairs (C02). -/
theorem cached_history_equals_sql (rows : List Row) (qs : List Query) (sz : Nat → Nat) (c0 : Lru) (h0 : c0.items = [])
    (hinj : InjOn H ((qs.map (·.expr)).flatMap (preimages H)))
    (hagree : KnownAgree H (Writer.addRows H {} rows).toIndex ((qs.map (·.expr)).flatMap Expr.pairs))
    (hD : DataNoCollision H rows) (hq : ∀ q ∈ qs, QueryOK H rows q) :
    (executeAllC H (lruCacheImpl sz) (Writer.addRows H {} rows).toIndex c0 qs).2 = qs.map fun q => specExecute rows q := by
  rw [C03.lru_transparent_history H _ sz c0 h0 qs hinj hagree]
  apply List.map_congr_left
  intro q hmem
  obtain ⟨e, cols⟩ := q
  have ok := hq _ hmem
  exact C02.groupBy_eq_spec H rows e cols ok.cols ok.wf ok.inj hD ok.gb

/-- the same for the index written by the big (disk-backed) writer -/
theorem cached_history_equals_sql_big (rows : List Row) (hlen : rows.length ≤ 2 ^ 32) (qs : List Query) (sz : Nat → Nat)
    (c0 : Lru) (h0 : c0.items = [])
    (hinj : InjOn H ((qs.map (·.expr)).flatMap (preimages H)))
    (hagree : KnownAgree H (Writer.addRows H {} rows).toIndex ((qs.map (·.expr)).flatMap Expr.pairs))
    (hD : DataNoCollision H rows) (hq : ∀ q ∈ qs, QueryOK H rows q) :
    (executeAllC H (lruCacheImpl sz) (C05.bigIndex H rows) c0 qs).2 = qs.map fun q => specExecute rows q := by
  rw [C01.bigIndex_eq H rows hlen]
  exact cached_history_equals_sql H rows qs sz c0 h0 hinj hagree hD hq

end Updog.EndToEnd
