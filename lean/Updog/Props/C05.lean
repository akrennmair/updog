/-
C05 — the disk-backed "big" writer (writer_big.go) produces the same index as the in-memory writer
(writer.go); row ids are consecutive; the result of `WriteToBoltDatabase` does not depend on the Go map
iteration order or on the batch size.
Property theorems only; helper lemmas live in Updog/Proofs/BigWriter.lean and Updog/Proofs/BoltTx.lean.
-/
import Updog.Proofs.BoltTx
namespace Updog.C05
open Updog

/-! ### 1. the 12-byte temp keys -/

theorem be32_roundtrip (n : Nat) (h : n < 2 ^ 32) : beDecode (be32 n) = n := Updog.be32_roundtrip n h
theorem be64_roundtrip (n : Nat) (h : n < 2 ^ 64) : beDecode (be64 n) = n := Updog.be64_roundtrip n h
theorem be32_length (n : Nat) : (be32 n).length = 4 := rfl
theorem be64_length (n : Nat) : (be64 n).length = 8 := rfl

/-- For big-endian strings of equal length the bytewise order is the numeric order. -/
theorem bytesLt_iff_decode_lt (xs ys : Bytes) (hl : xs.length = ys.length) :
    bytesLt xs ys = true ↔ beDecode xs < beDecode ys := by
  rw [bytesLt_eq_decode_lt xs ys hl, decide_eq_true_iff]

/-- The cursor order of the temp bucket is the lexicographic order of (value index, row id). -/
theorem be_key_order (a b i j : Nat) (ha : a < 2 ^ 64) (hb : b < 2 ^ 64) (hi : i < 2 ^ 32) (hj : j < 2 ^ 32) :
    bytesLt (be64 a ++ be32 i) (be64 b ++ be32 j) = true ↔ a < b ∨ (a = b ∧ i < j) :=
  Updog.be_key_order a b i j ha hb hi hj

/-- `Flush` decodes a temp key back to the pair it was built from. -/
theorem key_decode (a i : Nat) (ha : a < 2 ^ 64) (hi : i < 2 ^ 32) :
    beDecode ((be64 a ++ be32 i).take 8) = a ∧ beDecode ((be64 a ++ be32 i).drop 8) = i :=
  Prod.mk.inj (decKey_tempKey a i ha hi)

section
variable (H : Bytes → UInt64)

/-! ### 2. both writers produce the same index -/

/-- Main theorem. For every dataset of at most 2^32 rows and EVERY hash function (collisions and the
value index 0 included), the data bucket written by `BigIndexWriter.Flush` and the map written by
`IndexWriter.Flush` have the same keys and the same bitmap under every key, and the schema `S` and the
row counter `I` are equal. -/
theorem writers_agree (rows : List Row) (hlen : rows.length ≤ 2 ^ 32) :
    (∀ h, ((BigWriter.image H rows).1.get h).getD 0 = ((Writer.addRows H {} rows).vals.get h).getD 0)
    ∧ (∀ h, ((BigWriter.image H rows).1.get h).isSome = ((Writer.addRows H {} rows).vals.get h).isSome)
    ∧ (BigWriter.image H rows).2.1 = (Writer.addRows H {} rows).schema
    ∧ (BigWriter.image H rows).2.2 = (Writer.addRows H {} rows).next := by
  refine ⟨?_, ?_, ?_, ?_⟩
  · intro h
    apply Nat.eq_of_testBit_eq
    intro j
    rw [image_testBit H rows hlen h j, (winv_addRows H rows).vals h j]
  · intro h
    rw [image_isSome H rows hlen h, addRows_isSome]
    simp [ValMap.get]
  · exact big_addRows_schema H rows {} {} rfl
  · show (BigWriter.addRows H {} rows).next = _
    rw [(binv_addRows H rows).next, (winv_addRows H rows).next]

/-- Same statement on the lookups themselves: `values.GetCol` returns the same result on both files. -/
theorem writers_agree_get (rows : List Row) (hlen : rows.length ≤ 2 ^ 32) (h : UInt64) :
    (BigWriter.image H rows).1.get h = (Writer.addRows H {} rows).vals.get h := by
  obtain ⟨h1, h2, _, _⟩ := writers_agree H rows hlen
  have a := h1 h
  have b := h2 h
  match (BigWriter.image H rows).1.get h, (Writer.addRows H {} rows).vals.get h, a, b with
  | none, none, _, _ => rfl
  | some _, some _, a, _ => exact congrArg some a
  | none, some _, _, b => cases b
  | some _, none, _, b => cases b

/-- The opened indexes are indistinguishable: same schema, same counter, same `GetCol`. -/
theorem writers_agree_index (rows : List Row) (hlen : rows.length ≤ 2 ^ 32) :
    let img := BigWriter.image H rows
    (⟨img.2.1, img.2.2, img.1.get⟩ : Index) = (Writer.addRows H {} rows).toIndex := by
  obtain ⟨_, _, h3, h4⟩ := writers_agree H rows hlen
  simp only [Writer.toIndex, h3, h4]
  congr 1
  funext h
  exact writers_agree_get H rows hlen h

/-- `Flush` of the big writer never takes the "invalid temp key" error branch. -/
theorem big_flush_ok (rows : List Row) :
    (BigWriter.addRows H {} rows).flush = .ok (BigWriter.image H rows) := by
  rw [BigWriter.flush, if_pos (binv_addRows H rows).all_length]; rfl

/-- Bit `j` of the bitmap stored under `h` by the big writer is set iff row `j` was added with a pair
whose value index is `h` (the specification both writers meet). -/
theorem big_bitmap_spec (rows : List Row) (hlen : rows.length ≤ 2 ^ 32) (h : UInt64) (j : Nat) :
    (((BigWriter.image H rows).1.get h).getD 0).testBit j = rowHas H rows h j :=
  image_testBit H rows hlen h j

/-! ### 3. row ids -/

/-- The i-th `AddRow` call returns id i, for both writers. -/
theorem addRow_ids (rows : List Row) :
    Writer.addRowsIds H {} rows = List.range rows.length
    ∧ BigWriter.addRowsIds H {} rows = List.range rows.length := by
  constructor
  · rw [addRowsIds_eq]; simp
  · rw [big_addRowsIds_eq]; simp

/-- … and the counter written as `I` is the number of rows. -/
theorem counter_eq (rows : List Row) :
    (Writer.addRows H {} rows).next = rows.length ∧ (BigWriter.image H rows).2.2 = rows.length :=
  ⟨(winv_addRows H rows).next, (binv_addRows H rows).next⟩

end

/-! ### 4. map iteration order and batch size are irrelevant -/

/-- `WriteToBoltDatabase`: for ANY iteration order `perm` of the value map and ANY batch size ≥ 1 the
writer commits `len / batch + 1` transactions and the committed file maps every value index to the
writer's bitmap and carries the writer's schema and counter. -/
theorem flush_order_irrelevant (w : Writer) (hn : KeysNodup w.vals) (perm : ValMap) (hp : perm.Perm w.vals)
    (batch : Nat) (hb : 1 ≤ batch) :
    let txs := writeTxs w.schema w.next perm batch
    txs.length = w.vals.length / batch + 1
    ∧ (∀ h, (imageAfter txs txs.length).vals.get h = w.vals.get h)
    ∧ (imageAfter txs txs.length).schema = some w.schema
    ∧ (imageAfter txs txs.length).counter = some w.next
    ∧ (imageAfter txs txs.length).bucket = true
    ∧ (imageAfter txs txs.length).hasHeader = true := by
  intro txs
  have hlen : txs.length = perm.length / batch + 1 := writeTxs_length _ _ perm batch hb
  have hfull := imageAfter_writeTxs_full w.schema w.next perm batch hb txs.length (by omega)
  refine ⟨by rw [hlen, hp.length_eq], ?_, congrArg BoltImage.schema hfull, congrArg BoltImage.counter hfull,
    congrArg BoltImage.bucket hfull, congrArg BoltImage.hasHeader hfull⟩
  intro h
  have hv : (imageAfter txs txs.length).vals = perm.foldl (fun (m : ValMap) kb => m.put kb.1 kb.2) [] :=
    congrArg BoltImage.vals hfull
  rw [hv, foldl_put_get perm (hn.perm hp), ValMap.get_perm hp hn]
  simp [ValMap.get]

/-- The map of a writer that was filled by `AddRow` calls has unique keys, so the theorem applies. -/
theorem writer_keys_unique (H : Bytes → UInt64) (rows : List Row) : KeysNodup (Writer.addRows H {} rows).vals :=
  addRows_nodup H rows {} KeysNodup.nil

/-- Two flushes of the same writer with different iteration orders and batch sizes yield files with the
same content. -/
theorem flush_deterministic (w : Writer) (hn : KeysNodup w.vals) (p1 p2 : ValMap)
    (h1 : p1.Perm w.vals) (h2 : p2.Perm w.vals) (b1 b2 : Nat) (hb1 : 1 ≤ b1) (hb2 : 1 ≤ b2) :
    let t1 := writeTxs w.schema w.next p1 b1
    let t2 := writeTxs w.schema w.next p2 b2
    (∀ h, (imageAfter t1 t1.length).vals.get h = (imageAfter t2 t2.length).vals.get h)
    ∧ (imageAfter t1 t1.length).schema = (imageAfter t2 t2.length).schema
    ∧ (imageAfter t1 t1.length).counter = (imageAfter t2 t2.length).counter := by
  intro t1 t2
  obtain ⟨_, a1, a2, a3, _⟩ := flush_order_irrelevant w hn p1 h1 b1 hb1
  obtain ⟨_, c1, c2, c3, _⟩ := flush_order_irrelevant w hn p2 h2 b2 hb2
  exact ⟨fun h => (a1 h).trans (c1 h).symm, a2.trans c2.symm, a3.trans c3.symm⟩

/-- The single output transaction of the big writer leaves exactly `image` in the file. -/
theorem big_flush_image (H : Bytes → UInt64) (rows : List Row) :
    let w := BigWriter.addRows H {} rows
    w.flushTxs.length = 1
    ∧ (∀ h, (imageAfter w.flushTxs 1).vals.get h = (BigWriter.image H rows).1.get h)
    ∧ (imageAfter w.flushTxs 1).schema = some (BigWriter.image H rows).2.1
    ∧ (imageAfter w.flushTxs 1).counter = some (BigWriter.image H rows).2.2 := by
  intro w
  have hfull := imageAfter_flushTxs_one w 1 (Nat.le_refl 1)
  refine ⟨rfl, ?_, congrArg BoltImage.schema hfull, congrArg BoltImage.counter hfull⟩
  intro h
  have hv : (imageAfter w.flushTxs 1).vals = w.flushCore.1.foldl (fun (m : ValMap) kb => m.put kb.1 kb.2) [] :=
    congrArg BoltImage.vals hfull
  rw [hv, foldl_put_get w.flushCore.1 (show KeysNodup w.flushCore.1 from walk_nodup _)]
  simp [ValMap.get, BigWriter.image, w]

/-! ### 5. non-vacuity -/

/-- a dataset: three rows, the pair (1,2) occurs in two rows -/
def rows : List Row := [[([1], [2]), ([3], [4])], [([1], [2])], [([3], [5]), ([1], [7])]]

/-- constant hash: all pairs collide and the value index is 0 (`bm == nil ||` guard) -/
def H0 : Bytes → UInt64 := fun _ => 0

/-- toy hash with three value indexes, assigned in decreasing order of first use -/
def Hr : Bytes → UInt64 := fun b => 2 - (beDecode b).toUInt64 % 3

theorem temp_H0 : (BigWriter.addRows H0 {} rows).temp
    = [[0,0,0,0,0,0,0,0,0,0,0,0], [0,0,0,0,0,0,0,0,0,0,0,1], [0,0,0,0,0,0,0,0,0,0,0,2]] := by decide +kernel

theorem temp_Hr : (BigWriter.addRows Hr {} rows).temp
    = [[0,0,0,0,0,0,0,2,0,0,0,0], [0,0,0,0,0,0,0,1,0,0,0,0], [0,0,0,0,0,0,0,2,0,0,0,1],
       [0,0,0,0,0,0,0,0,0,0,0,2]] := by decide +kernel

/-- the cursor really reorders the keys -/
theorem sort_Hr : sortKeys (BigWriter.addRows Hr {} rows).temp
    = [[0,0,0,0,0,0,0,0,0,0,0,2], [0,0,0,0,0,0,0,1,0,0,0,0], [0,0,0,0,0,0,0,2,0,0,0,0],
       [0,0,0,0,0,0,0,2,0,0,0,1]] := by
  rw [temp_Hr]
  simp [sortKeys, List.mergeSort, List.MergeSort.Internal.splitInTwo, bytesLe, bytesLt]

theorem sort_H0 : sortKeys (BigWriter.addRows H0 {} rows).temp
    = [[0,0,0,0,0,0,0,0,0,0,0,0], [0,0,0,0,0,0,0,0,0,0,0,1], [0,0,0,0,0,0,0,0,0,0,0,2]] := by
  rw [temp_H0]
  simp [sortKeys, List.mergeSort, List.MergeSort.Internal.splitInTwo, bytesLe, bytesLt]

/-- value index 0 with collisions: one bitmap {0,1,2} under key 0 in both writers -/
example : (BigWriter.image H0 rows).1 = [(0, 7)] ∧ (Writer.addRows H0 {} rows).vals = [(0, 7)] := by
  constructor
  · show walk (sortKeys (BigWriter.addRows H0 {} rows).temp) = _
    rw [sort_H0]; decide +kernel
  · decide +kernel

/-- the two writers store the entries in different orders (first use vs. ascending key), which is why
`writers_agree` is stated on lookups -/
example : (BigWriter.image Hr rows).1 = [(0, 4), (1, 1), (2, 3)]
    ∧ (Writer.addRows Hr {} rows).vals = [(2, 3), (1, 1), (0, 4)] := by
  constructor
  · show walk (sortKeys (BigWriter.addRows Hr {} rows).temp) = _
    rw [sort_Hr]; decide +kernel
  · decide +kernel

/-- schema and counter agree literally -/
example : (BigWriter.image Hr rows).2 = ((Writer.addRows Hr {} rows).schema, (Writer.addRows Hr {} rows).next) := by
  decide +kernel

/-- the hypotheses of `writers_agree` hold for the concrete dataset -/
example : ∀ h, (BigWriter.image Hr rows).1.get h = (Writer.addRows Hr {} rows).vals.get h :=
  writers_agree_get Hr rows (by decide +kernel)

/-- `flush_order_irrelevant` on a concrete writer: reversed iteration order, batch size 2 → two
transactions, the first without header -/
example :
    let w := Writer.addRows Hr {} rows
    writeTxs w.schema w.next w.vals.reverse 2
      = [[.val 0 4, .val 1 1], [.val 2 3, .schema w.schema, .counter 3]] := by
  decide +kernel

example : (Writer.addRows Hr {} rows).vals.reverse.Perm (Writer.addRows Hr {} rows).vals :=
  List.reverse_perm _

example : Writer.addRowsIds Hr {} rows = [0, 1, 2] ∧ BigWriter.addRowsIds Hr {} rows = [0, 1, 2] := by
  decide +kernel

end Updog.C05
