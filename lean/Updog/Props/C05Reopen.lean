/-
C05 (chain writer → file → reader, and reopening) —

1. the chain: the bbolt file the (generated) `WriteToBoltDatabase` commits
   (`Props/Gen/Writer.lean: writeToBoltDatabase_eq` gives the committed transactions as a log, `C05.flush_order_irrelevant`
   their net effect `imageAfter`) → the content of bucket `data` → the `Image` the two column getters read
   (`Model/Getters.lean`, `imageOfData`) → the `Index` of `Model/Index.lean`: the index obtained by opening the file
   written by the generated writer IS `Writer.toIndex` of the writer's state, the index `C01.count_correct`,
   `C02.groupBy_eq_spec`, `C05.schema_roundtrip` speak about. With the generated `AddRow` iterated over `rows`
   (fewer than 2^32 of them, `FitsCounter`) it is `(Writer.addRows H {} rows).toIndex`.
   The gob / roaring coders are parameters (`Ext`) with round-trip hypotheses, as in `Props/Gen/Open.lean`.
2. reopening: `OpenIndexFromBoltDatabase` does not change the file, and its outcome, the returned schema and counter,
   every `GetCol` answer and hence every query result depend on the file content only — so opening the written file any
   number of times (any handles, any interleaved closes) changes no answer.

Property theorems only; helper lemmas live in Updog/Proofs/GenFlushData.lean and Updog/Proofs/GenReopen.lean.
-/
import Updog.Proofs.GenReopen
import Updog.Props.C01Getters
import Updog.Props.C01Counter
namespace Updog.C05
open Updog Updog.Go.T3 Updog.GeneratedEq

/-! ### definitions -/

/-- the `Index` of `Model/Index.lean` a header (decoded schema, decoded counter) and the bucket content induce: schema,
    counter, and `getCol` = what the on-demand getter answers on the `Image` of the `'V'` keys -/
def indexOfHeader (X : Ext) (c : Buckets) (hd : Option SchemaVal × UInt32) : Updog.Index :=
  (imageOfData X ((bucketsGet c dataName).getD [])).toIndex (hd.1.getD []) hd.2.toNat

/-- … for the `*Index` the generated `OpenIndexFromBoltDatabase` returned on the file with committed content `c` -/
def absIndex (X : Ext) (c : Buckets) (ix : Go.T3.Index) : Updog.Index := indexOfHeader X c (header ix)

/-- a database handle and its surroundings: handle id, transaction counter, commit history, heap -/
abbrev Session := Nat × Nat × List (List PutRec) × Heap

/-- `OpenIndexFromBoltDatabase(db)` on a file with committed content `c`, through the handle of session `s` -/
def openIn (X : Ext) (c : Buckets) (s : Session) : Bolt × Heap × Option Go.T3.Index × Error :=
  Gen.openIndexFromBoltDatabase X (idle s.1 s.2.1 c s.2.2.1) s.2.2.2 (some s.1) []

/-- the committed content of the file after `k` rounds of "open it (session `sess j`), close the handle" -/
def fileAfter (X : Ext) (c : Buckets) (sess : Nat → Session) : Nat → Buckets
  | 0 => c
  | k + 1 => (dbClose (openIn X (fileAfter X c sess k) (sess k)).1 (some (sess k).1)).1.committed

/-! ### 1. writer → file → reader -/

/-- **The file.** After the generated `WriteToBoltDatabase` on a database without bucket `data`, for ANY enumeration
`rng` of `idx.values`, bucket `data` of the committed state is in cursor order, its `'V'` keys are `'V' ‖ be64(index)`,
`'S'` holds the gob of the writer's schema, `'I'` the big-endian 4 bytes of the `uint32` counter, and — with a
round-tripping bitmap coder — the `Index` that the `Image` of this bucket induces is exactly `Writer.toIndex` of the
writer's state. -/
theorem written_file_is_toIndex (X : Ext) (hroar : ∀ b, X.roaringFromBuffer (X.roaringToBytes b) = some b)
    (rng : List (UInt64 × Ptr)) (bolt : Bolt) (hp : Heap) (idx : IndexWriter) (db : DBRef)
    (hdb : db = some bolt.id) (hopen : bolt.closed = false) (hnotx : bolt.tx = none)
    (hfresh : bucketsGet bolt.committed dataName = none)
    (hperm : rng.Perm idx.values) (hnd : KeysNodup (absWriter hp idx).vals) :
    ∃ d, bucketsGet (Gen.writeToBoltDatabase X rng bolt hp idx db).1.committed dataName = some d ∧
      SortedData d ∧ WellKeyed d ∧
      dataGet d [83] = some (X.gobEncode (absWriter hp idx).schema) ∧
      dataGet d [73] = some (be32 idx.nextRowID.toNat) ∧
      (∀ h, dataGet d (86 :: be64 h.toNat) = ((absWriter hp idx).vals.get h).map X.roaringToBytes) ∧
      (imageOfData X d).toIndex (absWriter hp idx).schema (absWriter hp idx).next = (absWriter hp idx).toIndex := by
  have hdata := writeToBoltDatabase_data X rng bolt hp idx db hdb hopen hnotx
  rw [hfresh] at hdata
  change _ = some (fileData X [] _ _ _) at hdata
  have hp' : (absVals hp rng).Perm (absVals hp idx.values) := absVals_perm hp rng idx.values hperm
  have hn : KeysNodup (absVals hp rng) := KeysNodup.perm hnd hp'
  have hget : (absVals hp rng).get = (absVals hp idx.values).get := funext fun h => ValMap.get_perm hp' hnd h
  obtain ⟨s1, s2, s3, s4, s5⟩ := fileData_spec X (absVals hp rng) hn (schemaValue hp idx.schema) idx.nextRowID
  refine ⟨_, hdata, s1, s2, s3, s4, ?_, ?_⟩
  · intro h; rw [s5 h, hget]; rfl
  · rw [fileData_toIndex X hroar (absVals hp rng) hn, hget]; rfl

/-- **Log view = bucket view.** The net effect `imageAfter` of the committed transactions (`writeTxs`, the log
`writeToBoltDatabase_eq` speaks about) and the bucket content the reader sees agree: same bitmap under every value
index (as `Image`s of `Model/Getters.lean`), the `'S'` blob decodes to the logged schema, the `'I'` bytes to the logged
counter. -/
theorem written_file_matches_log (X : Ext) (hroar : ∀ b, X.roaringFromBuffer (X.roaringToBytes b) = some b)
    (rng : List (UInt64 × Ptr)) (bolt : Bolt) (hp : Heap) (idx : IndexWriter) (db : DBRef)
    (hgob : X.gobDecode (X.gobEncode (absWriter hp idx).schema) = some (absWriter hp idx).schema)
    (hdb : db = some bolt.id) (hopen : bolt.closed = false) (hnotx : bolt.tx = none)
    (hfresh : bucketsGet bolt.committed dataName = none)
    (hperm : rng.Perm idx.values) (hnd : KeysNodup (absWriter hp idx).vals) :
    let txs := writeTxs (absWriter hp idx).schema (absWriter hp idx).next (absVals hp rng) 1000
    (Gen.writeToBoltDatabase X rng bolt hp idx db).1.commits = bolt.commits ++ txs.map (renderTx X) ∧
    ∃ d sb cb, bucketsGet (Gen.writeToBoltDatabase X rng bolt hp idx db).1.committed dataName = some d ∧
      (∀ h, (imageOfData X d).get h = (imageOf (imageAfter txs txs.length).vals).get h) ∧
      dataGet d [83] = some sb ∧ (X.gobDecode sb) = (imageAfter txs txs.length).schema ∧
      dataGet d [73] = some cb ∧ cb.length = 4 ∧ some (beUint32 cb).toNat = (imageAfter txs txs.length).counter := by
  intro txs
  obtain ⟨d, h1, _, h3, h4, h5, h6, _⟩ :=
    written_file_is_toIndex X hroar rng bolt hp idx db hdb hopen hnotx hfresh hperm hnd
  have hp' : (absVals hp rng).Perm (absWriter hp idx).vals := absVals_perm hp rng idx.values hperm
  obtain ⟨_, f2, f3, f4, _, _⟩ := flush_order_irrelevant (absWriter hp idx) hnd (absVals hp rng) hp' 1000 (by decide)
  refine ⟨(writeToBoltDatabase_eq X rng bolt hp idx db hdb hopen hnotx).2.1, d, _, _, h1, ?_, h4, ?_, h5, rfl, ?_⟩
  · intro h
    rw [get_imageOfData X d h3 h, h6 h, get_imageOf, f2 h]
    cases (absWriter hp idx).vals.get h with
    | none => rfl
    | some b => simp [hroar b]
  · rw [hgob]; exact f3.symm
  · rw [beUint32_be32]; exact f4.symm

/-- **The reader on the written file.** `OpenIndexFromBoltDatabase` on the written file (through any handle) succeeds
and returns the writer's schema and the writer's counter with the on-demand getter, and the `Index` the returned
`*Index` and the file induce is `Writer.toIndex` of the writer's state. -/
theorem written_file_opens (X : Ext) (hroar : ∀ b, X.roaringFromBuffer (X.roaringToBytes b) = some b)
    (rng : List (UInt64 × Ptr)) (bolt : Bolt) (hp : Heap) (idx : IndexWriter) (db : DBRef)
    (hgob : X.gobDecode (X.gobEncode (absWriter hp idx).schema) = some (absWriter hp idx).schema)
    (hdb : db = some bolt.id) (hopen : bolt.closed = false) (hnotx : bolt.tx = none)
    (hfresh : bucketsGet bolt.committed dataName = none)
    (hperm : rng.Perm idx.values) (hnd : KeysNodup (absWriter hp idx).vals)
    (i n : Nat) (cs : List (List PutRec)) (hp' : Heap) :
    let c := (Gen.writeToBoltDatabase X rng bolt hp idx db).1.committed
    let ix : Go.T3.Index := { schema := some (absWriter hp idx).schema, nextRowID := idx.nextRowID, db := some i,
                              values := .onDemand { db := some i }, cache := .nullCache, metrics := .fresh }
    Gen.openIndexFromBoltDatabase X (idle i n c cs) hp' (some i) [] = (idle i (n + 1) c cs, hp', some ix, none) ∧
    absIndex X c ix = (absWriter hp idx).toIndex := by
  intro c ix
  obtain ⟨d, h1, _, h3, h4, h5, _, h7⟩ :=
    written_file_is_toIndex X hroar rng bolt hp idx db hdb hopen hnotx hfresh hperm hnd
  have hopenr := openIndex_noPreload_result X i n c cs hp' d _ _ _ h1 h4 hgob h5 rfl
  rw [beUint32_be32] at hopenr
  refine ⟨hopenr, ?_⟩
  show (imageOfData X ((bucketsGet c dataName).getD [])).toIndex _ _ = _
  rw [h1]; exact h7

/-- … and every `GetCol` of the on-demand getter on the written file answers what `getCol` of that `Index` says
(an error or nil where it says `none`), and leaves the file alone. -/
theorem written_file_getCol (X : Ext) (hroar : ∀ b, X.roaringFromBuffer (X.roaringToBytes b) = some b)
    (hnil : X.roaringFromBuffer [] = none)
    (rng : List (UInt64 × Ptr)) (bolt : Bolt) (hp : Heap) (idx : IndexWriter) (db : DBRef)
    (hdb : db = some bolt.id) (hopen : bolt.closed = false) (hnotx : bolt.tx = none)
    (hfresh : bucketsGet bolt.committed dataName = none)
    (hperm : rng.Perm idx.values) (hnd : KeysNodup (absWriter hp idx).vals)
    (i n : Nat) (cs : List (List PutRec)) (hp' : Heap) (key : UInt64) :
    let c := (Gen.writeToBoltDatabase X rng bolt hp idx db).1.committed
    let r := Gen.onDemandGetCol X (idle i n c cs) hp' { db := some i } key
    (answerOf r.2.1 r.2.2.1 r.2.2.2).toOption.join = (absWriter hp idx).toIndex.getCol key ∧
    r.1 = idle i (n + 1) c cs := by
  intro c r
  obtain ⟨d, h1, _, h3, _, _, _, h7⟩ :=
    written_file_is_toIndex X hroar rng bolt hp idx db hdb hopen hnotx hfresh hperm hnd
  have hg := onDemandGetCol_eq X i n c cs hp' d key h1 h3 hnil
  simp only at hg
  refine ⟨?_, hg.2⟩
  show (answerOf _ _ _).toOption.join = _
  rw [hg.1, ← h7]
  show ((onDemandGet (imageOfData X d) key).map some).toOption.join = ((imageOfData X d).get key).join
  rw [← C01.onDemandGet_toOption]
  cases onDemandGet (imageOfData X d) key <;> rfl

section rows
variable (H : Bytes → UInt64)

/-- **The generated `AddRow` and the 32-bit counter.** With fewer than 2^32 rows, the successive calls of the generated
`AddRow` return the positions 0, 1, 2, … (as `uint32`) with a nil error, the counter ends at `rows.length`, and the
writer's state abstracts to `Writer.addRows H {} rows`. -/
theorem generated_addRow_ids_fits (rows : List Row) (hfit : FitsCounter rows) :
    (genAddRowsIds H ({}, {}) rows).map (fun p => (p.1.toNat, p.2)) = (List.range rows.length).map (fun i => (i, nilError)) ∧
    (genAddRows H ({}, {}) rows).2.nextRowID.toNat = rows.length ∧
    absWriter (genAddRows H ({}, {}) rows).1 (genAddRows H ({}, {}) rows).2 = Writer.addRows H {} rows := by
  obtain ⟨habs, _, hids⟩ := genAddRows_spec H rows {} {} (WriterWF.empty H {} []) ((Nat.zero_add _).symm ▸ hfit)
  have habs' : absWriter (genAddRows H ({}, {}) rows).1 (genAddRows H ({}, {}) rows).2 = Writer.addRows H {} rows := habs
  refine ⟨hids.trans ?_, (congrArg Writer.next habs').trans (winv_addRows H rows).next, habs'⟩
  show (Writer.addRowsIds H {} rows).map _ = _
  rw [(addRow_ids H rows).1]

/-- **From the rows to the opened index.** Add `rows` (fewer than 2^32) with the generated `AddRow` to a fresh writer,
flush with the generated `WriteToBoltDatabase` into a database without bucket `data`, open the file with the generated
`OpenIndexFromBoltDatabase`: the call succeeds and the `Index` it induces is `(Writer.addRows H {} rows).toIndex`. -/
theorem rows_written_opened (X : Ext) (hroar : ∀ b, X.roaringFromBuffer (X.roaringToBytes b) = some b)
    (rows : List Row) (hfit : FitsCounter rows)
    (hgob : X.gobDecode (X.gobEncode (Writer.addRows H {} rows).schema) = some (Writer.addRows H {} rows).schema)
    (rng : List (UInt64 × Ptr)) (hperm : rng.Perm (genAddRows H ({}, {}) rows).2.values)
    (bolt : Bolt) (db : DBRef) (hdb : db = some bolt.id) (hopen : bolt.closed = false) (hnotx : bolt.tx = none)
    (hfresh : bucketsGet bolt.committed dataName = none) (s : Session) :
    let w := genAddRows H ({}, {}) rows
    let c := (Gen.writeToBoltDatabase X rng bolt w.1 w.2 db).1.committed
    ∃ ix, (openIn X c s).2.2 = (some ix, none) ∧ (openIn X c s).1.committed = c ∧
      header ix = (some (Writer.addRows H {} rows).schema, (rows.length).toUInt32) ∧
      absIndex X c ix = (Writer.addRows H {} rows).toIndex := by
  intro w c
  obtain ⟨_, h1, habs'⟩ := generated_addRow_ids_fits H rows hfit
  have hnd : KeysNodup (absWriter w.1 w.2).vals := by rw [habs']; exact writer_keys_unique H rows
  have hnext : w.2.nextRowID = (rows.length).toUInt32 := by rw [← h1]; exact UInt32.ofNat_toNat.symm
  obtain ⟨o1, o2⟩ := written_file_opens X hroar rng bolt w.1 w.2 db (by rw [habs']; exact hgob) hdb hopen hnotx
    hfresh hperm hnd s.1 s.2.1 s.2.2.1 s.2.2.2
  refine ⟨_, congrArg (fun r => r.2.2) o1, congrArg (fun r => r.1.committed) o1, ?_, o2.trans (congrArg _ habs')⟩
  show (some (absWriter w.1 w.2).schema, w.2.nextRowID) = _
  rw [habs', hnext]

end rows

/-! ### 2. reopening -/

theorem dbClose_committed (b : Bolt) (db : DBRef) : (dbClose b db).1.committed = b.committed := by
  unfold dbClose; split <;> rfl

/-- Opening reads, it does not write (`open_committed`), and closing the handle does not either: after any number of
open/close rounds the file is the file -/
theorem reopen_file_unchanged (X : Ext) (c : Buckets) (sess : Nat → Session) (k : Nat) : fileAfter X c sess k = c := by
  induction k with
  | zero => rfl
  | succ k ih =>
    rw [fileAfter, ih, dbClose_committed, openIn]
    exact (open_committed X _ _ c _ _).1

/-- **Reopening any number of times changes no answer.** For every file content `c` (a complete index, a partial one,
anything), every sequence of sessions and every `k`: the `k`-th open (after `k` earlier open/close rounds, through
whatever handle, transaction counter, commit history and heap) fails iff the first one fails, returns the same decoded
schema and the same counter, induces the same `Index`, and therefore gives the same result for EVERY query. -/
theorem reopen_any_number_of_times (H : Bytes → UInt64) (X : Ext) (c : Buckets) (sess : Nat → Session) (k : Nat) :
    let rk := openIn X (fileAfter X c sess k) (sess k)
    let r0 := openIn X c (sess 0)
    isErr rk.2.2.2 = isErr r0.2.2.2 ∧
    rk.2.2.1.map header = r0.2.2.1.map header ∧
    rk.2.2.1.map (absIndex X c) = r0.2.2.1.map (absIndex X c) ∧
    ∀ q, rk.2.2.1.map (fun ix => execute H (absIndex X c ix) q) = r0.2.2.1.map (fun ix => execute H (absIndex X c ix) q) := by
  rw [reopen_file_unchanged]
  dsimp only [openIn]
  obtain ⟨e1, e2⟩ := open_depends_on_file_only X c (sess k).1 (sess k).2.1 (sess k).2.2.1 (sess k).2.2.2
    (sess 0).1 (sess 0).2.1 (sess 0).2.2.1 (sess 0).2.2.2
  have hcomp : ∀ {β : Type} (f : Updog.Index → β) (o : Option Go.T3.Index),
      o.map (fun ix => f (absIndex X c ix)) = (o.map header).map (fun hd => f (indexOfHeader X c hd)) :=
    fun f o => by cases o <;> rfl
  refine ⟨e1, e2, (hcomp id _).trans ((congrArg _ e2).trans (hcomp id _).symm), fun q => ?_⟩
  rw [hcomp (fun ix => execute H ix q), hcomp (fun ix => execute H ix q), e2]

/-- the on-demand getter's answers depend on the file content only, and asking leaves the file alone -/
theorem getCol_depends_on_file_only (X : Ext) (c : Buckets) (d : BucketData) (hb : bucketsGet c dataName = some d)
    (wk : WellKeyed d) (hnil : X.roaringFromBuffer [] = none) (s s' : Session) (key : UInt64) :
    let r := Gen.onDemandGetCol X (idle s.1 s.2.1 c s.2.2.1) s.2.2.2 { db := some s.1 } key
    let r' := Gen.onDemandGetCol X (idle s'.1 s'.2.1 c s'.2.2.1) s'.2.2.2 { db := some s'.1 } key
    answerOf r.2.1 r.2.2.1 r.2.2.2 = answerOf r'.2.1 r'.2.2.1 r'.2.2.2 ∧ r.1.committed = c ∧ r'.1.committed = c := by
  dsimp only
  obtain ⟨g1, g2⟩ := onDemandGetCol_eq X s.1 s.2.1 c s.2.2.1 s.2.2.2 d key hb wk hnil
  obtain ⟨g1', g2'⟩ := onDemandGetCol_eq X s'.1 s'.2.1 c s'.2.2.1 s'.2.2.2 d key hb wk hnil
  exact ⟨g1.trans g1'.symm, congrArg Bolt.committed g2, congrArg Bolt.committed g2'⟩

section rows
variable (H : Bytes → UInt64)

/-- **The written index, reopened.** Under the hypotheses of `rows_written_opened`: after any number of open/close rounds
the next open still succeeds and still induces `(Writer.addRows H {} rows).toIndex` — so every query gets the answer it
gets on that index. -/
theorem reopen_written_rows (X : Ext) (hroar : ∀ b, X.roaringFromBuffer (X.roaringToBytes b) = some b)
    (rows : List Row) (hfit : FitsCounter rows)
    (hgob : X.gobDecode (X.gobEncode (Writer.addRows H {} rows).schema) = some (Writer.addRows H {} rows).schema)
    (rng : List (UInt64 × Ptr)) (hperm : rng.Perm (genAddRows H ({}, {}) rows).2.values)
    (bolt : Bolt) (db : DBRef) (hdb : db = some bolt.id) (hopen : bolt.closed = false) (hnotx : bolt.tx = none)
    (hfresh : bucketsGet bolt.committed dataName = none) (sess : Nat → Session) (k : Nat) :
    let w := genAddRows H ({}, {}) rows
    let c := (Gen.writeToBoltDatabase X rng bolt w.1 w.2 db).1.committed
    ∃ ix, (openIn X (fileAfter X c sess k) (sess k)).2.2 = (some ix, none) ∧
      absIndex X c ix = (Writer.addRows H {} rows).toIndex ∧
      ∀ q, execute H (absIndex X c ix) q = execute H (Writer.addRows H {} rows).toIndex q := by
  intro w c
  obtain ⟨ix, h1, _, _, h4⟩ :=
    rows_written_opened H X hroar rows hfit hgob rng hperm bolt db hdb hopen hnotx hfresh (sess k)
  refine ⟨ix, ?_, h4, fun q => by rw [h4]⟩
  show (openIn X (fileAfter X c sess k) (sess k)).2.2 = _
  rw [reopen_file_unchanged]
  exact h1

/-- **C01 through the whole chain**: rows added with the generated `AddRow`, flushed with the generated
`WriteToBoltDatabase`, the file opened with the generated `OpenIndexFromBoltDatabase` for the `k+1`-st time — `Execute` on
the induced index returns exactly the number of rows satisfying the expression. -/
theorem count_correct_reopened (X : Ext) (hroar : ∀ b, X.roaringFromBuffer (X.roaringToBytes b) = some b)
    (rows : List Row) (hfit : FitsCounter rows)
    (hgob : X.gobDecode (X.gobEncode (Writer.addRows H {} rows).schema) = some (Writer.addRows H {} rows).schema)
    (rng : List (UInt64 × Ptr)) (hperm : rng.Perm (genAddRows H ({}, {}) rows).2.values)
    (bolt : Bolt) (db : DBRef) (hdb : db = some bolt.id) (hopen : bolt.closed = false) (hnotx : bolt.tx = none)
    (hfresh : bucketsGet bolt.committed dataName = none) (sess : Nat → Session) (k : Nat)
    (e : Expr) (hcols : ∀ c ∈ e.columns, c ∈ columnsOf rows) (hwf : e.arityPos = true)
    (hinj : NoCollision H rows e.pairs) :
    let w := genAddRows H ({}, {}) rows
    let c := (Gen.writeToBoltDatabase X rng bolt w.1 w.2 db).1.committed
    ∃ ix, (openIn X (fileAfter X c sess k) (sess k)).2.2 = (some ix, none) ∧
      execute H (absIndex X c ix) ⟨e, []⟩ = some ⟨specCount rows e, []⟩ := by
  intro w c
  obtain ⟨ix, h1, _, h3⟩ := reopen_written_rows H X hroar rows hfit hgob rng hperm bolt db hdb hopen hnotx hfresh sess k
  exact ⟨ix, h1, by rw [h3]; exact C01.count_correct H rows e hcols hwf hinj⟩

end rows

/-! ### non-vacuity -/

/-- coders that round-trip: bitmaps in unary (`b ↦ b+1` zero bytes, so `FromBuffer(nil)` fails), a schema coder that
    knows the one schema `s0` -/
def unaryExt (s0 : SchemaVal) : Ext where
  roaringToBytes b := List.replicate (b + 1) 0
  roaringFromBuffer bs := if bs.isEmpty then none else some (bs.length - 1)
  gobEncode _ := [1]
  gobDecode _ := some s0

theorem unaryExt_roar (s0 : SchemaVal) (b : Nat) :
    (unaryExt s0).roaringFromBuffer ((unaryExt s0).roaringToBytes b) = some b := by
  simp [unaryExt, List.replicate_succ]

/-- value index = length of the encoded pair (as in `Props/Gen/Open.lean`) -/
def exH : Bytes → UInt64 := fun b => (b.length : Nat).toUInt64
def exRows : List Row := [[([1], [2]), ([1, 5], [3])], [([1], [2])]]
def exExt : Ext := unaryExt (Writer.addRows exH {} exRows).schema

/-- the file: rows added with the generated `AddRow`, flushed with the generated `WriteToBoltDatabase` in REVERSED map
    order into an empty database -/
def exFile : Buckets :=
  (Gen.writeToBoltDatabase exExt (genAddRows exH ({}, {}) exRows).2.values.reverse {} (genAddRows exH ({}, {}) exRows).1
    (genAddRows exH ({}, {}) exRows).2 (some 0)).1.committed

/-- all hypotheses of `rows_written_opened` / `reopen_written_rows` / `count_correct_reopened` hold for it … -/
example : FitsCounter exRows ∧
    exExt.gobDecode (exExt.gobEncode (Writer.addRows exH {} exRows).schema) = some (Writer.addRows exH {} exRows).schema ∧
    (genAddRows exH ({}, {}) exRows).2.values.reverse.Perm (genAddRows exH ({}, {}) exRows).2.values ∧
    bucketsGet ({} : Bolt).committed dataName = none ∧ exExt.roaringFromBuffer [] = none :=
  ⟨by decide +kernel, rfl, List.reverse_perm _, rfl, rfl⟩

example : (genAddRowsIds exH ({}, {}) exRows).map (fun p => (p.1.toNat, p.2)) = [(0, none), (1, none)] :=
  (generated_addRow_ids_fits exH exRows (by decide +kernel)).1

/-- … so the third open (sessions with different handles and heaps) induces the model writer's index, -/
example (sess : Nat → Session) : ∃ ix, (openIn exExt (fileAfter exExt exFile sess 2) (sess 2)).2.2 = (some ix, none) ∧
    absIndex exExt exFile ix = (Writer.addRows exH {} exRows).toIndex := by
  obtain ⟨ix, h1, h2, _⟩ := reopen_written_rows exH exExt (unaryExt_roar _) exRows (by decide +kernel) rfl _ (List.reverse_perm _)
    {} (some 0) rfl rfl rfl rfl sess 2
  exact ⟨ix, h1, h2⟩

/-- the bucket really is what the chain says: cursor order `'I' < 'S' < 'V'…`, counter `00 00 00 02`, bitmaps in unary -/
example : exFile = [([100, 97, 116, 97],
    [([73], [0, 0, 0, 2]), ([83], [1]), ([86, 0, 0, 0, 0, 0, 0, 0, 3], [0, 0, 0, 0]), ([86, 0, 0, 0, 0, 0, 0, 0, 4], [0, 0])])] := by
  decide +kernel

/-- and the model side: value index 3 (pair `1=2`) holds rows {0,1}, value index 4 (pair `15=3`) row {0}, counter 2 -/
example : (Writer.addRows exH {} exRows).toIndex.getCol 3 = some 3 ∧ (Writer.addRows exH {} exRows).toIndex.getCol 4 = some 1 ∧
    (Writer.addRows exH {} exRows).toIndex.next = 2 := by decide +kernel

/-- `reopen_any_number_of_times` needs nothing of the file: a file without header is rejected the same way every time -/
example (sess : Nat → Session) :
    isErr (openIn exExt (fileAfter exExt [([100, 97, 116, 97], [([83], [1])])] sess 5) (sess 5)).2.2.2
      = isErr (openIn exExt [([100, 97, 116, 97], [([83], [1])])] (sess 0)).2.2.2 :=
  (reopen_any_number_of_times exH exExt _ sess 5).1

example : isErr (openIn exExt [([100, 97, 116, 97], [([83], [1])])] (0, 0, [], {})).2.2.2 = true := by decide +kernel

end Updog.C05
