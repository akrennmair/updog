/-
Lemmas about the primitives of `Updog/Basic/GoPreludeT8.lean`: the equation of each on a RUNNING world (`stopped = none`),
that none acts on a stopped one, open(2) under the three open functions, `Go.T8.forEver`; the event classes the theorems
about `updog create` speak of.
-/
import Updog.Basic.GoPreludeT8
namespace Updog.Go

namespace T8

theorem forEver_zero {ρ σ : Type} (s : σ) (body : σ → Step ρ σ) : forEver 0 s body = .spin s := rfl

theorem forEver_ret {ρ σ : Type} (n : Nat) (s : σ) (body : σ → Step ρ σ) (r : ρ) (h : body s = .ret r) :
    forEver (n + 1) s body = .ret r := by simp [forEver, h]

theorem forEver_brk {ρ σ : Type} (n : Nat) (s s' : σ) (body : σ → Step ρ σ) (h : body s = .brk s') :
    forEver (n + 1) s body = .done s' := by simp [forEver, h]

theorem forEver_next {ρ σ : Type} (n : Nat) (s s' : σ) (body : σ → Step ρ σ) (h : body s = .next s') :
    forEver (n + 1) s body = forEver n s' body := by simp [forEver, h]

end T8

namespace Cmd

/-! ### events -/

/-- the events of the record loop -/
def Event.isLoop : Event → Bool
  | .csvRead _ => true
  | .addRow _ _ => true
  | .printf _ => true
  | _ => false

/-- the events that say what happened to the DATA: records read, rows added, the flush -/
def Event.isData : Event → Bool
  | .csvRead _ => true
  | .addRow _ _ => true
  | .flush _ => true
  | _ => false

/-- the events of `(*IndexWriter).Flush` on output path `o`: its `bbolt.Open`, its `db.Close`, the flush itself -/
def Event.isMemFlush (o : Bytes) : Event → Bool
  | .flush _ => true
  | .boltOpen p _ _ _ => p == o
  | .boltClose p => p == o
  | _ => false

/-- the data events of a run, in order -/
def World.data (w : World) : List Event := w.trace.filter Event.isData

@[simp] theorem log_env (w : World) (e : Event) : (log w e).env = w.env := rfl
@[simp] theorem log_fs (w : World) (e : Event) : (log w e).fs = w.fs := rfl
@[simp] theorem log_csvPos (w : World) (e : Event) : (log w e).csvPos = w.csvPos := rfl
@[simp] theorem log_rowsAdded (w : World) (e : Event) : (log w e).rowsAdded = w.rowsAdded := rfl
@[simp] theorem log_stopped (w : World) (e : Event) : (log w e).stopped = w.stopped := rfl
@[simp] theorem log_trace (w : World) (e : Event) : (log w e).trace = w.trace ++ [e] := rfl

theorem act_run {α : Type} (w : World) (d : α) (f : World → World × α) (h : w.stopped = none) : act w d f = f w := by
  simp [act, h]

theorem act_stopped {α : Type} (w : World) (d : α) (f : World → World × α) (h : w.stopped.isSome = true) :
    act w d f = (w, d) := by
  simp [act, h]

@[simp] theorem setAt_same (f : Bytes → Bool) (p : Bytes) (b : Bool) : setAt f p b p = b := by simp [setAt]
theorem setAt_idem (f : Bytes → Bool) (p : Bytes) (b b' : Bool) : setAt (setAt f p b) p b' = setAt f p b' := by
  funext q; by_cases h : q = p <;> simp [setAt, h]
theorem setAt_other (f : Bytes → Bool) (p q : Bytes) (b : Bool) (h : q ≠ p) : setAt f p b q = f q := by simp [setAt, h]
theorem setAt_const (b : Bool) (p : Bytes) : setAt (fun _ => b) p b = fun _ => b := by
  funext q; unfold setAt; split <;> rfl

/-! ### nothing happens in a stopped world -/

section stopped
variable (w : World) (h : w.stopped.isSome = true)
include h
theorem osOpen_stopped (p : Bytes) : (osOpen w p).1 = w :=
  congrArg Prod.fst (act_stopped w _ _ h)
theorem fileClose_stopped (f : File) : (fileClose w f).1 = w :=
  congrArg Prod.fst (act_stopped w _ _ h)
theorem csvRead_stopped (r : Reader) : (csvRead w r).1 = w :=
  congrArg Prod.fst (act_stopped w _ _ h)
theorem osCreateTemp_stopped (a b : Bytes) : (osCreateTemp w a b).1 = w :=
  congrArg Prod.fst (act_stopped w _ _ h)
theorem osRemove_stopped (p : Bytes) : (osRemove w p).1 = w :=
  congrArg Prod.fst (act_stopped w _ _ h)
theorem boltOpen_stopped (p : Bytes) (m : Int) (o : BoltOptions) : (boltOpen w p m o).1 = w :=
  congrArg Prod.fst (act_stopped w _ _ h)
theorem boltClose_stopped (db : DB) : (boltClose w db).1 = w :=
  congrArg Prod.fst (act_stopped w _ _ h)
theorem newBigIndexWriter_stopped (a b : DB) : (newBigIndexWriter w a b).1 = w :=
  congrArg Prod.fst (act_stopped w _ _ h)
theorem bigWriterClose_stopped (x : BigIndexWriter) : (bigWriterClose w x).1 = w :=
  congrArg Prod.fst (act_stopped w _ _ h)
theorem addRow_stopped (iw : indexWriter) (v : Map Bytes) : (addRow w iw v).1 = w :=
  congrArg Prod.fst (act_stopped w _ _ h)
theorem flush_stopped (iw : indexWriter) : (flush w iw).1 = w :=
  congrArg Prod.fst (act_stopped w _ _ h)
theorem printf_stopped (f : Bytes) : (printf w f).1 = w :=
  congrArg Prod.fst (act_stopped w _ _ h)
theorem osExit_stopped (c : Int) : (osExit w c).1 = w :=
  congrArg Prod.fst (act_stopped w _ _ h)
theorem outOfFuel_stopped : outOfFuel w = w := by simp [outOfFuel, h]
theorem mainReturns_stopped : mainReturns w = w := by simp [mainReturns, h]
end stopped

/-! ### open(2) under the three open functions, for bbolt's write flags -/

theorem posixOpen_excl (b : Bool) : posixOpen b (OpenFn.excl.flags boltWriteFlags) = (!b, true, !b) := by
  cases b <;> decide

theorem posixOpen_mustExist (b : Bool) : posixOpen b (OpenFn.mustExist.flags boltWriteFlags) = (b, b, b) := by
  cases b <;> decide

theorem posixOpen_plain (b : Bool) : posixOpen b (OpenFn.osOpenFile.flags boltWriteFlags) = (true, true, true) := by
  cases b <;> decide

/-! ### the primitives on a running world -/

section running
variable (w : World) (h : w.stopped = none)
include h

theorem osOpen_run (p : Bytes) :
    osOpen w p = if w.fs.present p && !w.env.unreadable p then (log w (.osOpen p true), .ok ⟨p⟩)
                 else (log w (.osOpen p false), .error (.ext 10)) := by
  simp [osOpen, act, h]

theorem fileClose_run (f : File) : fileClose w f = (log w (.fileClose f.Name), none) := by
  simp [fileClose, act, h]

theorem csvRead_some (r : Reader) (record : List Bytes) (hr : w.env.csv[w.csvPos]? = some record) :
    csvRead w r = (log { w with csvPos := w.csvPos + 1 } (.csvRead (some record)), .ok record) := by
  unfold csvRead; rw [act_run _ _ _ h]; simp only [hr]

theorem csvRead_none (r : Reader) (hr : w.env.csv[w.csvPos]? = none) :
    csvRead w r = (log w (.csvRead none), .error w.env.csvEnd) := by
  unfold csvRead; rw [act_run _ _ _ h]; simp only [hr]

theorem printf_run (f : Bytes) : printf w f = (log w (.printf f), ()) := by
  simp [printf, act, h]

theorem bigWriterClose_run (x : BigIndexWriter) :
    bigWriterClose w x =
      (log { w with fs := { w.fs with txOpen := setAt w.fs.txOpen x.tempDB.path false } } (.bigWriterClose x.tempDB.path), none) := by
  simp [bigWriterClose, act, h]

theorem boltClose_run (db : DB) :
    boltClose w db = if w.fs.txOpen db.path then ({ w with stopped := some .hang }, none)
                     else (log w (.boltClose db.path), none) := by
  simp [boltClose, act, h]

theorem osRemove_run (p : Bytes) :
    osRemove w p =
      if w.fs.present p then
        (log { w with fs := { w.fs with present := setAt w.fs.present p false, touched := setAt w.fs.touched p true,
                                        complete := setAt w.fs.complete p false } } (.remove p true), none)
      else (log w (.remove p false), some (.ext 13)) := by
  simp [osRemove, act, h]

theorem osExit_run (c : Int) : osExit w c = ({ w with stopped := some (.exit c) }, ()) := by
  simp [osExit, act, h]

theorem osCreateTemp_run (dir pattern : Bytes) :
    osCreateTemp w dir pattern =
      match w.env.tempName with
      | some n =>
        if w.fs.present n then (log w (.createTemp none), .error (.ext 12))
        else (log { w with fs := { w.fs with present := setAt w.fs.present n true } } (.createTemp (some n)), .ok ⟨n⟩)
      | none => (log w (.createTemp none), .error (.ext 12)) := by
  unfold osCreateTemp; rw [act_run _ _ _ h]; rfl

theorem newBigIndexWriter_run (db tempDB : DB) :
    newBigIndexWriter w db tempDB =
      if w.env.bigWriterFails then (log w (.newBigWriter db.path tempDB.path false), .error (.ext 16))
      else (log { w with fs := { w.fs with txOpen := setAt w.fs.txOpen tempDB.path true } }
              (.newBigWriter db.path tempDB.path true), .ok ⟨db, tempDB⟩) := by
  unfold newBigIndexWriter; rw [act_run _ _ _ h]

theorem addRow_run (iw : indexWriter) (hiw : iw ≠ .nil) (values : Map Bytes) :
    addRow w iw values =
      if w.env.addRowFails w.rowsAdded then
        (log { w with rowsAdded := w.rowsAdded + 1 } (.addRow values false), .error (.ext 17))
      else (log { w with rowsAdded := w.rowsAdded + 1 } (.addRow values true), .ok w.rowsAdded.toUInt32) := by
  unfold addRow; rw [act_run _ _ _ h]
  cases iw with
  | nil => exact absurd rfl hiw
  | mem x => rfl
  | big x => rfl

/-- `bbolt.Open` when open(2) refuses: nothing but the event -/
theorem boltOpen_refused (p : Bytes) (m : Int) (o : BoltOptions)
    (hr : (posixOpen (w.fs.present p) (o.OpenFile.flags boltWriteFlags)).1 = false) :
    boltOpen w p m o = (log w (.boltOpen p m o.OpenFile false), .error (.ext 14)) := by
  unfold boltOpen; rw [act_run _ _ _ h]; simp only [hr, Bool.not_false, if_true]

/-- `bbolt.Open` when open(2) succeeds: the file exists afterwards as open(2) says, an existing one counts as touched
    if it can be written through the descriptor; then bbolt's own failure, or the handle -/
theorem boltOpen_opened (p : Bytes) (m : Int) (o : BoltOptions)
    (hr : (posixOpen (w.fs.present p) (o.OpenFile.flags boltWriteFlags)).1 = true) :
    boltOpen w p m o =
      (log { w with fs := { w.fs with
              present := setAt w.fs.present p (posixOpen (w.fs.present p) (o.OpenFile.flags boltWriteFlags)).2.1,
              touched := if w.fs.present p && (posixOpen (w.fs.present p) (o.OpenFile.flags boltWriteFlags)).2.2
                         then setAt w.fs.touched p true else w.fs.touched } }
          (.boltOpen p m o.OpenFile (!w.env.boltFails p)),
       if w.env.boltFails p then .error (.ext 15) else .ok ⟨p⟩) := by
  unfold boltOpen; rw [act_run _ _ _ h]
  cases w.env.boltFails p <;> simp [hr]

theorem flush_big_run (x : BigIndexWriter) :
    flush w (.big x) =
      (log { w with fs := { w.fs with txOpen := setAt w.fs.txOpen x.tempDB.path false,
                                      complete := if w.env.flushFails then w.fs.complete
                                                  else setAt w.fs.complete x.db.path true } } (.flush (!w.env.flushFails)),
       if w.env.flushFails then some (.ext 18) else none) := by
  unfold flush; rw [act_run _ _ _ h]
  cases hf : w.env.flushFails <;> simp [hf]

end running

/-- `Flush` of the in-memory writer on a running world, no transaction open on its output. `opened`: open(2) does not
    refuse (only the exclusive open of an existing output does); `ok`: `bbolt.Open` returned a handle, which is closed
    again; `done`: the index was written. An existing file that was opened counts as touched. -/
theorem flush_mem_run (w : World) (h : w.stopped = none) (o : Bytes) (htx : w.fs.txOpen o = false) :
    flush w (.mem ⟨o⟩) =
      let fn : OpenFn := if w.env.flushExcl then .excl else .osOpenFile
      let opened := !(w.fs.present o && w.env.flushExcl)
      let ok := opened && !w.env.boltFails o
      let done := ok && !w.env.flushFails
      ({ w with
          fs := if opened then
                  { w.fs with present := setAt w.fs.present o true,
                              touched := if w.fs.present o then setAt w.fs.touched o true else w.fs.touched,
                              complete := if done then setAt w.fs.complete o true else w.fs.complete }
                else w.fs,
          trace := w.trace ++ .boltOpen o 420 fn ok :: ((if ok then [.boltClose o] else []) ++ [.flush done]) },
       if !opened then some (.ext 14) else if w.env.boltFails o then some (.ext 15)
       else if w.env.flushFails then some (.ext 18) else none) := by
  unfold flush; rw [act_run _ _ _ h]; dsimp only
  by_cases hb : (w.fs.present o && w.env.flushExcl) = true
  · have hb' := hb
    rw [Bool.and_eq_true] at hb'
    rw [boltOpen_refused w h o 420 _ (by simp [hb'.1, hb'.2, posixOpen_excl])]
    simp [hb'.1, hb'.2, log]
  · have hr : posixOpen (w.fs.present o) (OpenFn.flags (if w.env.flushExcl then .excl else .osOpenFile) boltWriteFlags)
        = (true, true, true) := by
      cases hx : w.env.flushExcl <;> cases hp : w.fs.present o <;> simp [hx, hp, posixOpen_excl, posixOpen_plain] at hb ⊢
    rw [boltOpen_opened w h o 420 _ (by rw [hr]), hr]
    cases hf : w.env.boltFails o
    · simp only [Bool.false_eq_true, if_false]
      cases hff : w.env.flushFails
      · simp only [Bool.false_eq_true, if_false]
        rw [boltClose_run]
        · simp [log, hb, htx]
        · exact h
      · simp only [if_true]
        rw [boltClose_run]
        · simp [log, hb, htx]
        · exact h
    · simp [hb, log]

end Cmd
end Updog.Go
