/-
Helper lemmas for C04: the logical relation `Good`, `evalProg_good`, `step_preserves`, schedules.
-/
import Updog.Proofs.Cache
namespace Updog

section
variable (H : Bytes → UInt64) (ix : Index) (U : List Expr)

/-- an answer a sound cache can give to `Get k` -/
def OkAns (k : UInt64) : Option Nat → Prop
  | none => True
  | some bm => SoundEntry H ix U k bm

/-- `Good p x`: whatever sound answers the cache gives from now on, every `Put` the program does is a correct
    entry, and if it finishes it finishes with `x`. -/
def Good : Prog → Option Nat → Prop
  | .done r, x => r = x
  | .get k cont, x => ∀ a, OkAns H ix U k a → Good (cont a) x
  | .put k bm next, x => SoundEntry H ix U k bm ∧ Good next x

variable {H ix U}

theorem withCacheK_good (hkey : KeyOK H ix U) {e : Expr} (he : e ∈ U) (x : Option Nat)
    (computeK : (Option Nat → Prog) → Prog)
    (hcomp : ∀ k', Good H ix U (k' (eval H ix e)) x → Good H ix U (computeK k') x)
    (k : Option Nat → Prog) (hk : Good H ix U (k (eval H ix e)) x) :
    Good H ix U (withCacheK (cacheKey H e) computeK k) x := by
  unfold withCacheK
  intro a ha
  cases a with
  | some bm =>
    have : eval H ix e = some bm := ha e he rfl
    simp only
    rw [← this]; exact hk
  | none =>
    simp only
    apply hcomp
    cases hv : eval H ix e with
    | none => simp only; rw [← hv]; exact hk
    | some bm =>
      simp only
      refine ⟨soundEntry_of_eval hkey he hv, ?_⟩
      rw [← hv]; exact hk

mutual
theorem evalK_good (hkey : KeyOK H ix U) (hU : SubClosed U) (e : Expr) (he : e ∈ U) (x : Option Nat)
    (k : Option Nat → Prog) (hk : Good H ix U (k (eval H ix e)) x) : Good H ix U (evalK H ix e k) x := by
  match e with
  | .eq c v =>
    unfold evalK
    cases hcol : ix.schema.col c with
    | none =>
      simp only [eval, hcol] at hk
      exact hk
    | some vs =>
      simp only
      apply withCacheK_good hkey he x _ _ k hk
      intro k' hk'
      simp only [eval, hcol] at hk'
      exact hk'
  | .not e1 =>
    unfold evalK
    apply withCacheK_good hkey he x _ _ k hk
    intro k' hk'
    apply evalK_good hkey hU e1 (hU _ he e1 (List.mem_singleton_self e1))
    simpa only [eval] using hk'
  | .and es | .or es =>
    unfold evalK
    apply withCacheK_good hkey he x _ _ k hk
    intro k' hk'
    apply evalListK_good hkey hU es (hU _ he)
    simpa only [eval] using hk'
theorem evalListK_good (hkey : KeyOK H ix U) (hU : SubClosed U) (es : List Expr) (hes : ∀ e ∈ es, e ∈ U)
    (x : Option Nat) (k : Option (List Nat) → Prog) (hk : Good H ix U (k (evalList H ix es)) x) :
    Good H ix U (evalListK H ix es k) x := by
  match es with
  | [] =>
    unfold evalListK
    simpa only [evalList] using hk
  | e :: es' =>
    unfold evalListK
    apply evalK_good hkey hU e (hes e (by simp))
    simp only [evalList] at hk
    cases hv : eval H ix e with
    | none => simp only [hv] at hk ⊢; exact hk
    | some b =>
      simp only [hv] at hk ⊢
      apply evalListK_good hkey hU es' (fun y hy => hes y (by simp [hy]))
      exact hk
end

theorem evalProg_good (hkey : KeyOK H ix U) (hU : SubClosed U) (e : Expr) (he : e ∈ U) :
    Good H ix U (evalProg H ix e) (eval H ix e) := by
  unfold evalProg
  apply evalK_good hkey hU e he
  simp only [Good]

variable {σ : Type} {C : CacheImpl σ} {L : CacheLaws C}

theorem step_preserves {s : σ} (hs : Sound H ix U L s) {p : Prog} {x : Option Nat} (hp : Good H ix U p x) :
    Sound H ix U L (p.step C s).1 ∧ Good H ix U (p.step C s).2 x := by
  cases p with
  | done r => exact ⟨hs, hp⟩
  | get k cont =>
    simp only [Prog.step]
    refine ⟨hs.get k, hp _ ?_⟩
    cases hv : (C.get s k).2 with
    | none => trivial
    | some bm => exact hs.get_ans k bm hv
  | put k bm next =>
    simp only [Prog.step]
    exact ⟨hs.put hp.1, hp.2⟩

/-- the invariant of a run: goroutine `i` is good for `xs[i]` -/
def AllGood (H : Bytes → UInt64) (ix : Index) (U : List Expr) (progs : List Prog) (xs : List (Option Nat)) : Prop :=
  ∀ (i : Nat) (p : Prog), progs[i]? = some p → ∃ x, xs[i]? = some x ∧ Good H ix U p x

theorem runSched_preserves (sched : List Nat) (s : σ) (hs : Sound H ix U L s) (progs : List Prog)
    (xs : List (Option Nat)) (hg : AllGood H ix U progs xs) :
    Sound H ix U L (runSched C s progs sched).1 ∧ AllGood H ix U (runSched C s progs sched).2 xs := by
  induction sched generalizing s progs with
  | nil => exact ⟨hs, hg⟩
  | cons i sched ih =>
    unfold runSched
    cases hp : progs[i]? with
    | none => exact ih s hs progs hg
    | some p =>
      simp only
      obtain ⟨x, hx, hgood⟩ := hg i p hp
      have h := step_preserves (L := L) hs hgood
      apply ih _ h.1
      intro j q hq
      rw [List.getElem?_set] at hq
      split at hq
      · rename_i hij
        subst hij
        split at hq
        · simp only [Option.some.injEq] at hq
          subst hq
          exact ⟨x, hx, h.2⟩
        · simp at hq
      · exact hg j q hq

theorem runSched_length (sched : List Nat) (s : σ) (progs : List Prog) :
    (runSched C s progs sched).2.length = progs.length := by
  induction sched generalizing s progs with
  | nil => rfl
  | cons i sched ih =>
    unfold runSched
    cases progs[i]? with
    | none => exact ih s progs
    | some p => simp only; rw [ih]; simp

theorem allGood_evalProg (hkey : KeyOK H ix U) (hU : SubClosed U) (es : List Expr) (hes : ∀ e ∈ es, e ∈ U) :
    AllGood H ix U (es.map (evalProg H ix)) (es.map (eval H ix)) := by
  intro i p hp
  rw [List.getElem?_map] at hp
  cases he : es[i]? with
  | none => simp [he] at hp
  | some e =>
    simp only [he, Option.map_some, Option.some.injEq] at hp
    subst hp
    refine ⟨eval H ix e, by simp [he], ?_⟩
    exact evalProg_good hkey hU e (hes e (List.mem_of_getElem? he))

/-- The post-processing `Execute` applies to the bitmap (`nil, err` / count and groups); it does not use the cache. -/
def finishQuery (ix : Index) (q : Query) (r : Option Nat) : Option Result :=
  match populateGroupBy ix.schema q.groupBy with
  | none => none
  | some fields =>
    match r with
    | none => none
    | some bm => some ⟨popcount bm, groupBy ix fields bm⟩

theorem finishQuery_eval (H : Bytes → UInt64) (ix : Index) (q : Query) :
    finishQuery ix q (eval H ix q.expr) = execute H ix q := rfl

/-! ### completeness: every program finishes, and the "one after the other" schedule finishes everybody -/

/-- number of atomic steps `p` needs from state `s` when it runs alone -/
def Prog.steps (C : CacheImpl σ) : σ → Prog → Nat
  | _, .done _ => 0
  | s, .get k cont => Prog.steps C (C.get s k).1 (cont (C.get s k).2) + 1
  | s, .put k bm next => Prog.steps C (C.put s k bm) next + 1

theorem set_self_of_getElem? {α} {l : List α} {i : Nat} {a : α} (h : l[i]? = some a) : l.set i a = l := by
  obtain ⟨hi, rfl⟩ := List.getElem?_eq_some_iff.mp h
  exact List.set_getElem_self hi

theorem runSched_append (s : σ) (progs : List Prog) (a b : List Nat) :
    runSched C s progs (a ++ b) =
      runSched C (runSched C s progs a).1 (runSched C s progs a).2 b := by
  induction a generalizing s progs with
  | nil => rfl
  | cons i a ih =>
    simp only [List.cons_append, runSched]
    cases progs[i]? with
    | none => exact ih s progs
    | some p => exact ih _ _

theorem runSched_replicate (s : σ) (progs : List Prog) (i : Nat) (p : Prog) (hp : progs[i]? = some p) :
    runSched C s progs (List.replicate (p.steps C s) i) =
      ((runProg C s p).1, progs.set i (.done (runProg C s p).2)) := by
  induction p generalizing s progs with
  | done r =>
    simp only [Prog.steps, List.replicate_zero, runSched, runProg]
    rw [set_self_of_getElem? hp]
  | get k cont ih =>
    simp only [Prog.steps, List.replicate_succ, runProg]
    unfold runSched
    simp only [hp, Prog.step]
    have hi : i < progs.length := (List.getElem?_eq_some_iff.mp hp).1
    rw [ih _ (C.get s k).1 (progs.set i (cont (C.get s k).2)) (by simp [hi])]
    simp
  | put k bm next ih =>
    simp only [Prog.steps, List.replicate_succ, runProg]
    unfold runSched
    simp only [hp, Prog.step]
    have hi : i < progs.length := (List.getElem?_eq_some_iff.mp hp).1
    rw [ih (C.put s k bm) (progs.set i next) (by simp [hi])]
    simp

/-- run the goroutines `done.length, done.length+1, …` one after the other, each to completion -/
theorem sequential_schedule_finishes (todo : List Prog) (done : List Prog) (s : σ)
    (hd : ∀ p ∈ done, p.isDone = true) :
    ∃ sched, ∀ p ∈ (runSched C s (done ++ todo) sched).2, p.isDone = true := by
  induction todo generalizing done s with
  | nil =>
    refine ⟨[], ?_⟩
    intro p hp
    simp only [runSched, List.append_nil] at hp
    exact hd p hp
  | cons p todo ih =>
    have hp : (done ++ p :: todo)[done.length]? = some p := by simp
    have h1 := runSched_replicate (C := C) s (done ++ p :: todo) done.length p hp
    have hset : (done ++ p :: todo).set done.length (.done (runProg C s p).2) =
        (done ++ [Prog.done (runProg C s p).2]) ++ todo := by
      simp
    obtain ⟨sched2, h2⟩ := ih (done ++ [Prog.done (runProg C s p).2]) (runProg C s p).1 (by
      intro q hq
      simp only [List.mem_append, List.mem_singleton] at hq
      rcases hq with hq | rfl
      · exact hd q hq
      · rfl)
    refine ⟨List.replicate (p.steps C s) done.length ++ sched2, ?_⟩
    intro q hq
    rw [runSched_append, h1] at hq
    simp only [hset] at hq
    exact h2 q hq

end
end Updog
