/-
Definitions and component lemmas for `Updog/Props/Gen/Compose.lean`, which composes the per-function equivalences of
`Updog/Props/Gen/*.lean`. The definitions say how query.go sees the generated pieces — the getters `Gen.onDemandGetCol` /
`Gen.preloadedGetCol`, the group-by functions `Gen.Query_populateGroupBy` / `Gen.Query_groupBy`, the expression knots tied
over the generated method bodies, the index `Gen.openIndexFromBoltDatabase` returns, the file `Gen.indexWriterAddRow` +
`Gen.writeToBoltDatabase` leave behind — and there is one lemma per piece; nothing discharges a refinement hypothesis with a
model-built instance. The content of the written bucket comes from `Updog/Proofs/GenFlushData.lean` (`fileData_spec`).
-/
import Updog.Props.Gen.Eval
import Updog.Props.Gen.Open
import Updog.Props.Gen.GroupBy
import Updog.Props.Gen.Lru
import Updog.Props.C01Getters
import Updog.Props.C03
import Updog.Props.Gen.ServerLoop
import Updog.Props.Gen.Walk
import Updog.Props.Gen.ParseQuery
import Updog.Props.Gen.Writer
import Updog.Props.EndToEnd
import Updog.Proofs.GenFlushData

namespace Updog.GeneratedEq
open Updog.Go.T3

/-! ### 1. what query.go sees of the generated getters -/

/-- Go's `(*roaring.Bitmap, error)` as query.go's translation reads it (`Go.IndexEnv.getCol`): the bitmap behind the
    pointer (`none` = nil) and whether the error is non-nil -/
def goAnswer (hp : Heap) (p : Ptr) (err : Error) : Option Nat × Bool :=
  (p.map fun a => hp.bitmaps.getD a 0, isErr err)

theorem answerOf_goAnswer (hp : Heap) (p : Ptr) (err : Error) :
    answerOf hp p err = if (goAnswer hp p err).2 then .error () else .ok (goAnswer hp p err).1 := rfl

/-- `idx.values.GetCol(key)` when `idx.values` is the on-demand getter `g` over the database `bolt` -/
def genOnDemandGetter (X : Ext) (bolt : Bolt) (hp : Heap) (g : OnDemandColGetter) (key : UInt64) : Option Nat × Bool :=
  let r := Gen.onDemandGetCol X bolt hp g key
  goAnswer r.2.1 r.2.2.1 r.2.2.2

/-- `idx.values.GetCol(key)` when `idx.values` is the preloaded getter `cg` (its bitmaps live in `hp`) -/
def genPreloadedGetter (hp : Heap) (cg : PreloadedColGetter) (key : UInt64) : Option Nat × Bool :=
  goAnswer hp (Gen.preloadedGetCol cg key).1 (Gen.preloadedGetCol cg key).2

/-- dynamic dispatch of `idx.values.GetCol` over the two implementations (a nil interface: Go panics; here an error) -/
def genGetCol (X : Ext) (bolt : Bolt) (hp : Heap) : ColGetter → UInt64 → Option Nat × Bool
  | .onDemand g => genOnDemandGetter X bolt hp g
  | .preloaded cg => genPreloadedGetter hp cg
  | .nil => fun _ => (none, true)

/-- the model index a bbolt bucket `data` stands for, given the decoded schema and counter -/
def fileIndex (X : Ext) (d : BucketData) (s : SchemaVal) (next : UInt32) : Updog.Index :=
  (imageOfData X d).toIndex s next.toNat

theorem fileIndex_next_lt (X : Ext) (d : BucketData) (s : SchemaVal) (next : UInt32) :
    (fileIndex X d s next).next < 2 ^ 32 := next.toNat_lt

theorem refines_of_onDemandAnswer (g : UInt64 → Option Nat × Bool) (img : Image) (s : Schema) (n : Nat)
    (h : ∀ k, (if (g k).2 then Except.error () else Except.ok (g k).1 : GetColAnswer) = onDemandAnswer img k) :
    GetColRefines g (img.toIndex s n) := by
  intro k
  have hk := h k
  simp only [onDemandAnswer, onDemandGet, Image.toIndex] at hk ⊢
  cases hg : img.get k with
  | none =>
    rw [hg] at hk
    cases he : (g k).2 <;> simp [he, Except.map] at hk ⊢
  | some o =>
    rw [hg] at hk
    cases o with
    | none => cases he : (g k).2 <;> simp [he, Except.map] at hk ⊢
    | some b =>
      cases he : (g k).2
      · simp only [he, Except.map, Bool.false_eq_true, if_false, Except.ok.injEq] at hk
        simp [hk]
      · simp [he, Except.map] at hk

theorem refines_of_preloadedAnswer (g : UInt64 → Option Nat × Bool) (img : Image) (s : Schema) (n : Nat)
    (gf : UInt64 → Option Nat) (hgf : preloadOpen img = some gf) (hnd : img.KeysDistinct)
    (h : ∀ k, (if (g k).2 then Except.error () else Except.ok (g k).1 : GetColAnswer) = preloadedAnswer gf k) :
    GetColRefines g (img.toIndex s n) := by
  have hdec : img.AllDecodable := by
    apply Classical.byContradiction
    intro hn
    rw [(C01.preloadOpen_fails_iff img).mpr hn] at hgf
    cases hgf
  rw [C01.preloadOpen_eq img hdec hnd, Option.some.injEq] at hgf
  subst hgf
  intro k
  have hk := h k
  simp only [preloadedAnswer, Image.toIndex] at hk ⊢
  cases he : (g k).2
  · simp only [he, Bool.false_eq_true, if_false, Except.ok.injEq] at hk
    simp [hk]
  · simp [he] at hk

/-- the database handle after a call of the on-demand getter is idle again (so the next call is covered too) -/
theorem genOnDemandGetter_idle (X : Ext) (i n : Nat) (c : Buckets) (cs : List (List PutRec)) (hp : Heap)
    (d : BucketData) (key : UInt64)
    (hb : bucketsGet c dataName = some d) (wk : WellKeyed d) (hnil : X.roaringFromBuffer [] = none) :
    (Gen.onDemandGetCol X (idle i n c cs) hp { db := some i } key).1 = idle i (n + 1) c cs :=
  (onDemandGetCol_eq X i n c cs hp d key hb wk hnil).2

theorem imageOfData_keys_nodup (X : Ext) (d : BucketData) (hs : SortedData d) (wk : WellKeyed d) :
    (imageOfData X d).KeysDistinct := by
  unfold Image.KeysDistinct Image.keys imageOfData
  rw [List.map_map]
  induction d with
  | nil => simp
  | cons kv rest ih =>
    have hs' := List.pairwise_cons.mp hs
    have ih' := ih hs'.2 (fun q hq => wk q (List.mem_cons_of_mem _ hq))
    by_cases hpre : hasPrefix kv.1 [86] = true
    · simp only [List.filter_cons, hpre, if_true, List.map_cons, List.nodup_cons]
      refine ⟨?_, ih'⟩
      intro hmem
      obtain ⟨q, hq, he⟩ := List.mem_map.mp hmem
      have hq' := List.mem_filter.mp hq
      obtain ⟨h1, e1⟩ := wk kv (by simp) hpre
      obtain ⟨h2, e2⟩ := wk q (List.mem_cons_of_mem _ hq'.1) (by simpa using hq'.2)
      simp only [Function.comp, e1, e2, List.drop_succ_cons, List.drop_zero, beUint64_be64] at he
      have hlt := hs'.1 q hq'.1
      rw [e1, e2, he] at hlt
      rw [Updog.bytesLt_irrefl] at hlt
      cases hlt
    · have hpre' : hasPrefix kv.1 [86] = false := by simpa using hpre
      simp only [List.filter_cons, hpre', Bool.false_eq_true, if_false]
      exact ih'

/-! ### 2. the generated group-by functions as the parameters of `Gen.execute` -/

/-- `q.populateGroupBy(cols, idx.schema)` as `Gen.execute` calls it: the hidden `groupByFields` afterwards, and
    whether the returned error is non-nil -/
def genPop (sch : Gen.schema) (q : List Gen.groupBy) (cols : List Bytes) : List Gen.groupBy × Bool :=
  ((Gen.Query_populateGroupBy q cols sch).2, (Gen.Query_populateGroupBy q cols sch).1.isSome)

/-- `vbm, err := idx.values.GetCol(v.Idx); if err != nil { continue }` as `Gen.Query_groupBy` reads a getter:
    an error is `none`. (A nil bitmap WITHOUT error — the preloaded getter on an absent key — is also `none` here,
    where Go's `roaring.And(rg.result, nil)` would dereference nil: see `GenCompose.groupBy_never_sees_nil`.) -/
def errToNone (g : UInt64 → Option Nat × Bool) (k : UInt64) : Option Nat := if (g k).2 then none else (g k).1

theorem errToNone_eq {g : UInt64 → Option Nat × Bool} {ix : Updog.Index} (hg : GetColRefines g ix) :
    errToNone g = ix.getCol := by
  funext k
  have := hg k
  unfold errToNone
  cases he : (g k).2
  · rw [he] at this
    simpa using this
  · rw [he] at this
    simp only [if_true] at this ⊢
    exact this.symm

/-- `q.groupBy(result, idx)` as `Gen.execute` calls it, over the getter `g` -/
def genGrp (g : UInt64 → Option Nat × Bool) (q : List Gen.groupBy) (bm : Nat) : List Gen.ResultGroup :=
  Gen.Query_groupBy (errToNone g) q bm

/-- `GroupByRefines` of Props/Gen/Eval.lean restricted to result bitmaps whose cardinality fits the `uint64` of
    `GetCardinality` — the generated `groupBy` counts with `uint64`, the model with `Nat`, so the unrestricted
    `GroupByRefines` does not hold of the generated function (see `groupBy_eq`). -/
def GroupByRefinesBelow {κ : Type} (ix : Updog.Index) (pop : κ → List Bytes → κ × Bool)
    (grp : κ → Nat → List (Fields × Nat)) : Prop :=
  ∀ q cols, match populateGroupBy ix.schema cols with
    | none => (pop q cols).2 = true
    | some fields => (pop q cols).2 = false ∧
        ∀ bm, popcount bm < 2 ^ 64 → grp (pop q cols).1 bm = Updog.groupBy ix fields bm

theorem GroupByRefines.below {κ : Type} {ix : Updog.Index} {pop : κ → List Bytes → κ × Bool}
    {grp : κ → Nat → List (Fields × Nat)} (h : GroupByRefines ix pop grp) : GroupByRefinesBelow ix pop grp := by
  intro q cols
  have := h q cols
  cases hp : populateGroupBy ix.schema cols with
  | none => rw [hp] at this; exact this
  | some fields => rw [hp] at this; exact ⟨this.1, fun bm _ => this.2 bm⟩

/-! ### 3. `Execute` over an arbitrary node type -/

/-- the model's view of what `Gen.execute` returns -/
def execView {σ : Type} (r : σ × Option (Nat × List Gen.ResultGroup)) : σ × Option Result :=
  (r.1, r.2.map fun p => ⟨p.1, p.2.map groupOf⟩)

section
variable (H : Bytes → UInt64) {σ : Type} (C : CacheImpl σ) (ix : Updog.Index) (g : UInt64 → Option Nat × Bool)

/-- `Gen.execute` on a node `x` of any type that denotes the model expression `den` (`none`: some operand is nil):
    `validateExpr` rejects exactly the trees without denotation (before anything is evaluated), and on the others
    `Execute` is the model's `executeC`; the group-by functions need to agree with the model only on results whose
    cardinality fits 64 bits. -/
theorem execute_view {ε κ : Type} (pop : κ → List Bytes → κ × Bool) (grp : κ → Nat → List Gen.ResultGroup)
    (hpop : GroupByRefinesBelow ix pop fun q bm => (grp q bm).map groupOf) (validate : ε → Bool)
    (subEval : ε → σ → σ × Option Nat)
    (x : ε) (cols : List Bytes) (den : Option Expr) (hval : validate x = den.isNone) (stale : κ) (s : σ)
    (hsub : ∀ e, den = some e → subEval x s = evalC H C ix s e)
    (hcard : ∀ e, den = some e → ∀ bm, (evalC H C ix s e).2 = some bm → popcount bm < 2 ^ 64) :
    execView (Gen.execute (indexEnv C ix g) pop validate subEval grp x cols stale s) =
      match den with
      | none => (s, none)
      | some e => executeC H C ix s ⟨e, cols⟩ := by
  have hp := hpop stale cols
  simp only [execView, Gen.execute, executeC, hval]
  cases hd : den with
  | none => cases (pop stale cols).2 <;> simp
  | some e =>
    simp only [Option.isNone_some, Bool.false_eq_true, ↓reduceIte, hsub e hd]
    have hc := hcard e hd
    cases hpg : populateGroupBy ix.schema cols with
    | none =>
      rw [hpg] at hp
      simp [hp]
    | some fields =>
      rw [hpg] at hp
      simp only [hp.1, Bool.false_eq_true, ↓reduceIte]
      generalize evalC H C ix s e = r at hc
      obtain ⟨s1, o⟩ := r
      cases o with
      | none => simp
      | some bm => simp [← hp.2 bm (hc bm rfl), Go.bmCardinality_eq]

end

/-! ### 4. the recursive knots over the Go `Expression` interface (`Go.Lib.Expression`, nil operands included) -/

section congr
variable (H : Bytes → UInt64) {σ : Type}

theorem evalAnd_loop_congr (env : Go.IndexEnv σ) {ε ε' : Type} (k : ε → UInt64) (f : ε → σ → σ × Option Nat)
    (k' : ε' → UInt64) (f' : ε' → σ → σ × Option Nat) (all : List ε) (all' : List ε') (xs : List ε) (xs' : List ε')
    (hf : List.Forall₂ (fun x x' => ∀ s, f x s = f' x' s) xs xs') (s : σ) (acc : List (Option Nat)) :
    Gen.evalAnd_loop H env k f all xs s acc = Gen.evalAnd_loop H env k' f' all' xs' s acc := by
  induction hf generalizing s acc with
  | nil => rfl
  | cons h _ ih =>
    simp only [Gen.evalAnd_loop, h]
    split
    · rfl
    · exact ih _ _

theorem evalOr_loop_congr (env : Go.IndexEnv σ) {ε ε' : Type} (k : ε → UInt64) (f : ε → σ → σ × Option Nat)
    (k' : ε' → UInt64) (f' : ε' → σ → σ × Option Nat) (all : List ε) (all' : List ε') (xs : List ε) (xs' : List ε')
    (hf : List.Forall₂ (fun x x' => ∀ s, f x s = f' x' s) xs xs') (s : σ) (acc : List (Option Nat)) :
    Gen.evalOr_loop H env k f all xs s acc = Gen.evalOr_loop H env k' f' all' xs' s acc := by
  induction hf generalizing s acc with
  | nil => rfl
  | cons h _ ih =>
    simp only [Gen.evalOr_loop, h]
    split
    · rfl
    · exact ih _ _

variable (C : CacheImpl σ) (ix : Updog.Index) (g : UInt64 → Option Nat × Bool)

/-- the generated `eval` bodies use their operands only through `cacheKey()` and `eval(idx)`: on operands of any type
    that have the cache keys and the evaluations of model expressions, they are `evalC` of the composed expression -/
theorem evalNot_den {ε : Type} (hnext : ix.next < 2 ^ 32) (k : ε → UInt64) (f : ε → σ → σ × Option Nat) (x : ε) (e : Expr)
    (hk : k x = cacheKey H e) (hf : ∀ s, f x s = evalC H C ix s e) (s : σ) :
    Gen.evalNot H (indexEnv C ix g) k f x s = evalC H C ix s (.not e) := by
  rw [← evalNot_eq H C ix g hnext (fun e s => evalC H C ix s e) e (fun _ => rfl) s]
  simp only [Gen.evalNot, hk, hf]

theorem evalAnd_den {ε : Type} (k : ε → UInt64) (f : ε → σ → σ × Option Nat) (xs : List ε) (es : List Expr)
    (hk : xs.map k = es.map (cacheKey H)) (hf : List.Forall₂ (fun x e => ∀ s, f x s = evalC H C ix s e) xs es) (s : σ) :
    Gen.evalAnd H (indexEnv C ix g) k f xs s = evalC H C ix s (.and es) := by
  rw [← evalAnd_eq H C ix g (fun e s => evalC H C ix s e) es (fun _ _ _ => rfl) s]
  simp only [Gen.evalAnd, hk, evalAnd_loop_congr H _ k f (cacheKey H) (fun e s => evalC H C ix s e) xs es xs es hf]

theorem evalOr_den {ε : Type} (k : ε → UInt64) (f : ε → σ → σ × Option Nat) (xs : List ε) (es : List Expr)
    (hk : xs.map k = es.map (cacheKey H)) (hf : List.Forall₂ (fun x e => ∀ s, f x s = evalC H C ix s e) xs es) (s : σ) :
    Gen.evalOr H (indexEnv C ix g) k f xs s = evalC H C ix s (.or es) := by
  rw [← evalOr_eq H C ix g (fun e s => evalC H C ix s e) es (fun _ _ _ => rfl) s]
  simp only [Gen.evalOr, hk, evalOr_loop_congr H _ k f (cacheKey H) (fun e s => evalC H C ix s e) xs es xs es hf]

end congr

/-- what `switch v := e.(type)` sees of a value of the `Expression` interface: nil is the `default` case; typed nil
    pointers are not representable in `Go.Lib.Expression` (the translated code never creates them) -/
def libCase : Go.Lib.Expression → Go.ExprCase Go.Lib.Expression
  | .nil => .other
  | .equal _ _ => .equal false
  | .not e => .not false e
  | .and es => .and false es
  | .or es => .or false es

mutual
/-- nesting depth of a library expression (a leaf, also nil, has depth 1) -/
def libDepth : Go.Lib.Expression → Nat
  | .nil => 1
  | .equal _ _ => 1
  | .not e => libDepth e + 1
  | .and es => libDepthL es + 1
  | .or es => libDepthL es + 1
def libDepthL : List Go.Lib.Expression → Nat
  | [] => 0
  | e :: r => max (libDepth e) (libDepthL r)
end

theorem libDepth_pos (le : Go.Lib.Expression) : 0 < libDepth le := by
  cases le <;> simp only [libDepth, Nat.lt_add_one, Nat.zero_lt_succ]

theorem libDepth_le_depthL (es : List Go.Lib.Expression) : ∀ e ∈ es, libDepth e ≤ libDepthL es := by
  induction es with
  | nil => intro e h; cases h
  | cons x r ih =>
    intro e h
    rw [libDepthL]
    rcases List.mem_cons.mp h with rfl | h
    · omega
    · have := ih e h; omega

/-- dynamic dispatch of `cacheKey()` over the generated method bodies, `fuel` levels deep (nil receiver: Go panics) -/
def libKey (H : Bytes → UInt64) : Nat → Go.Lib.Expression → UInt64
  | 0, _ => 0
  | _ + 1, .nil => 0
  | _ + 1, .equal c v => Gen.cacheKeyEqual H c v
  | n + 1, .not e => Gen.cacheKeyNot H (libKey H n e)
  | n + 1, .and es => Gen.cacheKeyAnd H (es.map (libKey H n))
  | n + 1, .or es => Gen.cacheKeyOr H (es.map (libKey H n))

/-- dynamic dispatch of `eval(idx)` over the generated method bodies, `fuel` levels deep (nil receiver: Go panics;
    here an error) -/
def libEval (H : Bytes → UInt64) {σ : Type} (env : Go.IndexEnv σ) : Nat → Go.Lib.Expression → σ → σ × Option Nat
  | 0, _, s => (s, none)
  | _ + 1, .nil, s => (s, none)
  | _ + 1, .equal c v, s => Gen.evalEqual H env c v s
  | n + 1, .not e, s => Gen.evalNot H env (libKey H n) (libEval H env n) e s
  | n + 1, .and es, s => Gen.evalAnd H env (libKey H n) (libEval H env n) es s
  | n + 1, .or es, s => Gen.evalOr H env (libKey H n) (libEval H env n) es s

theorem libCompleteL_forall₂ : ∀ (les : List Go.Lib.Expression) (es : List Expr), libCompleteL les = some es →
    List.Forall₂ (fun le e => libComplete le = some e) les es := by
  intro les
  induction les with
  | nil => intro es h; cases h; exact .nil
  | cons le r ih =>
    intro es h
    rw [libCompleteL] at h
    split at h
    · cases h
    · rename_i e hle
      obtain ⟨es', hr, rfl⟩ := Option.map_eq_some_iff.mp h
      exact .cons hle (ih es' hr)

section
variable (H : Bytes → UInt64)

theorem libKeys_eq (n : Nat)
    (ih : ∀ le e, libComplete le = some e → libDepth le ≤ n → libKey H n le = cacheKey H e)
    (les : List Go.Lib.Expression) (es : List Expr) (h : List.Forall₂ (fun le e => libComplete le = some e) les es)
    (hd : libDepthL les ≤ n) : les.map (libKey H n) = es.map (cacheKey H) := by
  induction h with
  | nil => rfl
  | cons hle _ ihr =>
    rw [libDepthL] at hd
    simp only [List.map_cons]
    rw [ih _ _ hle (by omega), ihr (by omega)]

theorem libKey_eq (n : Nat) : ∀ (le : Go.Lib.Expression) (e : Expr), libComplete le = some e → libDepth le ≤ n →
    libKey H n le = cacheKey H e := by
  induction n with
  | zero => intro le e _ hd; exact absurd hd (Nat.not_le.mpr (libDepth_pos le))
  | succ n ih =>
    intro le e hc hd
    cases le with
    | nil => simp [libComplete] at hc
    | equal c v =>
      simp only [libComplete, Option.some.injEq] at hc
      subst hc
      exact cacheKeyEqual_eq H c v
    | not le' =>
      rw [libComplete] at hc
      obtain ⟨e', h1, rfl⟩ := Option.map_eq_some_iff.mp hc
      rw [libDepth] at hd
      rw [libKey, ih le' e' h1 (by omega), cacheKeyNot_eq]
    | and les =>
      rw [libComplete] at hc
      obtain ⟨es, h1, rfl⟩ := Option.map_eq_some_iff.mp hc
      rw [libDepth] at hd
      rw [libKey, libKeys_eq H n ih les es (libCompleteL_forall₂ les es h1) (by omega), map_cacheKey, cacheKeyAnd_eq]
    | or les =>
      rw [libComplete] at hc
      obtain ⟨es, h1, rfl⟩ := Option.map_eq_some_iff.mp hc
      rw [libDepth] at hd
      rw [libKey, libKeys_eq H n ih les es (libCompleteL_forall₂ les es h1) (by omega), map_cacheKey, cacheKeyOr_eq]

variable {σ : Type} (C : CacheImpl σ) (ix : Updog.Index) (g : UInt64 → Option Nat × Bool)

theorem libEvals_eq (n : Nat)
    (ih : ∀ le e, libComplete le = some e → libDepth le ≤ n → ∀ s, libEval H (indexEnv C ix g) n le s = evalC H C ix s e)
    (les : List Go.Lib.Expression) (es : List Expr) (h : List.Forall₂ (fun le e => libComplete le = some e) les es)
    (hd : libDepthL les ≤ n) :
    List.Forall₂ (fun le e => ∀ s, libEval H (indexEnv C ix g) n le s = evalC H C ix s e) les es := by
  induction h with
  | nil => exact .nil
  | cons hle _ ihr =>
    rw [libDepthL] at hd
    exact .cons (ih _ _ hle (by omega)) (ihr (by omega))

/-- **with enough fuel the generated `eval` knot over the `Expression` interface is the model's `evalC`** of the
    denoted expression, for every getter that refines the index -/
theorem libEval_eq (hg : GetColRefines g ix) (hnext : ix.next < 2 ^ 32) (n : Nat) :
    ∀ (le : Go.Lib.Expression) (e : Expr), libComplete le = some e → libDepth le ≤ n →
      ∀ s, libEval H (indexEnv C ix g) n le s = evalC H C ix s e := by
  induction n with
  | zero => intro le e _ hd; exact absurd hd (Nat.not_le.mpr (libDepth_pos le))
  | succ n ih =>
    intro le e hc hd s
    cases le with
    | nil => simp [libComplete] at hc
    | equal c v =>
      simp only [libComplete, Option.some.injEq] at hc
      subst hc
      exact evalEqual_eq H C ix g hg c v s
    | not le' =>
      rw [libComplete] at hc
      obtain ⟨e', h1, rfl⟩ := Option.map_eq_some_iff.mp hc
      rw [libDepth] at hd
      rw [libEval]
      exact evalNot_den H C ix g hnext _ _ le' e' (libKey_eq H n le' e' h1 (by omega)) (ih le' e' h1 (by omega)) s
    | and les =>
      rw [libComplete] at hc
      obtain ⟨es, h1, rfl⟩ := Option.map_eq_some_iff.mp hc
      rw [libDepth] at hd
      have hf := libCompleteL_forall₂ les es h1
      rw [libEval]
      exact evalAnd_den H C ix g _ _ les es (libKeys_eq H n (libKey_eq H n) les es hf (by omega))
        (libEvals_eq H C ix g n ih les es hf (by omega)) s
    | or les =>
      rw [libComplete] at hc
      obtain ⟨es, h1, rfl⟩ := Option.map_eq_some_iff.mp hc
      rw [libDepth] at hd
      have hf := libCompleteL_forall₂ les es h1
      rw [libEval]
      exact evalOr_den H C ix g _ _ les es (libKeys_eq H n (libKey_eq H n) les es hf (by omega))
        (libEvals_eq H C ix g n ih les es hf (by omega)) s

end

theorem libCompleteL_isNone (les : List Go.Lib.Expression) :
    (libCompleteL les).isNone = les.any (fun le => (libComplete le).isNone) := by
  induction les with
  | nil => simp [libCompleteL]
  | cons le r ih =>
    rw [libCompleteL, List.any_cons, ← ih]
    cases libComplete le <;> cases libCompleteL r <;> simp

/-- **with enough fuel the generated `validateExpr` knot rejects exactly the trees with a nil operand** -/
theorem genValidate_lib (n : Nat) : ∀ (le : Go.Lib.Expression), libDepth le ≤ n →
    genValidate libCase n le = (libComplete le).isNone := by
  induction n with
  | zero => intro le hd; exact absurd hd (Nat.not_le.mpr (libDepth_pos le))
  | succ n ih =>
    intro le hd
    have hany : ∀ les : List Go.Lib.Expression, libDepthL les ≤ n →
        les.any (genValidate libCase n) = (libCompleteL les).isNone := by
      intro les
      induction les with
      | nil => intro _; simp [libCompleteL]
      | cons x r ihr =>
        intro hl
        rw [libDepthL] at hl
        rw [List.any_cons, libCompleteL, ih x (by omega), ihr (by omega)]
        cases libComplete x <;> cases libCompleteL r <;> simp
    rw [genValidate, validateExpr_eq]
    cases le with
    | nil => simp [libCase, libComplete]
    | equal c v => simp [libCase, libComplete]
    | not le' =>
      rw [libDepth] at hd
      simp only [libCase, Bool.false_or, libComplete, ih le' (by omega)]
      cases libComplete le' <;> rfl
    | and les =>
      rw [libDepth] at hd
      simp only [libCase, Bool.false_or, libComplete, hany les (by omega)]
      cases libCompleteL les <;> rfl
    | or les =>
      rw [libDepth] at hd
      simp only [libCase, Bool.false_or, libComplete, hany les (by omega)]
      cases libCompleteL les <;> rfl

/-! model expressions as values of the `Expression` interface -/

mutual
def toLib : Expr → Go.Lib.Expression
  | .eq c v => .equal c v
  | .not e => .not (toLib e)
  | .and es => .and (toLibL es)
  | .or es => .or (toLibL es)
def toLibL : List Expr → List Go.Lib.Expression
  | [] => []
  | e :: r => toLib e :: toLibL r
end

mutual
theorem libComplete_toLib (e : Expr) : libComplete (toLib e) = some e :=
  match e with
  | .eq c v => by simp [toLib, libComplete]
  | .not e => by simp [toLib, libComplete, libComplete_toLib e]
  | .and es => by simp [toLib, libComplete, libCompleteL_toLibL es]
  | .or es => by simp [toLib, libComplete, libCompleteL_toLibL es]
theorem libCompleteL_toLibL (es : List Expr) : libCompleteL (toLibL es) = some es :=
  match es with
  | [] => by simp [toLibL, libCompleteL]
  | e :: r => by simp [toLibL, libCompleteL, libComplete_toLib e, libCompleteL_toLibL r]
end

mutual
theorem libDepth_toLib (e : Expr) : libDepth (toLib e) = exprDepth e :=
  match e with
  | .eq c v => by simp [toLib, libDepth, exprDepth]
  | .not e => by simp [toLib, libDepth, exprDepth, libDepth_toLib e]
  | .and es => by simp [toLib, libDepth, exprDepth, libDepthL_toLibL es]
  | .or es => by simp [toLib, libDepth, exprDepth, libDepthL_toLibL es]
theorem libDepthL_toLibL (es : List Expr) : libDepthL (toLibL es) = exprDepthList es :=
  match es with
  | [] => by simp [toLibL, libDepthL, exprDepthList]
  | e :: r => by simp [toLibL, libDepthL, exprDepthList, libDepth_toLib e, libDepthL_toLibL r]
end

/-! ### 5. the index returned by the generated `OpenIndexFromBoltDatabase`, as query.go sees it -/

/-- a bbolt file that holds an updog index: bucket `data` with a decodable schema `s`, a 4-byte counter `next`, and
    value keys of the form `'V' ‖ be64 valueIndex` -/
structure FileOK (X : Ext) (c : Buckets) (d : BucketData) (s : SchemaVal) (next : UInt32) : Prop where
  bucket : bucketsGet c dataName = some d
  schema : ∃ sb, dataGet d [83] = some sb ∧ X.gobDecode sb = some s
  counter : ∃ cb, dataGet d [73] = some cb ∧ cb.length = 4 ∧ beUint32 cb = next
  wellKeyed : WellKeyed d

/-- `updog.OpenIndex(file)` / `updog.OpenIndex(file, WithPreloadedData())` -/
def openOpts (X : Ext) (preload : Bool) : List IndexOption := if preload then [Gen.withPreloadedData X] else []

/-- the index value the generated open builds -/
def openedIndex (i : Nat) (s : SchemaVal) (next : UInt32) (values : ColGetter) : Go.T3.Index :=
  { schema := some s, nextRowID := next, db := some i, values := values, cache := .nullCache, metrics := .fresh }

theorem open_noPreload_ok (X : Ext) (i n : Nat) (c : Buckets) (cs : List (List PutRec)) (hp : Heap)
    (d : BucketData) (s : SchemaVal) (next : UInt32) (ok : FileOK X c d s next) :
    Gen.openIndexFromBoltDatabase X (idle i n c cs) hp (some i) []
      = (idle i (n + 1) c cs, hp, some (openedIndex i s next (.onDemand { db := some i })), none) := by
  obtain ⟨sb, h2, h3⟩ := ok.schema
  obtain ⟨cb, h4, h5, h6⟩ := ok.counter
  rw [openIndex_noPreload_result X i n c cs hp d sb cb s ok.bucket h2 h3 h4 h5, h6]
  rfl

theorem open_preload_ok (X : Ext) (i n : Nat) (c : Buckets) (cs : List (List PutRec)) (hp : Heap)
    (d : BucketData) (s : SchemaVal) (next : UInt32) (ok : FileOK X c d s next)
    (hs : SortedData d) (hdec : vDecodable X d = true) :
    ∃ cg, (Gen.newPreloadedColGetter X (idle i (n + 1) c cs) hp (some i)).2.2.1 = .preloaded cg ∧
      Gen.openIndexFromBoltDatabase X (idle i n c cs) hp (some i) [Gen.withPreloadedData X]
        = (idle i (n + 2) c cs, (Gen.newPreloadedColGetter X (idle i (n + 1) c cs) hp (some i)).2.1,
           some (openedIndex i s next (.preloaded cg)), none) := by
  obtain ⟨sb, h2, h3⟩ := ok.schema
  obtain ⟨cb, h4, h5, h6⟩ := ok.counter
  have hv := open_view X i n c cs hp [Gen.withPreloadedData X]
  have hok : headerOK X c = true := by simp [headerOK, ok.bucket, blobOf, counterOf, h2, h3, h4, h5]
  simp only [hok, if_true] at hv
  obtain ⟨d', sb', s', cb', g1, g2, g3, g4, _, hr⟩ := hv
  cases ok.bucket.symm.trans g1
  cases h2.symm.trans g2
  cases h3.symm.trans g3
  cases h4.symm.trans g4
  have hp' := newPreloaded_spec X i (n + 1) c cs hp d ok.bucket hs
  simp only at hp'
  obtain ⟨q1, q2⟩ := hp'
  obtain ⟨gfun, hpo⟩ : ∃ gfun, preloadOpen (imageOfData X d) = some gfun := Option.ne_none_iff_exists'.mp fun h =>
    (preloadFold_eq_none_iff (imageOfData X d) fun _ => none).mp h ((vDecodable_iff X d).mp hdec)
  rw [hpo] at q2
  obtain ⟨q3, cg, q4, _⟩ := q2
  refine ⟨cg, q4, ?_⟩
  unfold idle
  rw [hr]
  generalize hg : Gen.newPreloadedColGetter X { id := i, closed := false, committed := c, tx := none, nextTx := n + 1, commits := cs } hp (some i) = g at q1 q3 q4
  obtain ⟨gb, ghp, gcg, gerr⟩ := g
  simp only at q1 q3 q4
  subst q1 q3 q4
  simp only [openTail, forRange, Gen.openIndexFromBoltDatabase_loop1, Gen.withPreloadedData, hg, isErr_none,
    Bool.false_eq_true, if_false, ColGetter.isNil, openedIndex, h6, nilError]

/-- what the translated methods of query.go see of the `*Index` the generated open returned, with the cache `C` in
    `idx.cache`: `_, ok := idx.schema.Columns[c]`, `idx.values.GetCol` (the generated getters), `idx.nextRowID` -/
def genIndexEnv {σ : Type} (C : CacheImpl σ) (X : Ext) (bolt : Bolt) (hp : Heap) (idx : Go.T3.Index) : Go.IndexEnv σ where
  cacheGet := C.get
  cachePut := C.put
  hasColumn := fun c => (Go.mapLookup (schemaTo (idx.schema.getD [])).Columns c).isSome
  getCol := genGetCol X bolt hp idx.values
  nextRowID := idx.nextRowID

theorem genIndexEnv_eq {σ : Type} (C : CacheImpl σ) (X : Ext) (bolt : Bolt) (hp : Heap) (i : Nat) (d : BucketData)
    (s : SchemaVal) (next : UInt32) (vals : ColGetter) :
    genIndexEnv C X bolt hp (openedIndex i s next vals) = indexEnv C (fileIndex X d s next) (genGetCol X bolt hp vals) := by
  have h1 : ∀ c, (Go.mapLookup (schemaTo s).Columns c).isSome = (Schema.col s c).isSome := by
    intro c
    have := mapLookup_columns (schemaTo s).Columns c
    have e : ((schemaTo s).Columns.map fun cv => (cv.1, cv.2.Values)) = s := schemaOf_schemaTo s
    rw [e] at this
    rw [← this]
    cases Go.mapLookup (schemaTo s).Columns c <;> rfl
  have h2 : UInt32.ofNat next.toNat = next := UInt32.ofNat_toNat
  simp only [genIndexEnv, indexEnv, openedIndex, fileIndex, Image.toIndex, Option.getD_some, h1, h2]

/-! ### 6. `(*Index).Execute`, every part regenerated: the definition -/

/-- the library's `Result` (T5 structures) made of what `Gen.execute` returns (T1/T6 structures): the same Go value -/
def libResultOf (r : Nat × List Gen.ResultGroup) : Go.Lib.Result :=
  ⟨r.1.toUInt64, r.2.map fun g => ⟨g.Fields.map fun f => ⟨f.Column, f.Value⟩, g.Count⟩⟩

theorem resultOfGo_libResultOf (r : Nat × List Gen.ResultGroup) (h : r.1 < 2 ^ 64) :
    resultOfGo (libResultOf r) = ⟨r.1, r.2.map groupOf⟩ := by
  simp only [resultOfGo, libResultOf, toNat_toUInt64 _ h, List.map_map, Result.mk.injEq, true_and]
  apply List.map_congr_left
  intro g _
  simp [groupOf, fieldOf, Function.comp_def]

/-- **`(*Index).Execute(q)`, all generated**: the generated `Execute` body run on the index the generated open
    returned (`genIndexEnv`: generated getters), with the generated `populateGroupBy` / `groupBy`, the generated
    `validateExpr` knot and the generated `eval` / `cacheKey` knots tied `libDepth q.Expr` levels deep. `stale` is the
    `groupByFields` left in the query object by earlier executions, `s` the state of the cache. -/
def genExecute (H : Bytes → UInt64) {σ : Type} (C : CacheImpl σ) (X : Ext) (bolt : Bolt) (hp : Heap) (idx : Go.T3.Index)
    (q : Go.Lib.Query) (stale : List Gen.groupBy) (s : σ) : σ × Option (Nat × List Gen.ResultGroup) :=
  Gen.execute (genIndexEnv C X bolt hp idx) (genPop (schemaTo (idx.schema.getD [])))
    (genValidate libCase (libDepth q.Expr)) (libEval H (genIndexEnv C X bolt hp idx) (libDepth q.Expr))
    (genGrp (genIndexEnv C X bolt hp idx).getCol) q.Expr q.GroupBy stale s

/-! ### 7. files that hold a written index -/

/-- bucket `data` holds the index of the writer state `w` (what `WriteToBoltDatabase` stores, read back through the
    coders `X`): the gob schema decodes to `w.schema`, the counter is `w.next`, and the value keys are exactly
    `'V' ‖ be64 valueIndex` with the serialised bitmaps of `w.vals` -/
structure HoldsWriter (X : Ext) (d : BucketData) (w : Writer) (next : UInt32) : Prop where
  schema : ∃ sb, dataGet d [83] = some sb ∧ X.gobDecode sb = some w.schema
  counter : ∃ cb, dataGet d [73] = some cb ∧ cb.length = 4 ∧ beUint32 cb = next
  next_eq : next.toNat = w.next
  wellKeyed : WellKeyed d
  values : ∀ k : UInt64, (dataGet d (86 :: be64 k.toNat)).map X.roaringFromBuffer = (w.vals.get k).map some

theorem HoldsWriter.fileOK {X : Ext} {c : Buckets} {d : BucketData} {w : Writer} {next : UInt32}
    (h : HoldsWriter X d w next) (hb : bucketsGet c dataName = some d) : FileOK X c d w.schema next :=
  ⟨hb, h.schema, h.counter, h.wellKeyed⟩

theorem HoldsWriter.fileIndex_eq {X : Ext} {d : BucketData} {w : Writer} {next : UInt32}
    (h : HoldsWriter X d w next) : fileIndex X d w.schema next = w.toIndex := by
  simp only [fileIndex, Image.toIndex, Writer.toIndex, h.next_eq, Index.mk.injEq, true_and]
  funext k
  rw [get_imageOfData X d h.wellKeyed k, h.values k]
  cases w.vals.get k <;> rfl

theorem dataGet_of_mem_sorted (d : BucketData) (hs : SortedData d) (kv : Bytes × Bytes) (hm : kv ∈ d) :
    dataGet d kv.1 = some kv.2 := by
  induction d with
  | nil => cases hm
  | cons x rest ih =>
    have hs' := List.pairwise_cons.mp hs
    rcases List.mem_cons.mp hm with rfl | hm'
    · simp [dataGet]
    · have hlt := hs'.1 kv hm'
      have hne : ¬ x.1 = kv.1 := Updog.bytesLt_ne hlt
      have : (x.1 == kv.1) = false := by simpa using hne
      obtain ⟨xk, xv⟩ := x
      simp only [dataGet, this, Bool.false_eq_true, if_false]
      exact ih hs'.2 hm'

/-- in bbolt's key order every stored bitmap of such a file decodes, so `WithPreloadedData` succeeds -/
theorem HoldsWriter.vDecodable {X : Ext} {d : BucketData} {w : Writer} {next : UInt32}
    (h : HoldsWriter X d w next) (hs : SortedData d) : vDecodable X d = true := by
  unfold GeneratedEq.vDecodable
  rw [List.all_eq_true]
  intro kv hkv
  have hkv' := List.mem_filter.mp hkv
  obtain ⟨k, hk⟩ := h.wellKeyed kv hkv'.1 hkv'.2
  have hget := dataGet_of_mem_sorted d hs kv hkv'.1
  have hv := h.values k
  rw [← hk, hget] at hv
  cases hw : w.vals.get k with
  | none => rw [hw] at hv; simp at hv
  | some b => rw [hw] at hv; simp only [Option.map_some, Option.some.injEq] at hv; simp [hv]

/-! bitmaps of a written index only hold row ids below the counter -/

section
variable (H : Bytes → UInt64)

variable {ix : Updog.Index}

mutual
theorem eval_bits_lt (hix : ∀ k i, ix.next ≤ i → ((ix.getCol k).getD 0).testBit i = false) (e : Expr) (b : Nat)
    (h : eval H ix e = some b) : ∀ i, ix.next ≤ i → b.testBit i = false :=
  match e with
  | .eq c v => by
    intro i hi
    simp only [eval] at h
    split at h
    · cases h
    · cases h; exact hix _ i hi
  | .not e' => by
    intro i hi
    simp only [eval] at h
    cases he : eval H ix e' with
    | none => rw [he] at h; cases h
    | some b' =>
      rw [he] at h
      cases h
      rw [testBit_flip, eval_bits_lt hix e' b' he i hi, decide_eq_false (Nat.not_lt.mpr hi)]
      rfl
  | .and es => by
    intro i hi
    simp only [eval] at h
    cases he : evalList H ix es with
    | none => rw [he] at h; cases h
    | some bs =>
      rw [he] at h
      cases h
      rw [testBit_andAll]
      cases bs with
      | nil => rfl
      | cons b0 r => simp [evalList_bits_lt hix es (b0 :: r) he b0 List.mem_cons_self i hi]
  | .or es => by
    intro i hi
    simp only [eval] at h
    cases he : evalList H ix es with
    | none => rw [he] at h; cases h
    | some bs =>
      rw [he] at h
      cases h
      rw [testBit_orAll, List.any_eq_false]
      intro x hx
      simp [evalList_bits_lt hix es bs he x hx i hi]
theorem evalList_bits_lt (hix : ∀ k i, ix.next ≤ i → ((ix.getCol k).getD 0).testBit i = false) (es : List Expr)
    (bs : List Nat) (h : evalList H ix es = some bs) :
    ∀ b ∈ bs, ∀ i, ix.next ≤ i → b.testBit i = false :=
  match es with
  | [] => by
    cases h
    intro b hb; cases hb
  | e :: r => by
    simp only [evalList] at h
    cases he : eval H ix e with
    | none => rw [he] at h; cases h
    | some b0 =>
      rw [he] at h
      cases hr : evalList H ix r with
      | none => rw [hr] at h; cases h
      | some bs' =>
        rw [hr] at h
        cases h
        intro b hb
        rcases List.mem_cons.mp hb with rfl | hb
        · exact eval_bits_lt hix e _ he
        · exact evalList_bits_lt hix r bs' hr b hb
end

theorem written_bits_lt (rows : List Row) (k : UInt64) (i : Nat)
    (hi : (Writer.addRows H {} rows).toIndex.next ≤ i) :
    (((Writer.addRows H {} rows).toIndex.getCol k).getD 0).testBit i = false := by
  have hw := winv_addRows H rows
  have hn : (Writer.addRows H {} rows).toIndex.next = rows.length := hw.next
  show (((Writer.addRows H {} rows).vals.get k).getD 0).testBit i = false
  rw [hw.vals, rowHas, List.getElem?_eq_none (by omega)]

theorem evalList_bits_bound (rows : List Row) (es : List Expr) (bs : List Nat)
    (h : evalList H (Writer.addRows H {} rows).toIndex es = some bs) :
    ∀ b ∈ bs, ∀ i, rows.length ≤ i → b.testBit i = false := by
  have := evalList_bits_lt H (written_bits_lt H rows) es bs h
  rwa [show (Writer.addRows H {} rows).toIndex.next = rows.length from (winv_addRows H rows).next] at this

theorem countBelow_le (b n : Nat) : countBelow b n ≤ n := by
  unfold countBelow
  exact Nat.le_trans (List.length_filter_le _ _) (by simp)

theorem eval_popcount_le (rows : List Row) (e : Expr) (b : Nat)
    (h : eval H (Writer.addRows H {} rows).toIndex e = some b) : popcount b ≤ rows.length := by
  have hlt : b < 2 ^ rows.length := lt_two_pow_of_testBit b rows.length (by
    have := eval_bits_lt H (written_bits_lt H rows) e b h
    rwa [show (Writer.addRows H {} rows).toIndex.next = rows.length from (winv_addRows H rows).next] at this)
  rw [popcount_eq_countBelow _ _ hlt]
  exact countBelow_le b rows.length

/-- with fewer than 2^64 rows every cardinality fits the `uint64` of `GetCardinality` -/
theorem written_fits (rows : List Row) (hlen : rows.length < 2 ^ 64) (e : Expr) (bm : Nat)
    (h : eval H (Writer.addRows H {} rows).toIndex e = some bm) : popcount bm < 2 ^ 64 :=
  Nat.lt_of_le_of_lt (eval_popcount_le H rows e bm h) hlen

theorem executeC_null (ix : Updog.Index) (q : Query) :
    (executeC H nullCacheImpl ix () q).2 = execute H ix q := by
  have := C03.null_transparent_history H ix [q]
  simpa [executeAllC] using this

theorem evalC_null (ix : Updog.Index) (e : Expr) : (evalC H nullCacheImpl ix () e).2 = eval H ix e := by
  have hall : ∀ s, Sound H ix (subsOf [e]) C03.nullCache_contract s := fun _ _ _ h => h.elim
  exact (evalC_sound (L := C03.nullCache_contract) (fun _ _ _ _ _ _ => hall _) (subsOf_closed _) e
    (subsOf_mem _ e (by simp)) () (hall _)).1

end

/-! ### 8. the file the generated `WriteToBoltDatabase` leaves behind -/

theorem bucketsSet_idem (bs : Buckets) (name : Bytes) (d : BucketData) :
    bucketsSet (bucketsSet bs name d) name d = bucketsSet bs name d := by
  induction bs with
  | nil => simp [bucketsSet]
  | cons nd rest ih =>
    obtain ⟨n, d'⟩ := nd
    by_cases h : (n == name) = true
    · simp [bucketsSet, h]
    · have h' : (n == name) = false := by simpa using h
      simp [bucketsSet, h', ih]

/-- **the bucket `WriteToBoltDatabase` writes into an empty file (`fileData`) holds the writer state**, for coders that
    round-trip and any enumeration `vs` of the value map (Go's map order) that looks up like `w.vals`; and it is in bbolt's
    key order -/
theorem HoldsWriter.of_fileData (X : Ext) (w : Writer) (vs : ValMap) (next : UInt32)
    (hrt : ∀ b, X.roaringFromBuffer (X.roaringToBytes b) = some b)
    (hgob : X.gobDecode (X.gobEncode w.schema) = some w.schema)
    (hnd : KeysNodup vs) (hvs : ∀ k, vs.get k = w.vals.get k) (hnext : next.toNat = w.next) :
    HoldsWriter X (fileData X [] vs w.schema next) w next ∧ SortedData (fileData X [] vs w.schema next) := by
  obtain ⟨hs, wk, hS, hI, hV⟩ := fileData_spec X vs hnd w.schema next
  refine ⟨⟨⟨_, hS, hgob⟩, ⟨_, hI, be32_length _, beUint32_be32 next⟩, hnext, wk, ?_⟩, hs⟩
  intro k
  rw [hV k, hvs k]
  cases w.vals.get k with
  | none => rfl
  | some b => simp only [Option.map_some, hrt b]

/-! ### 9. rows added with the generated `AddRow`, flushed with the generated `WriteToBoltDatabase` -/

/-- `for _, r := range rows { w.AddRow(r) }` with the generated `AddRow` (each row is the list of pairs in the order
    `range` over the row map produced them) -/
def genAddRows (H : Bytes → UInt64) (hp : Heap) (idx : IndexWriter) : List Row → Heap × IndexWriter
  | [] => (hp, idx)
  | r :: rest =>
    let a := Gen.indexWriterAddRow H hp idx r
    genAddRows H a.1 a.2.1 rest

theorem writerWF_empty (H : Bytes → UInt64) : WriterWF H {} {} :=
  ⟨⟨PtrsOK.nil _, by intro cv h; cases h⟩, PtrsOK.nil _⟩

theorem genAddRows_eq (H : Bytes → UInt64) (rows : List Row) (hp : Heap) (idx : IndexWriter) (wf : WriterWF H hp idx)
    (hroom : idx.nextRowID.toNat + rows.length < 2 ^ 32) :
    absWriter (genAddRows H hp idx rows).1 (genAddRows H hp idx rows).2 = Writer.addRows H (absWriter hp idx) rows ∧
    WriterWF H (genAddRows H hp idx rows).1 (genAddRows H hp idx rows).2 := by
  induction rows generalizing hp idx with
  | nil => exact ⟨rfl, wf⟩
  | cons r rest ih =>
    simp only [List.length_cons] at hroom
    obtain ⟨h1, _, h3, h4, _, _⟩ := indexWriterAddRow_eq H hp idx r wf (by omega)
    have hn : (Gen.indexWriterAddRow H hp idx r).2.1.nextRowID.toNat = idx.nextRowID.toNat + 1 := by
      have := congrArg Writer.next h1
      simpa [absWriter, Writer.addRow] using this
    have := ih (Gen.indexWriterAddRow H hp idx r).1 (Gen.indexWriterAddRow H hp idx r).2.1 h4 (by omega)
    simp only [genAddRows, Writer.addRows, List.foldl_cons]
    rw [h1] at this
    exact this

/-! ### 10. `Execute` as the server and the driver call it: `(*Result, error)` on the library's types -/

/-- `idx.Execute(q)` for a query object fresh from `convert.ToQuery` (no stale hidden state), in cache state `st`,
    as a Go call returning `(*Result, error)` -/
def genLibExecute (H : Bytes → UInt64) {σ : Type} (C : CacheImpl σ) (X : Ext) (bolt : Bolt) (hp : Heap)
    (idx : Go.T3.Index) (st : σ) (q : Go.Lib.Query) : Except Go.Err5 Go.Lib.Result :=
  match (genExecute H C X bolt hp idx q [] st).2 with
  | none => .error (.ext 2)
  | some r => .ok (libResultOf r)

theorem executeC_count_lt (H : Bytes → UInt64) {σ : Type} (C : CacheImpl σ) (ix : Updog.Index) (st : σ) (q : Query)
    (hcard : ∀ bm, (evalC H C ix st q.expr).2 = some bm → popcount bm < 2 ^ 64) (r : Result)
    (h : (executeC H C ix st q).2 = some r) : r.count < 2 ^ 64 := by
  unfold executeC at h
  split at h
  · cases h
  · dsimp only at h
    split at h
    · cases h
    · rename_i bm he
      cases h
      exact hcard bm he

mutual
theorem complete_toWire (e : PExpr) : (Go.Parsed.Expression.toWire e).complete = some (toExpr e) :=
  match e with
  | .eq c v ph => by simp [Go.Parsed.Expression.toWire, WExpr.complete, toExpr]
  | .not e => by simp [Go.Parsed.Expression.toWire, WExpr.complete, toExpr, complete_toWire e]
  | .and es => by simp [Go.Parsed.Expression.toWire, WExpr.complete, toExpr, completeList_toWireL es]
  | .or es => by simp [Go.Parsed.Expression.toWire, WExpr.complete, toExpr, completeList_toWireL es]
theorem completeList_toWireL (es : List PExpr) :
    WExpr.completeList (Go.Parsed.Expression.toWireL es) = some (toExprs es) :=
  match es with
  | [] => by simp [Go.Parsed.Expression.toWireL, WExpr.completeList, toExprs]
  | e :: r => by
    simp [Go.Parsed.Expression.toWireL, WExpr.completeList, toExprs, complete_toWire e, completeList_toWireL r]
end

/-- a parsed query handed to `Execute` through `convert.ToQuery` is the model's `toQuery` of it -/
theorem serverExecute_toWire (H : Bytes → UInt64) (ix : Updog.Index) (q : PQuery) :
    serverExecute H ix (Go.Parsed.Query.toWire q) =
      match execute H ix (toQuery q) with
      | some r => .ok r
      | none => .error := by
  simp only [serverExecute, Go.Parsed.Query.toWire, complete_toWire, toQuery]
  cases execute H ix ⟨toExpr q.expr, q.groupBy⟩ <;> rfl

/-! ### 11. histories of queries on one cache; the generated null cache -/

/-- the `nullCache` of cache.go, from its generated methods -/
def genNullCache : CacheImpl Unit where
  get := fun s k => (s, absRes (Gen.nullCacheGet k))
  put := fun _ k bm => Gen.nullCachePut k bm

theorem genNullCache_eq : genNullCache = nullCacheImpl := rfl

/-- queries (each a query object with its own stale hidden state) executed one after the other on one cache with the
    all-generated `Execute` -/
def genExecuteAll (H : Bytes → UInt64) {σ : Type} (C : CacheImpl σ) (X : Ext) (bolt : Bolt) (hp : Heap)
    (idx : Go.T3.Index) : List (Go.Lib.Query × List Gen.groupBy) → σ → σ × List (Option Result)
  | [], s => (s, [])
  | p :: r, s =>
    let a := execView (genExecute H C X bolt hp idx p.1 p.2 s)
    let b := genExecuteAll H C X bolt hp idx r a.1
    (b.1, a.2 :: b.2)

/-! ### 12. deciding what the generated parser returned (`PExpr` has no `DecidableEq`) -/

mutual
def peq : PExpr → PExpr → Bool
  | .eq c v p, .eq c' v' p' => c == c' && v == v' && p == p'
  | .not e, .not e' => peq e e'
  | .and es, .and es' => peqL es es'
  | .or es, .or es' => peqL es es'
  | _, _ => false
def peqL : List PExpr → List PExpr → Bool
  | [], [] => true
  | e :: r, e' :: r' => peq e e' && peqL r r'
  | _, _ => false
end

mutual
theorem peq_sound (a b : PExpr) (h : peq a b = true) : a = b :=
  match a, b with
  | .eq c v p, .eq c' v' p' => by simp only [peq, Bool.and_eq_true, beq_iff_eq] at h; rw [h.1.1, h.1.2, h.2]
  | .not e, .not e' => by rw [peq] at h; rw [peq_sound e e' h]
  | .and es, .and es' => by rw [peq] at h; rw [peqL_sound es es' h]
  | .or es, .or es' => by rw [peq] at h; rw [peqL_sound es es' h]
  | .eq _ _ _, .not _ | .eq _ _ _, .and _ | .eq _ _ _, .or _
  | .not _, .eq _ _ _ | .not _, .and _ | .not _, .or _
  | .and _, .eq _ _ _ | .and _, .not _ | .and _, .or _
  | .or _, .eq _ _ _ | .or _, .not _ | .or _, .and _ => nomatch h
theorem peqL_sound (a b : List PExpr) (h : peqL a b = true) : a = b :=
  match a, b with
  | [], [] => rfl
  | e :: r, e' :: r' => by
    simp only [peqL, Bool.and_eq_true] at h
    rw [peq_sound e e' h.1, peqL_sound r r' h.2]
  | [], _ :: _ | _ :: _, [] => nomatch h
end

/-- the generated parser returned the query `q` (checkable by evaluation) -/
theorem parse_ok_of_check (fuel : Nat) (text : Bytes) (q : PQuery)
    (h : ((Gen.ParseQuery fuel text).toOption.map fun r => peq r.expr q.expr && r.groupBy == q.groupBy) = some true) :
    Gen.ParseQuery fuel text = .ok q := by
  cases hr : Gen.ParseQuery fuel text with
  | error e => rw [hr] at h; simp [Except.toOption] at h
  | ok r =>
    rw [hr] at h
    simp only [Except.toOption, Option.map_some, Option.some.injEq, Bool.and_eq_true, beq_iff_eq] at h
    obtain ⟨re, rg⟩ := r
    obtain ⟨qe, qg⟩ := q
    simp only at h
    rw [peq_sound re qe h.1, h.2]

/-! ### 13. a bitmap with 2^64 members (for the remark on the `uint64` count of `Gen.Query_groupBy`) -/

theorem popcount_ones (n : Nat) : popcount (2 ^ n - 1) = n := by
  have hlt : 2 ^ n - 1 < 2 ^ n := by have := Nat.two_pow_pos n; omega
  rw [popcount_eq_countBelow n _ hlt]
  unfold countBelow
  rw [List.filter_eq_self.mpr]
  · simp
  · intro i hi
    rw [Nat.testBit_two_pow_sub_one]
    simpa using hi

end Updog.GeneratedEq
