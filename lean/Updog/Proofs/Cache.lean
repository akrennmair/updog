/-
Helper lemmas for C03: the cache contract, its instances (null cache, LRU with every capacity),
soundness of `evalC`, the program view (`runProg_evalProg`).
-/
import Updog.Model.Cache
namespace Updog

/-- `holds s k bm`: in state `s` the cache may answer `Get k` with `bm` (now or after further operations).
    The laws say: answers come from what is held, `Get` adds nothing, `Put k bm` adds at most `(k, bm)`.
    Nothing is required about what the cache keeps: it may forget anything at any time. -/
structure CacheLaws {σ : Type} (C : CacheImpl σ) where
  holds : σ → UInt64 → Nat → Prop
  get_holds : ∀ s k bm, (C.get s k).2 = some bm → holds s k bm
  get_mono : ∀ s k k' bm, holds (C.get s k).1 k' bm → holds s k' bm
  put_holds : ∀ s k bm k' bm', holds (C.put s k bm) k' bm' → (k' = k ∧ bm' = bm) ∨ holds s k' bm'

def nullCacheLaws : CacheLaws nullCacheImpl where
  holds := fun _ _ _ => False
  get_holds := by intro s k bm h; simp [nullCacheImpl] at h
  get_mono := by intro s k k' bm h; exact h
  put_holds := by intro s k bm k' bm' h; exact Or.inr h

theorem evict_subset (ovh max : Nat) (items : List Item) (cur : Nat) :
    ∀ it ∈ (evict ovh max items cur).1, it ∈ items := by
  fun_induction evict ovh max items cur with
  | case1 items cur h ih =>
    intro it hit
    exact List.dropLast_subset _ (ih it hit)
  | case2 items cur h => intro it hit; exact hit

def lruHolds (c : Lru) (k : UInt64) (bm : Nat) : Prop := ∃ it ∈ c.items, it.key = k.toNat ∧ it.bm = bm

theorem lru_get_holds (c : Lru) (k : Nat) (bm : Nat) (h : (c.get k).2 = some bm) :
    ∃ it ∈ c.items, it.key = k ∧ it.bm = bm := by
  unfold Lru.get at h
  split at h
  · simp at h
  · rename_i it hfind
    simp only [Option.some.injEq] at h
    refine ⟨it, List.mem_of_find?_eq_some hfind, ?_, h⟩
    have := List.find?_some hfind
    simpa using this

theorem lru_get_items (c : Lru) (k : Nat) : ∀ it ∈ (c.get k).1.items, it ∈ c.items := by
  intro it hit
  unfold Lru.get at hit
  split at hit
  · exact hit
  · rename_i it' hfind
    simp only [List.mem_cons, List.mem_filter] at hit
    rcases hit with rfl | ⟨h, _⟩
    · exact List.mem_of_find?_eq_some hfind
    · exact h

theorem lru_put_items (c : Lru) (k bm size : Nat) :
    ∀ it ∈ (c.put k bm size).items, it = ⟨k, size, bm⟩ ∨ it ∈ c.items := by
  intro it hit
  unfold Lru.put at hit
  split at hit
  · have := evict_subset _ _ _ _ it hit
    simp only [List.mem_cons, List.mem_filter] at this
    rcases this with rfl | ⟨h, _⟩
    · exact Or.inl rfl
    · exact Or.inr h
  · have := evict_subset _ _ _ _ it hit
    simp only [List.mem_cons] at this
    exact this

/-- the LRU cache satisfies the contract, for every capacity (`c.max`, including 0), every overhead, every size
    function -/
def lruCacheLaws (sz : Nat → Nat) : CacheLaws (lruCacheImpl sz) where
  holds := lruHolds
  get_holds := by
    intro s k bm h
    exact lru_get_holds s k.toNat bm h
  get_mono := by
    intro s k k' bm ⟨it, hit, h⟩
    exact ⟨it, lru_get_items s k.toNat it hit, h⟩
  put_holds := by
    intro s k bm k' bm' ⟨it, hit, hk, hb⟩
    rcases lru_put_items s k.toNat bm (sz bm) it hit with rfl | h
    · left
      simp only at hk hb
      exact ⟨(UInt64.toNat_inj.mp hk).symm, hb.symm⟩
    · exact Or.inr ⟨it, h, hk, hb⟩

def Expr.children : Expr → List Expr
  | .eq _ _ => []
  | .not e => [e]
  | .and es => es
  | .or es => es

def SubClosed (U : List Expr) : Prop := ∀ e ∈ U, ∀ c ∈ e.children, c ∈ U

section
variable (H : Bytes → UInt64) (ix : Index) (U : List Expr)

/-- equal cache keys inside the universe mean equal meaning (delivered by `key_separates_meaning`) -/
def KeyOK : Prop := ∀ e ∈ U, ∀ e' ∈ U, cacheKey H e = cacheKey H e' → eval H ix e = eval H ix e'

/-- `(k, bm)` is a correct cache entry: every expression of the universe with key `k` means `bm` -/
def SoundEntry (k : UInt64) (bm : Nat) : Prop := ∀ e ∈ U, cacheKey H e = k → eval H ix e = some bm

variable {σ : Type} {C : CacheImpl σ} (L : CacheLaws C)

/-- every entry the cache may ever answer with is correct -/
def Sound (s : σ) : Prop := ∀ k bm, L.holds s k bm → SoundEntry H ix U k bm

def EmptyState (s : σ) : Prop := ∀ k bm, ¬ L.holds s k bm

theorem EmptyState.sound {s : σ} (h : EmptyState L s) : Sound H ix U L s :=
  fun k bm hh => absurd hh (h k bm)

theorem lru_emptyState (sz : Nat → Nat) (c : Lru) (h : c.items = []) : EmptyState (lruCacheLaws sz) c := by
  intro k bm ⟨it, hit, _⟩
  rw [h] at hit
  cases hit

variable {H ix U L}

theorem Sound.get {s : σ} (hs : Sound H ix U L s) (k : UInt64) : Sound H ix U L (C.get s k).1 :=
  fun k' bm h => hs k' bm (L.get_mono s k k' bm h)

theorem Sound.get_ans {s : σ} (hs : Sound H ix U L s) (k : UInt64) (bm : Nat)
    (h : (C.get s k).2 = some bm) : SoundEntry H ix U k bm :=
  hs k bm (L.get_holds s k bm h)

theorem Sound.put {s : σ} (hs : Sound H ix U L s) {k : UInt64} {bm : Nat}
    (he : SoundEntry H ix U k bm) : Sound H ix U L (C.put s k bm) := by
  intro k' bm' h
  rcases L.put_holds s k bm k' bm' h with ⟨rfl, rfl⟩ | h
  · exact he
  · exact hs k' bm' h

theorem soundEntry_of_eval (hkey : KeyOK H ix U) {e : Expr} (he : e ∈ U) {bm : Nat}
    (hv : eval H ix e = some bm) : SoundEntry H ix U (cacheKey H e) bm :=
  fun e' he' hk => (hkey e' he' e he hk).trans hv

/-- what the soundness proof needs about `Put`: storing the true meaning of an expression under its key keeps the
    cache sound. Follows from `KeyOK` for every lawful cache; holds unconditionally for a cache that holds nothing. -/
def PutOK (H : Bytes → UInt64) (ix : Index) (U : List Expr) {σ : Type} {C : CacheImpl σ} (L : CacheLaws C) : Prop :=
  ∀ e ∈ U, ∀ bm, eval H ix e = some bm → ∀ s, Sound H ix U L s → Sound H ix U L (C.put s (cacheKey H e) bm)

theorem putOK_of_keyOK (hkey : KeyOK H ix U) : PutOK H ix U L :=
  fun _ he _ hv _ hs => hs.put (soundEntry_of_eval hkey he hv)

theorem withCache_sound (hkey : PutOK H ix U L) {e : Expr} (he : e ∈ U) {s : σ} (hs : Sound H ix U L s)
    (compute : σ → σ × Option Nat)
    (hcomp : ∀ s1, Sound H ix U L s1 → (compute s1).2 = eval H ix e ∧ Sound H ix U L (compute s1).1) :
    (withCache C (cacheKey H e) s compute).2 = eval H ix e ∧
      Sound H ix U L (withCache C (cacheKey H e) s compute).1 := by
  unfold withCache
  have hs1 := hs.get (cacheKey H e)
  simp only
  split
  · rename_i bm hget
    exact ⟨(hs.get_ans _ _ hget e he rfl).symm, hs1⟩
  · obtain ⟨hv, hs2⟩ := hcomp _ hs1
    split
    · rename_i hnone
      exact ⟨hnone.symm.trans hv, hs2⟩
    · rename_i bm hsome
      have hv' : eval H ix e = some bm := hv.symm.trans hsome
      exact ⟨hv'.symm, hkey e he bm hv' _ hs2⟩

mutual
theorem evalC_sound (hkey : PutOK H ix U L) (hU : SubClosed U) (e : Expr) (he : e ∈ U) (s : σ)
    (hs : Sound H ix U L s) :
    (evalC H C ix s e).2 = eval H ix e ∧ Sound H ix U L (evalC H C ix s e).1 := by
  match e with
  | .eq c v =>
    unfold evalC
    cases hcol : ix.schema.col c with
    | none => simp only [eval, hcol]; exact ⟨trivial, hs⟩
    | some vs =>
      simp only
      apply withCache_sound hkey he hs
      intro s1 hs1
      simp only [eval, hcol]
      exact ⟨trivial, hs1⟩
  | .not e1 =>
    unfold evalC
    apply withCache_sound hkey he hs
    intro s1 hs1
    have ih := evalC_sound hkey hU e1 (hU _ he e1 (List.mem_singleton_self e1)) s1 hs1
    simp only [eval, ih.1]
    exact ⟨trivial, ih.2⟩
  | .and es | .or es =>
    unfold evalC
    apply withCache_sound hkey he hs
    intro s1 hs1
    have ih := evalListC_sound hkey hU es (hU _ he) s1 hs1
    simp only [eval, ih.1]
    exact ⟨trivial, ih.2⟩
theorem evalListC_sound (hkey : PutOK H ix U L) (hU : SubClosed U) (es : List Expr) (hes : ∀ e ∈ es, e ∈ U)
    (s : σ) (hs : Sound H ix U L s) :
    (evalListC H C ix s es).2 = evalList H ix es ∧ Sound H ix U L (evalListC H C ix s es).1 := by
  match es with
  | [] => unfold evalListC; simp only [evalList]; exact ⟨trivial, hs⟩
  | e :: es' =>
    unfold evalListC
    have ih := evalC_sound hkey hU e (hes e (by simp)) s hs
    simp only [evalList]
    rw [← ih.1]
    cases hv : (evalC H C ix s e).2 with
    | none => simp only; exact ⟨trivial, ih.2⟩
    | some b =>
      simp only
      have ih2 := evalListC_sound hkey hU es' (fun x hx => hes x (by simp [hx])) _ ih.2
      rw [ih2.1]
      exact ⟨rfl, ih2.2⟩
end

theorem executeC_sound (hkey : PutOK H ix U L) (hU : SubClosed U) (q : Query) (hq : q.expr ∈ U) (s : σ)
    (hs : Sound H ix U L s) :
    (executeC H C ix s q).2 = execute H ix q ∧ Sound H ix U L (executeC H C ix s q).1 := by
  unfold executeC execute
  cases populateGroupBy ix.schema q.groupBy with
  | none => exact ⟨rfl, hs⟩
  | some fields =>
    have ih := evalC_sound hkey hU q.expr hq s hs
    simp only
    rw [← ih.1]
    cases hv : (evalC H C ix s q.expr).2 with
    | none => exact ⟨rfl, ih.2⟩
    | some bm => exact ⟨rfl, ih.2⟩

theorem executeAllC_sound (hkey : PutOK H ix U L) (hU : SubClosed U) (qs : List Query)
    (hqs : ∀ q ∈ qs, q.expr ∈ U) (s : σ) (hs : Sound H ix U L s) :
    (executeAllC H C ix s qs).2 = qs.map (fun q => execute H ix q) ∧
      Sound H ix U L (executeAllC H C ix s qs).1 := by
  induction qs generalizing s with
  | nil => exact ⟨rfl, hs⟩
  | cons q qs ih =>
    unfold executeAllC
    have h1 := executeC_sound hkey hU q (hqs q (by simp)) s hs
    have h2 := ih (fun x hx => hqs x (by simp [hx])) _ h1.2
    simp only [List.map_cons, h1.1, h2.1]
    exact ⟨trivial, h2.2⟩

end

section
variable (H : Bytes → UInt64) {σ : Type} (C : CacheImpl σ) (ix : Index)

theorem runProg_withCacheK (key : UInt64) (compute : σ → σ × Option Nat)
    (computeK : (Option Nat → Prog) → Prog)
    (hcomp : ∀ s1 k', runProg C s1 (computeK k') = runProg C (compute s1).1 (k' (compute s1).2))
    (s : σ) (k : Option Nat → Prog) :
    runProg C s (withCacheK key computeK k) =
      runProg C (withCache C key s compute).1 (k (withCache C key s compute).2) := by
  unfold withCacheK withCache
  simp only [runProg]
  cases (C.get s key).2 with
  | some bm => rfl
  | none =>
    simp only [hcomp]
    cases (compute (C.get s key).1).2 with
    | none => rfl
    | some bm => simp only [runProg]

mutual
theorem runProg_evalK (e : Expr) (s : σ) (k : Option Nat → Prog) :
    runProg C s (evalK H ix e k) = runProg C (evalC H C ix s e).1 (k (evalC H C ix s e).2) := by
  match e with
  | .eq c v =>
    unfold evalK evalC
    cases ix.schema.col c with
    | none => rfl
    | some vs =>
      simp only
      apply runProg_withCacheK
      intro s1 k'; rfl
  | .not e1 =>
    unfold evalK evalC
    apply runProg_withCacheK
    intro s1 k'
    exact runProg_evalK e1 s1 _
  | .and es | .or es =>
    unfold evalK evalC
    apply runProg_withCacheK
    intro s1 k'
    exact runProg_evalListK es s1 _
theorem runProg_evalListK (es : List Expr) (s : σ) (k : Option (List Nat) → Prog) :
    runProg C s (evalListK H ix es k) =
      runProg C (evalListC H C ix s es).1 (k (evalListC H C ix s es).2) := by
  match es with
  | [] => unfold evalListK evalListC; rfl
  | e :: es' =>
    unfold evalListK evalListC
    rw [runProg_evalK e s]
    generalize evalC H C ix s e = r
    obtain ⟨s1, a⟩ := r
    cases a with
    | none => rfl
    | some b =>
      simp only
      rw [runProg_evalListK es' _]
end

/-- running the program of `e` without interruption is `evalC` -/
theorem runProg_evalProg (e : Expr) (s : σ) : runProg C s (evalProg H ix e) = evalC H C ix s e := by
  unfold evalProg
  rw [runProg_evalK]
  rfl

end
end Updog
