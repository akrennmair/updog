/-
The total fast helpers of `Updog/Model/FastBits.lean` compute the model's `popcount`, `setBit` fold and `execute`.
-/
import Updog.Model.FastBits
import Updog.Proofs.Bits
import Updog.Proofs.GroupBy
namespace Updog

theorem popcount_split_mod (n k : Nat) : popcount n = popcount (n >>> k) + popcount (n % 2 ^ k) := by
  induction k generalizing n with
  | zero => simp [Nat.mod_one, popcount_zero]
  | succ k ih =>
    rw [popcount_step n, ih (n / 2), popcount_step (n % 2 ^ (k + 1))]
    have h1 : n >>> (k + 1) = (n / 2) >>> k := by
      rw [Nat.shiftRight_eq_div_pow, Nat.shiftRight_eq_div_pow, Nat.pow_succ, Nat.mul_comm,
        Nat.div_div_eq_div_mul]
    have h2 : n % 2 ^ (k + 1) % 2 = n % 2 := by
      rw [Nat.pow_succ, Nat.mul_comm]
      exact Nat.mod_mul_right_mod n 2 (2 ^ k)
    have h3 : n % 2 ^ (k + 1) / 2 = n / 2 % 2 ^ k := by
      rw [Nat.pow_succ, Nat.mul_comm]
      exact Nat.mod_mul_right_div_self n 2 (2 ^ k)
    rw [h1, h2, h3]
    omega

theorem popcount_split (n k : Nat) : popcount n = popcount (n >>> k) + popcount (n &&& (2 ^ k - 1)) := by
  rw [Nat.and_two_pow_sub_one_eq_mod]
  exact popcount_split_mod n k

theorem popcount_split_shift (n k : Nat) :
    popcount n = popcount (n >>> k) + popcount (n &&& ((1 <<< k) - 1)) := by
  rw [Nat.one_shiftLeft]
  exact popcount_split n k

/-- structural `popcount` on `fuel` bits, for evaluation by `decide` -/
def popcountS : Nat → Nat → Nat
  | 0, _ => 0
  | fuel + 1, n => n % 2 + popcountS fuel (n / 2)

theorem popcountS_eq (fuel n : Nat) (h : n < 2 ^ fuel) : popcountS fuel n = popcount n := by
  induction fuel generalizing n with
  | zero =>
    have : n = 0 := by simpa using h
    subst this; simp [popcountS, popcount_zero]
  | succ f ih =>
    rw [popcountS, popcount_step n, ih (n / 2) (by rw [Nat.pow_succ] at h; omega)]

/-- the table agrees with `popcountS 8` from index `i` on -/
def checkTable : List Nat → Nat → Bool
  | [], _ => true
  | a :: as, i => a == popcountS 8 i && checkTable as (i + 1)

theorem checkTable_spec (l : List Nat) (i : Nat) (h : checkTable l i = true) (j : Nat) (hj : j < l.length) :
    l[j]? = some (popcountS 8 (i + j)) := by
  induction l generalizing i j with
  | nil => simp at hj
  | cons a as ih =>
    simp only [checkTable, Bool.and_eq_true, beq_iff_eq] at h
    cases j with
    | zero => simp [h.1]
    | succ j =>
      rw [List.getElem?_cons_succ, ih (i + 1) h.2 j (by simpa using hj)]
      congr 2; omega

theorem checkTable_popTable8 : checkTable popTable8.toList 0 = true := by decide +kernel

theorem popTable8_length : popTable8.toList.length = 256 := by decide +kernel

theorem popTable8_eq (n : Nat) (h : n < 256) : popTable8.getD n 0 = popcount n := by
  rw [← popcountS_eq 8 n (by omega), Array.getD_eq_getD_getElem?, ← Array.getElem?_toList,
    checkTable_spec _ 0 checkTable_popTable8 n (by rw [popTable8_length]; exact h)]
  simp

theorem popByte_eq (x : UInt64) : popByte x = popcount (x.toNat % 256) := by
  unfold popByte
  have h : (x &&& 0xff).toNat = x.toNat % 256 := by
    rw [UInt64.toNat_and]
    exact Nat.and_two_pow_sub_one_eq_mod x.toNat 8
  rw [h]
  exact popTable8_eq _ (Nat.mod_lt _ (by decide))

theorem popcount_low_byte (n : Nat) : popcount n = popcount (n % 256) + popcount (n >>> 8) := by
  rw [popcount_split_mod n 8, Nat.add_comm]

theorem popcount64_eq (x : UInt64) : popcount64 x = popcount x.toNat := by
  have hx : x.toNat >>> 64 = 0 := by rw [Nat.shiftRight_eq_div_pow]; exact Nat.div_eq_of_lt x.toNat_lt
  simp only [popcount64, popByte_eq, UInt64.toNat_shiftRight]
  show popcount (x.toNat % 256) + popcount (x.toNat >>> 8 % 256) + popcount (x.toNat >>> 16 % 256) +
    popcount (x.toNat >>> 24 % 256) + popcount (x.toNat >>> 32 % 256) + popcount (x.toNat >>> 40 % 256) +
    popcount (x.toNat >>> 48 % 256) + popcount (x.toNat >>> 56 % 256) = _
  generalize x.toNat = n at hx
  have step : ∀ a : Nat, popcount (n >>> a) = popcount (n >>> a % 256) + popcount (n >>> (a + 8)) := fun a => by
    rw [Nat.shiftRight_add]; exact popcount_low_byte _
  rw [popcount_low_byte n, step 8, step 16, step 24, step 32, step 40, step 48, step 56, hx, popcount_zero]
  simp only [Nat.add_assoc, Nat.add_zero]

theorem popcount64_toUInt64 (n : Nat) (h : n < 2 ^ 64) : popcount64 n.toUInt64 = popcount n := by
  rw [popcount64_eq]
  have : n.toUInt64.toNat = n % 2 ^ 64 := by simp [Nat.toUInt64]
  rw [this, Nat.mod_eq_of_lt h]

theorem popcountFastAux_eq (fuel n : Nat) (h : n < 2 ^ (64 + fuel)) : popcountFastAux fuel n = popcount n := by
  induction fuel generalizing n with
  | zero => exact popcount64_toUInt64 n h
  | succ f ih =>
    unfold popcountFastAux
    split
    · rename_i hlt
      exact popcount64_toUInt64 n hlt
    · rename_i hge
      have hge' : ¬ n < 2 ^ 64 := hge
      have hn0 : n ≠ 0 := by
        intro h0; subst h0; exact hge' (Nat.two_pow_pos 64)
      have hL1 : ¬ n.log2 < 64 := fun hl => hge' ((Nat.log2_lt hn0).mp hl)
      have hL2 : n.log2 < 64 + (f + 1) := (Nat.log2_lt hn0).mpr h
      have hlt : n < 2 ^ (n.log2 + 1) := Nat.lt_log2_self
      simp only []
      rw [popcount_split_shift n ((n.log2 + 1) / 2)]
      generalize hk : (n.log2 + 1) / 2 = k
      congr 1
      · apply ih
        rw [Nat.shiftRight_eq_div_pow]
        have h1 : n / 2 ^ k < 2 ^ (n.log2 + 1 - k) := by
          apply Nat.div_lt_of_lt_mul
          rw [← Nat.pow_add]
          have : k + (n.log2 + 1 - k) = n.log2 + 1 := by omega
          rw [this]; exact hlt
        exact Nat.lt_of_lt_of_le h1 (Nat.pow_le_pow_right (by decide) (by omega))
      · apply ih
        rw [Nat.one_shiftLeft, Nat.and_two_pow_sub_one_eq_mod]
        exact Nat.lt_of_lt_of_le (Nat.mod_lt _ (Nat.two_pow_pos k)) (Nat.pow_le_pow_right (by decide) (by omega))

theorem popcountFast_eq (n : Nat) : popcountFast n = popcount n := by
  unfold popcountFast
  apply popcountFastAux_eq
  exact Nat.lt_of_lt_of_le Nat.lt_log2_self (Nat.pow_le_pow_right (by decide) (by omega))

/-- the recursion equation that the fuelled definition (`popcountFastAux`) implements -/
theorem popcountFast_unfold (n : Nat) :
    popcountFast n =
      if n < 18446744073709551616 then popcount64 n.toUInt64
      else popcountFast (n >>> ((Nat.log2 n + 1) / 2)) + popcountFast (n &&& ((1 <<< ((Nat.log2 n + 1) / 2)) - 1)) := by
  split
  · rename_i h
    rw [popcountFast_eq, popcount64_toUInt64 n h]
  · rw [popcountFast_eq, popcountFast_eq, popcountFast_eq]
    exact popcount_split_shift n _

theorem testBit_natOfIdsSpec (ids : List Nat) (i : Nat) :
    (natOfIdsSpec ids).testBit i = decide (i ∈ ids) := by
  unfold natOfIdsSpec
  suffices h : ∀ b, (ids.foldl setBit b).testBit i = (b.testBit i || decide (i ∈ ids)) by
    rw [h 0]; simp
  induction ids with
  | nil => simp
  | cons a as ih =>
    intro b
    rw [List.foldl_cons, ih, testBit_setBit]
    by_cases h : a = i
    · subst h; simp
    · have h' : ¬ i = a := fun e => h e.symm
      simp [h, h']

theorem testBit_natOfIdsRange (ids : Array Nat) (lo hi i : Nat) :
    (natOfIdsRange ids lo hi).testBit i = true ↔ ∃ j, lo ≤ j ∧ j < hi ∧ ids[j]! = i := by
  fun_induction natOfIdsRange ids lo hi with
  | case1 lo hi h =>
    have : ¬ ∃ j, lo ≤ j ∧ j < hi ∧ ids[j]! = i := by
      rintro ⟨j, h1, h2, _⟩; omega
    simp [this]
  | case2 lo _ =>
    rw [Nat.one_shiftLeft, Nat.testBit_two_pow, decide_eq_true_iff]
    constructor
    · intro e; exact ⟨lo, Nat.le_refl _, Nat.lt_succ_self _, e⟩
    · rintro ⟨j, h1, h2, e⟩
      have : j = lo := by omega
      subst this; exact e
  | case3 lo hi h1 h2 mid ih1 ih2 =>
    rw [Nat.testBit_or, Bool.or_eq_true, ih1, ih2]
    have hm1 : lo ≤ mid := by omega
    have hm2 : mid ≤ hi := by omega
    constructor
    · rintro (⟨j, a, b, e⟩ | ⟨j, a, b, e⟩)
      · exact ⟨j, a, by omega, e⟩
      · exact ⟨j, by omega, b, e⟩
    · rintro ⟨j, a, b, e⟩
      by_cases hj : j < mid
      · exact Or.inl ⟨j, a, hj, e⟩
      · exact Or.inr ⟨j, by omega, b, e⟩

theorem testBit_natOfIdsArray (ids : Array Nat) (i : Nat) :
    (natOfIdsArray ids).testBit i = decide (i ∈ ids) := by
  unfold natOfIdsArray
  rw [Bool.eq_iff_iff, testBit_natOfIdsRange, decide_eq_true_iff]
  constructor
  · rintro ⟨j, _, hj, e⟩
    rw [getElem!_pos ids j hj] at e
    subst e
    exact Array.getElem_mem hj
  · intro h
    obtain ⟨j, hj, e⟩ := Array.mem_iff_getElem.mp h
    exact ⟨j, Nat.zero_le _, hj, by rw [getElem!_pos ids j hj]; exact e⟩

theorem testBit_natOfIds (ids : List Nat) (i : Nat) : (natOfIds ids).testBit i = decide (i ∈ ids) := by
  unfold natOfIds
  rw [testBit_natOfIdsArray]
  simp

theorem natOfIdsArray_eq (ids : Array Nat) : natOfIdsArray ids = natOfIdsSpec ids.toList := by
  apply Nat.eq_of_testBit_eq
  intro i
  rw [testBit_natOfIdsArray, testBit_natOfIdsSpec]
  simp

theorem natOfIds_eq (ids : List Nat) : natOfIds ids = ids.foldl setBit 0 := by
  apply Nat.eq_of_testBit_eq
  intro i
  rw [testBit_natOfIds, ← testBit_natOfIdsSpec]
  rfl

theorem refineFast_eq (ix : Index) (gbf : GBField) (rgs : List (Fields × Nat)) :
    refineFast ix gbf rgs = refine ix gbf rgs := by
  unfold refineFast refine
  apply flatMap_congr'
  intro rg _
  apply filterMap_congr'
  intro v _
  cases ix.getCol v.2 with
  | none => rfl
  | some vbm =>
    by_cases h : rg.2 &&& vbm = 0
    · simp [h, popcount_zero]
    · have h' : ¬ popcount (rg.2 &&& vbm) = 0 := fun e => h ((popcount_eq_zero_iff _).mp e)
      simp [h, h']

theorem groupByFast_eq (ix : Index) (fields : List GBField) (result : Nat) :
    groupByFast ix fields result = groupBy ix fields result := by
  simp only [groupByFast, groupBy, refineFast_eq, popcountFast_eq]

theorem executeFast_eq_stale (H : Bytes → UInt64) (ix : Index) (q : Query) (stale : List GBField) :
    executeFast H ix q = execute H ix q stale := by
  unfold executeFast execute
  cases populateGroupBy ix.schema q.groupBy with
  | none => rfl
  | some fields =>
    cases eval H ix q.expr with
    | none => rfl
    | some bm => simp only [popcountFast_eq, groupByFast_eq]

end Updog
