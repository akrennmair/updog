/-
Helper lemmas for part 2 of `Updog/Props/Gen/Compose2.lean`: the driver's connection cache (`Gen.openFileOpts`,
`Gen.openFileLocked`, `Gen.connClose` over T5's `Drv.World`) composed with the generated open, the generated
`Execute` and the generated LRU.

`Updog/Props/Gen/DriverConn.lean` cannot be imported here: it declares `Updog.GeneratedEq.Inv`, which
`Updog/Props/Gen/Lru.lean` (imported by `Proofs/GenCompose.lean`) declares as well. The small definitions of that file
that are needed (`KOp`, `upd`, `stepG`, `refsOf`, its invariant, `openFileWhole`) are therefore repeated here in the
namespace `Updog.GenConn` (the invariant under the name `ConnInv`); the single-step simulations are re-derived from
closed forms of the two generated functions, which are needed anyway (they say which handle is opened / closed).
-/
import Updog.Proofs.GenCompose2
import Updog.Props.C17
import Updog.Props.C15Lock

namespace Updog.GenConn
open Updog.Go Updog.GeneratedEq

/-! ## 0. the reference-count machine over an arbitrary key type (as in Props/Gen/DriverConn.lean) -/

inductive KOp (K : Type) where
  | open (k : K)
  | query (k : K)
  | close (k : K)

def upd {K : Type} [DecidableEq K] {α : Type} (f : K → α) (k : K) (a : α) : K → α := fun k' => if k' = k then a else f k'

theorem upd_same {K : Type} [DecidableEq K] {α : Type} (f : K → α) (k : K) (a : α) : upd f k a k = a := by simp [upd]

theorem upd_other {K : Type} [DecidableEq K] {α : Type} (f : K → α) (k k' : K) (a : α) (h : k' ≠ k) :
    upd f k a k' = f k' := by simp [upd, h]

/-- `Drv.step` of Model/Driver.lean with the key type and the validity predicate abstracted -/
def stepG {K : Type} [DecidableEq K] (valid : K → Bool) (refs : K → Nat) : KOp K → (K → Nat) × Outcome Unit
  | .open k =>
    if refs k > 0 then (upd refs k (refs k + 1), .ok ())
    else if valid k then (upd refs k 1, .ok ())
    else (refs, .error)
  | .query k => if refs k > 0 then (refs, .ok ()) else (refs, .panic)
  | .close k => (upd refs k (refs k - 1), .ok ())

section
variable {K : Type} [DecidableEq K] (valid : K → Bool) (refs : K → Nat) (k : K)

theorem stepG_open_held (h : refs k > 0) : stepG valid refs (.open k) = (upd refs k (refs k + 1), .ok ()) := by
  simp only [stepG, h, if_true]

theorem stepG_open_new (h : refs k = 0) (hv : valid k = true) : stepG valid refs (.open k) = (upd refs k 1, .ok ()) := by
  simp only [stepG, h, Nat.lt_irrefl, if_false, hv, if_true, gt_iff_lt]

theorem stepG_open_fail (h : refs k = 0) (hv : valid k = false) : stepG valid refs (.open k) = (refs, .error) := by
  simp only [stepG, h, Nat.lt_irrefl, if_false, hv, Bool.false_eq_true, gt_iff_lt]

theorem stepG_query_held (h : refs k > 0) : stepG valid refs (.query k) = (refs, .ok ()) := by
  simp only [stepG, h, if_true]

end

/-- a DSN whose options do not parse has no key: `openFile` returns an error before it touches the driver -/
def stepO {K : Type} [DecidableEq K] (valid : K → Bool) (refs : K → Nat) : Option (KOp K) → (K → Nat) × Outcome Unit
  | none => (refs, .error)
  | some op => stepG valid refs op

def runO {K : Type} [DecidableEq K] (valid : K → Bool) (refs : K → Nat) : List (Option (KOp K)) → (K → Nat) × List (Outcome Unit)
  | [] => (refs, [])
  | op :: ops => ((runO valid (stepO valid refs op).1 ops).1, (stepO valid refs op).2 :: (runO valid (stepO valid refs op).1 ops).2)

def KOp.ofDrv : DrvOp → KOp DKey
  | .open k => .open k
  | .query k => .query k
  | .close k => .close k

def KOp.toDrv : KOp DKey → DrvOp
  | .open k => .open k
  | .query k => .query k
  | .close k => .close k

def KOp.map {K K' : Type} (f : K → K') : KOp K → KOp K'
  | .open k => .open (f k)
  | .query k => .query (f k)
  | .close k => .close (f k)

/-- `Drv.step` of Model/Driver.lean on keys re-encoded along an injective `enc` is `stepG` -/
theorem Drv_step_rekey {K : Type} [DecidableEq K] (enc : K → DKey) (hinj : Function.Injective enc)
    (valid : K → Bool) (valid' : Nat → Bool) (hv : ∀ k, valid' (enc k).file = valid k)
    (refs : K → Nat) (d : Drv) (hr : ∀ k, d.refs (enc k) = refs k) (op : KOp K) :
    (∀ k, (Drv.step valid' d (op.map enc).toDrv).1.refs (enc k) = (stepG valid refs op).1 k) ∧
    (Drv.step valid' d (op.map enc).toDrv).2 = (stepG valid refs op).2 := by
  have hu : ∀ (k : K) (n : Nat) (k0 : K), (d.set (enc k) n).refs (enc k0) = upd refs k n k0 := by
    intro k n k0
    by_cases h : k0 = k
    · subst h; simp [upd, Drv.set]
    · have : enc k0 ≠ enc k := fun e => h (hinj e)
      simp [upd, Drv.set, h, this, hr]
  cases op with
  | «open» k =>
    simp only [Drv.step, stepG, KOp.map, KOp.toDrv, hr, hv]
    by_cases h1 : refs k > 0
    · simp only [h1, if_true]; exact ⟨hu k _, trivial⟩
    · by_cases h2 : valid k = true
      · simp only [h1, h2, if_true, if_false]; exact ⟨hu k _, trivial⟩
      · simp only [h1, h2, if_false, Bool.false_eq_true]; exact ⟨hr, trivial⟩
  | query k =>
    simp only [Drv.step, stepG, KOp.map, KOp.toDrv, hr]
    by_cases h1 : refs k > 0 <;> simp only [h1, if_true, if_false] <;> exact ⟨hr, trivial⟩
  | close k =>
    simp only [Drv.step, stepG, KOp.map, KOp.toDrv, hr]
    exact ⟨hu k _, trivial⟩

/-! ### list runs, dropping the key-less operations, re-keying -/

def runG {K : Type} [DecidableEq K] (valid : K → Bool) (refs : K → Nat) : List (KOp K) → (K → Nat) × List (Outcome Unit)
  | [] => (refs, [])
  | op :: ops => ((runG valid (stepG valid refs op).1 ops).1, (stepG valid refs op).2 :: (runG valid (stepG valid refs op).1 ops).2)

/-- the entries of `rs` at the positions where `os` has a key -/
def keyed {α β : Type} : List (Option α) → List β → List β
  | some _ :: os, r :: rs => r :: keyed os rs
  | none :: os, _ :: rs => keyed os rs
  | _, _ => []

/-- operations without key (an `Open` whose options do not parse) do nothing: dropping them gives the same run -/
theorem runO_filterMap {K : Type} [DecidableEq K] (valid : K → Bool) (ops : List (Option (KOp K))) (refs : K → Nat) :
    (runO valid refs ops).1 = (runG valid refs (ops.filterMap id)).1 ∧
    keyed ops (runO valid refs ops).2 = (runG valid refs (ops.filterMap id)).2 := by
  induction ops generalizing refs with
  | nil => exact ⟨rfl, rfl⟩
  | cons o ops ih =>
    cases o with
    | none =>
      simp only [runO, stepO, List.filterMap_cons, id, keyed]
      exact ih refs
    | some op =>
      simp only [runO, stepO, List.filterMap_cons, id, keyed, runG]
      exact ⟨(ih _).1, by rw [(ih _).2]⟩

theorem Drv_run_rekey {K : Type} [DecidableEq K] (enc : K → DKey) (hinj : Function.Injective enc)
    (valid : K → Bool) (valid' : Nat → Bool) (hv : ∀ k, valid' (enc k).file = valid k) (ops : List (KOp K))
    (refs : K → Nat) (d : Drv) (hr : ∀ k, d.refs (enc k) = refs k) :
    (∀ k, (Drv.run valid' d ((ops.map (KOp.map enc)).map KOp.toDrv)).1.refs (enc k) = (runG valid refs ops).1 k) ∧
    (Drv.run valid' d ((ops.map (KOp.map enc)).map KOp.toDrv)).2 = (runG valid refs ops).2 := by
  induction ops generalizing refs d with
  | nil => exact ⟨hr, rfl⟩
  | cons op ops ih =>
    obtain ⟨h1, h2⟩ := Drv_step_rekey enc hinj valid valid' hv refs d hr op
    obtain ⟨i1, i2⟩ := ih _ _ h1
    simp only [List.map_cons, Drv.run, runG]
    exact ⟨i1, by rw [h2, i2]⟩

/-! ## 1. the driver's world: abstraction, invariant, closed forms of the generated functions -/

/-- reference count of a key = `refs` of its cached connection, 0 without entry -/
def refsOf (w : Drv.World) (k : Drv.fileCacheKey) : Nat :=
  match w.cache k with
  | some c => (w.conns c).refs.toNat
  | none => 0

/-- the states between two driver calls (`Inv` of Props/Gen/DriverConn.lean) -/
structure ConnInv (w : Drv.World) : Prop where
  idle : w.held = false
  clean : w.raced = false
  key : ∀ k (c : Nat), w.cache k = some c → (w.conns c).key = k
  pos : ∀ k (c : Nat), w.cache k = some c → 1 ≤ (w.conns c).refs
  fresh : ∀ k (c : Nat), w.cache k = some c → c < (w.nextConn : Nat)

theorem ConnInv.inj {w : Drv.World} (h : ConnInv w) {k k' : Drv.fileCacheKey} {c : Nat}
    (h1 : w.cache k = some c) (h2 : w.cache k' = some c) : k = k' := by
  rw [← h.key k c h1, ← h.key k' c h2]

/-- what the cache says about index handles: every cached connection owns an open handle on its file, no two cached
    connections share a handle, and every open handle is owned by a cached connection (no leaked handle = no leaked
    file lock) -/
structure HandleInv (w : Drv.World) : Prop where
  owns : ∀ k (c : Nat), w.cache k = some c → ∃ i, (w.conns c).idx = some i ∧ i < w.nextIdx ∧ w.openIdx i = some k.file
  sep : ∀ k k' (c c' : Nat) i, w.cache k = some c → w.cache k' = some c' → (w.conns c).idx = some i →
    (w.conns c').idx = some i → k = k'
  noleak : ∀ i f, w.openIdx i = some f → ∃ k c, w.cache k = some c ∧ (w.conns c).idx = some i ∧ k.file = f

/-- the driver before its first use -/
def w0 : Drv.World := ⟨false, false, fun _ => none, fun _ => default, 0, fun _ => none, 0⟩

theorem w0_connInv : ConnInv w0 :=
  ⟨rfl, rfl, fun k c h => (by cases h), fun k c h => (by cases h), fun k c h => (by cases h)⟩
theorem w0_handleInv : HandleInv w0 :=
  ⟨fun k c h => (by cases h), fun k k' c c' i h => (by cases h), fun i f h => (by cases h)⟩

/-! ### the three ways the world changes -/

/-- the reference count of connection `c` becomes `r` -/
def bump (w : Drv.World) (c : Nat) (r : Int) : Drv.World :=
  { w with conns := fun c' => if c' = c then { w.conns c with refs := r } else w.conns c' }

/-- a new connection for `key`, owning a new index handle on `file` -/
def addEntry (w : Drv.World) (key : Drv.fileCacheKey) (file : Bytes) : Drv.World :=
  { w with
    cache := fun k' => if k' = key then some w.nextConn else w.cache k',
    conns := fun c' => if c' = w.nextConn then { idx := some w.nextIdx, key := key, refs := 1 } else w.conns c',
    nextConn := w.nextConn + 1,
    openIdx := fun i => if i = w.nextIdx then some file else w.openIdx i,
    nextIdx := w.nextIdx + 1 }

/-- the entry of `k` (connection `c`, handle `i`) goes: the handle is closed -/
def dropEntry (w : Drv.World) (k : Drv.fileCacheKey) (c i : Nat) : Drv.World :=
  { w with
    cache := fun k' => if k' = k then none else w.cache k',
    conns := fun c' => if c' = c then { idx := none, key := k, refs := 0 } else w.conns c',
    openIdx := fun j => if j = i then none else w.openIdx j }

/-! ### closed forms of the generated functions -/

theorem openFileLocked_hit (valid : Bytes → Bool) (w : Drv.World) (hidle : w.held = false) (hclean : w.raced = false)
    (file : Bytes) (key : Drv.fileCacheKey) (opts : List Lib.IndexOption) (c : Nat) (hc : w.cache key = some c) :
    Gen.openFileLocked valid w file key opts = (.ok c, bump w c ((w.conns c).refs + 1)) := by
  obtain ⟨held, raced, cache, conns, nc, oi, ni⟩ := w
  simp only at hidle hclean hc
  subst hidle hclean
  simp [Gen.openFileLocked, Drv.lock, Drv.touch, Drv.cacheGet, hc, Drv.refsAdd, Drv.unlock, bump]

theorem openFileLocked_new (valid : Bytes → Bool) (w : Drv.World) (hidle : w.held = false) (hclean : w.raced = false)
    (file : Bytes) (key : Drv.fileCacheKey) (opts : List Lib.IndexOption) (hc : w.cache key = none) (hv : valid file = true) :
    Gen.openFileLocked valid w file key opts = (.ok w.nextConn, addEntry w key file) := by
  obtain ⟨held, raced, cache, conns, nc, oi, ni⟩ := w
  simp only at hidle hclean hc
  subst hidle hclean
  simp [Gen.openFileLocked, Drv.lock, Drv.touch, Drv.cacheGet, hc, Drv.openIndex, hv, Drv.newConn,
        Drv.cacheSet, Drv.refsAdd, Drv.unlock, addEntry]
  funext c'
  split <;> simp_all

theorem openFileLocked_fail (valid : Bytes → Bool) (w : Drv.World) (hidle : w.held = false) (hclean : w.raced = false)
    (file : Bytes) (key : Drv.fileCacheKey) (opts : List Lib.IndexOption) (hc : w.cache key = none) (hv : valid file = false) :
    ∃ e, Gen.openFileLocked valid w file key opts = (.error e, w) := by
  obtain ⟨held, raced, cache, conns, nc, oi, ni⟩ := w
  simp only at hidle hclean hc
  subst hidle hclean
  simp [Gen.openFileLocked, Drv.lock, Drv.touch, Drv.cacheGet, hc, Drv.openIndex, hv, Drv.unlock]

theorem connClose_last (w : Drv.World) (hidle : w.held = false) (hclean : w.raced = false) (k : Drv.fileCacheKey) (c i : Nat)
    (hc : w.cache k = some c) (hk : (w.conns c).key = k) (hr : (w.conns c).refs = 1) (hi : (w.conns c).idx = some i) :
    Gen.connClose w c = (none, dropEntry w k c i) := by
  obtain ⟨held, raced, cache, conns, nc, oi, ni⟩ := w
  simp only at hidle hclean hc hk hr hi
  subst hidle hclean
  have hsn : ((some i : Option Drv.IdxId) == none) = false := rfl
  simp [Gen.connClose, Drv.lock, Drv.refsAdd, Drv.touch, hr, Drv.cacheGet, Drv.connKey, hk, hc, Drv.cacheDelete,
    Drv.connIdx, Drv.setConnIdx, Drv.unlock, hi, hsn, Drv.closeIndex, dropEntry]
  funext c'
  split <;> simp_all

theorem connClose_notlast (w : Drv.World) (hidle : w.held = false) (hclean : w.raced = false) (c : Nat)
    (hr : 2 ≤ (w.conns c).refs) : Gen.connClose w c = (none, bump w c ((w.conns c).refs - 1)) := by
  obtain ⟨held, raced, cache, conns, nc, oi, ni⟩ := w
  simp only at hidle hclean hr
  subst hidle hclean
  have hle : ¬ ((conns c).refs + -1 ≤ 0) := by omega
  simp [Gen.connClose, Drv.lock, Drv.refsAdd, Drv.touch, hle, Drv.unlock, bump]
  funext c'
  split
  · congr 1
  · rfl

/-! ### the invariants under the three changes -/

theorem bump_idx (w : Drv.World) (c : Nat) (r : Int) (c' : Nat) : ((bump w c r).conns c').idx = (w.conns c').idx := by
  simp only [bump]; split
  · rename_i h; subst h; rfl
  · rfl

theorem bump_key (w : Drv.World) (c : Nat) (r : Int) (c' : Nat) : ((bump w c r).conns c').key = (w.conns c').key := by
  simp only [bump]; split
  · rename_i h; subst h; rfl
  · rfl

theorem bump_connInv {w : Drv.World} (h : ConnInv w) (c : Nat) (r : Int) (hr : 1 ≤ r) : ConnInv (bump w c r) := by
  refine ⟨h.idle, h.clean, ?_, ?_, h.fresh⟩
  · intro k c' hc; rw [bump_key]; exact h.key k c' hc
  · intro k c' hc
    show 1 ≤ ((bump w c r).conns c').refs
    simp only [bump]; split
    · exact hr
    · exact h.pos k c' hc

theorem bump_handleInv {w : Drv.World} (h : HandleInv w) (c : Nat) (r : Int) : HandleInv (bump w c r) := by
  refine ⟨?_, ?_, ?_⟩
  · intro k c' hc; rw [bump_idx]; exact h.owns k c' hc
  · intro k k' c1 c2 i h1 h2 h3 h4; rw [bump_idx] at h3 h4; exact h.sep k k' c1 c2 i h1 h2 h3 h4
  · intro i f ho
    obtain ⟨k, c', h1, h2, h3⟩ := h.noleak i f ho
    exact ⟨k, c', h1, by rw [bump_idx]; exact h2, h3⟩

theorem refsOf_cached {w : Drv.World} (h : ConnInv w) {k : Drv.fileCacheKey} {c : Nat} (hc : w.cache k = some c) :
    refsOf w k = (w.conns c).refs.toNat ∧ refsOf w k > 0 := by
  have hp := h.pos k c hc
  constructor
  · simp only [refsOf, hc]
  · simp only [refsOf, hc]; omega

theorem refsOf_not_cached {w : Drv.World} {k : Drv.fileCacheKey} (hc : w.cache k = none) : refsOf w k = 0 := by
  simp only [refsOf, hc]

theorem cached_of_held {w : Drv.World} {k : Drv.fileCacheKey} (h : refsOf w k > 0) : ∃ c, w.cache k = some c := by
  cases hc : w.cache k with
  | none => rw [refsOf_not_cached hc] at h; cases h
  | some c => exact ⟨c, rfl⟩

theorem bump_refsOf {w : Drv.World} (h : ConnInv w) (k : Drv.fileCacheKey) (c : Nat) (hc : w.cache k = some c) (r : Int) :
    refsOf (bump w c r) = upd (refsOf w) k r.toNat := by
  funext k'
  by_cases hk : k' = k
  · subst hk
    simp [refsOf, upd, bump, hc]
  · simp only [upd, hk, if_false, refsOf]
    show (match w.cache k' with | some c' => ((bump w c r).conns c').refs.toNat | none => 0) = _
    cases hck : w.cache k' with
    | none => rfl
    | some c' =>
      have hne : c' ≠ c := fun heq => hk (h.inj (heq ▸ hck) hc)
      simp [bump, hne]

theorem addEntry_cache (w : Drv.World) (key : Drv.fileCacheKey) (file : Bytes) (k : Drv.fileCacheKey) :
    (addEntry w key file).cache k = if k = key then some w.nextConn else w.cache k := rfl

theorem addEntry_conns (w : Drv.World) (key : Drv.fileCacheKey) (file : Bytes) (c : Nat) :
    (addEntry w key file).conns c = if c = w.nextConn then { idx := some w.nextIdx, key := key, refs := 1 } else w.conns c :=
  rfl

theorem addEntry_openIdx (w : Drv.World) (key : Drv.fileCacheKey) (file : Bytes) (i : Nat) :
    (addEntry w key file).openIdx i = if i = w.nextIdx then some file else w.openIdx i := rfl

theorem addEntry_cases {w : Drv.World} (h : ConnInv w) (key : Drv.fileCacheKey) (file : Bytes) {k : Drv.fileCacheKey}
    {c : Nat} (hc : (addEntry w key file).cache k = some c) :
    (k = key ∧ c = w.nextConn ∧ (addEntry w key file).conns c = { idx := some w.nextIdx, key := key, refs := 1 }) ∨
    (k ≠ key ∧ w.cache k = some c ∧ (addEntry w key file).conns c = w.conns c) := by
  rw [addEntry_cache] at hc
  by_cases hk : k = key
  · rw [if_pos hk] at hc
    cases hc
    exact Or.inl ⟨hk, rfl, by rw [addEntry_conns, if_pos rfl]⟩
  · rw [if_neg hk] at hc
    exact Or.inr ⟨hk, hc, by rw [addEntry_conns, if_neg (Nat.ne_of_lt (h.fresh k c hc))]⟩

theorem addEntry_connInv {w : Drv.World} (h : ConnInv w) (key : Drv.fileCacheKey) (file : Bytes) :
    ConnInv (addEntry w key file) := by
  refine ⟨h.idle, h.clean, fun k c hc => ?_, fun k c hc => ?_, fun k c hc => ?_⟩
  · rcases addEntry_cases h key file hc with ⟨rfl, _, e⟩ | ⟨_, h1, e⟩
    · rw [e]
    · rw [e]; exact h.key k c h1
  · rcases addEntry_cases h key file hc with ⟨_, _, e⟩ | ⟨_, h1, e⟩
    · rw [e]; exact Int.le_refl 1
    · rw [e]; exact h.pos k c h1
  · rcases addEntry_cases h key file hc with ⟨_, rfl, _⟩ | ⟨_, h1, _⟩
    · exact Nat.lt_succ_self _
    · exact Nat.lt_succ_of_lt (h.fresh k c h1)

theorem addEntry_refsOf {w : Drv.World} (h : ConnInv w) (key : Drv.fileCacheKey) (file : Bytes) :
    refsOf (addEntry w key file) = upd (refsOf w) key 1 := by
  funext k
  by_cases hk : k = key
  · subst hk; simp [refsOf, upd, addEntry]
  · simp only [upd, hk, if_false, refsOf, addEntry]
    cases hck : w.cache k with
    | none => rfl
    | some c =>
      have hne : c ≠ w.nextConn := Nat.ne_of_lt (h.fresh k c hck)
      simp [hne]

theorem addEntry_handleInv {w : Drv.World} (hc : ConnInv w) (h : HandleInv w) (key : Drv.fileCacheKey) (file : Bytes)
    (hnone : w.cache key = none) (hfile : key.file = file) : HandleInv (addEntry w key file) := by
  refine ⟨fun k c hck => ?_, fun k k' c c' i h1 h2 h3 h4 => ?_, fun i f ho => ?_⟩
  · rcases addEntry_cases hc key file hck with ⟨rfl, _, e⟩ | ⟨_, h1, e⟩
    · exact ⟨w.nextIdx, by rw [e], Nat.lt_succ_self _, by rw [addEntry_openIdx, if_pos rfl, hfile]⟩
    · obtain ⟨i, e1, e2, e3⟩ := h.owns k c h1
      exact ⟨i, by rw [e]; exact e1, Nat.lt_succ_of_lt e2, by rw [addEntry_openIdx, if_neg (Nat.ne_of_lt e2)]; exact e3⟩
  · -- the new entry owns handle `nextIdx`, every old one a handle below `nextIdx`
    rcases addEntry_cases hc key file h1 with ⟨hk, _, e⟩ | ⟨_, g1, e⟩ <;>
      rcases addEntry_cases hc key file h2 with ⟨hk', _, e'⟩ | ⟨_, g2, e'⟩ <;> rw [e] at h3 <;> rw [e'] at h4
    · exact hk.trans hk'.symm
    · obtain ⟨j, e1, e2, _⟩ := h.owns k' c' g2
      cases h3; rw [h4] at e1; cases e1
      exact absurd rfl (Nat.ne_of_lt e2)
    · obtain ⟨j, e1, e2, _⟩ := h.owns k c g1
      cases h4; rw [h3] at e1; cases e1
      exact absurd rfl (Nat.ne_of_lt e2)
    · exact h.sep k k' c c' i g1 g2 h3 h4
  · rw [addEntry_openIdx] at ho
    by_cases hi : i = w.nextIdx
    · rw [if_pos hi] at ho
      cases ho
      exact ⟨key, w.nextConn, by rw [addEntry_cache, if_pos rfl], by rw [addEntry_conns, if_pos rfl, hi], hfile⟩
    · rw [if_neg hi] at ho
      obtain ⟨k, c, h1, h2, h3⟩ := h.noleak i f ho
      have hk : k ≠ key := fun e => by rw [e, hnone] at h1; cases h1
      exact ⟨k, c, by rw [addEntry_cache, if_neg hk]; exact h1,
        by rw [addEntry_conns, if_neg (Nat.ne_of_lt (hc.fresh k c h1))]; exact h2, h3⟩

theorem dropEntry_cache (w : Drv.World) (k : Drv.fileCacheKey) (c i : Nat) (k' : Drv.fileCacheKey) :
    (dropEntry w k c i).cache k' = if k' = k then none else w.cache k' := rfl

theorem dropEntry_conns (w : Drv.World) (k : Drv.fileCacheKey) (c i : Nat) (c' : Nat) :
    (dropEntry w k c i).conns c' = if c' = c then { idx := none, key := k, refs := 0 } else w.conns c' := rfl

theorem dropEntry_openIdx (w : Drv.World) (k : Drv.fileCacheKey) (c i : Nat) (j : Nat) :
    (dropEntry w k c i).openIdx j = if j = i then none else w.openIdx j := rfl

theorem dropEntry_cases {w : Drv.World} (h : ConnInv w) {k : Drv.fileCacheKey} {c : Nat} (i : Nat) (hc : w.cache k = some c)
    {k' : Drv.fileCacheKey} {c' : Nat} (hc' : (dropEntry w k c i).cache k' = some c') :
    k' ≠ k ∧ w.cache k' = some c' ∧ (dropEntry w k c i).conns c' = w.conns c' := by
  rw [dropEntry_cache] at hc'
  by_cases hk : k' = k
  · rw [if_pos hk] at hc'; cases hc'
  · rw [if_neg hk] at hc'
    exact ⟨hk, hc', by rw [dropEntry_conns, if_neg fun (heq : c' = c) => hk (h.inj (heq ▸ hc') hc)]⟩

theorem dropEntry_connInv {w : Drv.World} (h : ConnInv w) (k : Drv.fileCacheKey) (c i : Nat) (hc : w.cache k = some c) :
    ConnInv (dropEntry w k c i) := by
  refine ⟨h.idle, h.clean, fun k' c' hck => ?_, fun k' c' hck => ?_, fun k' c' hck => ?_⟩
  · obtain ⟨_, h1, e⟩ := dropEntry_cases h i hc hck
    rw [e]; exact h.key k' c' h1
  · obtain ⟨_, h1, e⟩ := dropEntry_cases h i hc hck
    rw [e]; exact h.pos k' c' h1
  · exact h.fresh k' c' (dropEntry_cases h i hc hck).2.1

theorem dropEntry_refsOf {w : Drv.World} (h : ConnInv w) (k : Drv.fileCacheKey) (c i : Nat) (hc : w.cache k = some c) :
    refsOf (dropEntry w k c i) = upd (refsOf w) k 0 := by
  funext k'
  by_cases hk : k' = k
  · subst hk; simp [refsOf, upd, dropEntry]
  · simp only [upd, hk, if_false, refsOf, dropEntry]
    cases hck : w.cache k' with
    | none => rfl
    | some c' =>
      have hne : c' ≠ c := fun heq => hk (h.inj (heq ▸ hck) hc)
      simp [hne]

theorem dropEntry_handleInv {w : Drv.World} (hc : ConnInv w) (h : HandleInv w) (k : Drv.fileCacheKey) (c i : Nat)
    (hck : w.cache k = some c) (hi : (w.conns c).idx = some i) : HandleInv (dropEntry w k c i) := by
  refine ⟨fun k' c' h1 => ?_, fun k1 k2 c1 c2 j h1 h2 h3 h4 => ?_, fun j f ho => ?_⟩
  · obtain ⟨hk, g1, e⟩ := dropEntry_cases hc i hck h1
    obtain ⟨j, e1, e2, e3⟩ := h.owns k' c' g1
    have hji : j ≠ i := fun e => hk (h.sep k' k c' c i g1 hck (e ▸ e1) hi)
    exact ⟨j, by rw [e]; exact e1, e2, by rw [dropEntry_openIdx, if_neg hji]; exact e3⟩
  · obtain ⟨_, g1, e1⟩ := dropEntry_cases hc i hck h1
    obtain ⟨_, g2, e2⟩ := dropEntry_cases hc i hck h2
    rw [e1] at h3; rw [e2] at h4
    exact h.sep k1 k2 c1 c2 j g1 g2 h3 h4
  · rw [dropEntry_openIdx] at ho
    by_cases hji : j = i
    · rw [if_pos hji] at ho; cases ho
    · rw [if_neg hji] at ho
      obtain ⟨k', c', h1, h2, h3⟩ := h.noleak j f ho
      have hk : k' ≠ k := by
        rintro rfl
        rw [hck] at h1; cases h1
        rw [hi] at h2; cases h2
        exact hji rfl
      exact ⟨k', c', by rw [dropEntry_cache, if_neg hk]; exact h1,
        by rw [dropEntry_conns, if_neg fun (heq : c' = c) => hk (hc.inj (heq ▸ h1) hck)]; exact h2, h3⟩

/-! ## 2. the driver over real files: generated open, generated execute, generated LRU behind every handle -/

open Updog.Go.T3 in
/-- what `OpenIndexFromBoltDatabase` returned for a handle: the database record, the reader's heap, the `*Index` -/
structure Opened where
  bolt : Bolt
  hp : Heap
  idx : Go.T3.Index

/-- T5's world (cache map, connections, reference counts, mutex, abstract index handles) extended with what the abstract
    `Drv.openIndex` leaves out: for every index handle, the options it was opened with, what the GENERATED
    `OpenIndexFromBoltDatabase` returned for it, and the GENERATED LRU cache `WithCache(NewLRUCache(n))` gave it -/
structure GWorld where
  w : Drv.World
  cfg : Drv.IdxId → FileConfig
  opened : Drv.IdxId → Option Opened
  lru : Drv.IdxId → Gen.LRUCache

/-- an operation of a client of the driver; a data source is named by its DSN (file, option values) -/
inductive DOp where
  /-- `driver.Open("file:<file>?<v>")` -/
  | open (file : Bytes) (v : Url.Values)
  /-- prepare `text` on the connection of the DSN and run it with the arguments `values` -/
  | query (file : Bytes) (v : Url.Values) (text : Bytes) (values : List Bytes)
  /-- `Close` one connection of the DSN -/
  | close (file : Bytes) (v : Url.Values)

/-- what the client sees -/
inductive DRes where
  /-- `Open` returned this connection -/
  | conn (c : Drv.ConnId)
  /-- `Open` (or `Close`) returned an error -/
  | failed
  /-- the statement was run: its rows (header, cells), or an error (parse error, too few arguments, library error) -/
  | rows (r : Outcome (List Bytes × List (List Cell)))
  | closed
  /-- the client has no such connection / nil index: a nil dereference in Go -/
  | panic
  deriving DecidableEq

def DRes.outcome : DRes → Outcome Unit
  | .conn _ => .ok ()
  | .failed => .error
  | .rows _ => .ok ()
  | .closed => .ok ()
  | .panic => .panic

/-- the connection-cache key of a DSN (`none`: `lrucachesize` does not parse, `openFile` fails before the lock) -/
def keyOf (file : Bytes) (v : Url.Values) : Option Drv.fileCacheKey :=
  match dsnConfig (dsnOptsOf v) with
  | .ok c => some ⟨file, c.keyOpts⟩
  | _ => none

theorem keyOf_eq_some {file : Bytes} {v : Url.Values} {k : Drv.fileCacheKey} (h : keyOf file v = some k) :
    ∃ cfg, dsnConfig (dsnOptsOf v) = .ok cfg ∧ k = ⟨file, cfg.keyOpts⟩ := by
  unfold keyOf at h
  split at h
  · rename_i cfg hcfg; cases h; exact ⟨cfg, hcfg, rfl⟩
  · cases h

theorem keyOf_file {file : Bytes} {v : Url.Values} {k : Drv.fileCacheKey} (h : keyOf file v = some k) : k.file = file := by
  obtain ⟨cfg, _, rfl⟩ := keyOf_eq_some h
  rfl

/-- the model operation a client operation stands for -/
def DOp.abs : DOp → Option (KOp Drv.fileCacheKey)
  | .open file v => (keyOf file v).map .open
  | .query file v _ _ => (keyOf file v).map .query
  | .close file v => (keyOf file v).map .close

/-- `openFile` = its two regenerated halves in sequence (as in Props/Gen/DriverConn.lean) -/
def openFileWhole (valid : Bytes → Bool) (w : Drv.World) (file : Bytes) (v : Url.Values) : Except Err5 Drv.ConnId × Drv.World :=
  match Gen.openFileOpts file v with
  | .error e => (.error e, w)
  | .ok o => Gen.openFileLocked valid w file o.key o.opts

theorem openFileWhole_ok (valid : Bytes → Bool) (w : Drv.World) (file : Bytes) (v : Url.Values) (cfg : FileConfig)
    (h : dsnConfig (dsnOptsOf v) = .ok cfg) :
    openFileWhole valid w file v = Gen.openFileLocked valid w file ⟨file, cfg.keyOpts⟩ (optionsOf cfg) := by
  have := openFileOpts_eq file v
  rw [h] at this
  simp only [openFileWhole, this]

theorem openFileWhole_bad (valid : Bytes → Bool) (w : Drv.World) (file : Bytes) (v : Url.Values)
    (h : keyOf file v = none) : ∃ e, openFileWhole valid w file v = (.error e, w) := by
  have := openFileOpts_eq file v
  unfold keyOf at h
  split at h
  · cases h
  · split at this
    · rename_i hno _ c hc; exact absurd hc (hno c)
    · unfold openFileWhole
      rw [this]
      exact ⟨_, rfl⟩

section world
open Updog.Go.T3
variable (X : Ext) (H : Bytes → UInt64) (sz : Ref → UInt64) (fs : Bytes → Option Buckets)

/-- **the generated `OpenIndexFromBoltDatabase`** on a freshly opened read-only database over the committed content
    `c`, for handle `i`, with or without `WithPreloadedData()` -/
def genOpen (i : Nat) (c : Buckets) (preload : Bool) : Bolt × Heap × Option Go.T3.Index × Error :=
  Gen.openIndexFromBoltDatabase X (idle i 0 c []) ({} : Heap) (some i) (openOpts X preload)

/-- the generated open succeeds: no error and a non-nil `*Index` -/
def genOpens (i : Nat) (c : Buckets) (preload : Bool) : Bool :=
  !(isErr (genOpen X i c preload).2.2.2) && (genOpen X i c preload).2.2.1.isSome

/-- **`valid` instantiated: the generated open succeeds on the file's state** (an absent file is invalid) -/
def genValid (file : Bytes) : Bool :=
  match fs file with
  | none => false
  | some c => genOpens X 0 c false

/-- T5's `Drv.openIndex` takes a validity predicate on the FILE only and ignores the options. Instantiating it with the
    generated open therefore needs: on every file, the generated open fails or succeeds regardless of
    `WithPreloadedData()` (and of the handle id). False exactly for files with a valid header and an undecodable bitmap. -/
def OptionBlind : Prop :=
  ∀ f c, fs f = some c → ∀ i preload, genOpens X i c preload = genOpens X 0 c false

/-- `updog.OpenIndex` ran for handle `i`: what the extended world records -/
def GWorld.record (g : GWorld) (w' : Drv.World) (i : Nat) (cfg : FileConfig) (content : Buckets) : GWorld :=
  { w := w', cfg := upd g.cfg i cfg,
    opened := upd g.opened i ((genOpen X i content cfg.preload).2.2.1.map fun idx =>
      ⟨(genOpen X i content cfg.preload).1, (genOpen X i content cfg.preload).2.1, idx⟩),
    lru := upd g.lru i (Gen.newLRUCache (cfg.cacheSize.getD 0).toUInt64 []) }

/-- **`driver.Open` of a file DSN**: the generated `openFile` (both halves) with `valid` = the generated open; when a
    new index handle was opened, the generated open is run on the file and `NewLRUCache(size)` creates its cache -/
def gOpen (g : GWorld) (file : Bytes) (v : Url.Values) : GWorld × DRes :=
  match (openFileWhole (genValid X fs) g.w file v).1 with
  | .error _ => ({ g with w := (openFileWhole (genValid X fs) g.w file v).2 }, .failed)
  | .ok c =>
    if (openFileWhole (genValid X fs) g.w file v).2.nextIdx = g.w.nextIdx then
      ({ g with w := (openFileWhole (genValid X fs) g.w file v).2 }, .conn c)
    else
      match dsnConfig (dsnOptsOf v), fs file with
      | .ok cfg, some content =>
        (g.record X (openFileWhole (genValid X fs) g.w file v).2 g.w.nextIdx cfg content, .conn c)
      | _, _ => ({ g with w := (openFileWhole (genValid X fs) g.w file v).2 }, .conn c)

/-- the cache state after the `Execute` call `Gen.stmtQuery` makes (none if the arguments do not bind) -/
def lruAfter (o : Opened) (pq : PQuery) (values : List Bytes) (c : Gen.LRUCache) : Gen.LRUCache :=
  match bind pq values with
  | .ok q' => (genExecute H (genLruImpl sz) X o.bolt o.hp o.idx (Gen.ToQuery (Go.Parsed.Query.toWire q')) [] c).1
  | _ => c

/-- **a statement on the connection of a DSN**: `Prepare` = the generated `ParseQuery`, `Query` = the generated
    `stmtQuery` over the all-generated `Execute` on the index the generated open returned for the connection's handle,
    through `nullCache` or the handle's generated LRU -/
def gQuery (g : GWorld) (file : Bytes) (v : Url.Values) (text : Bytes) (values : List Bytes) : GWorld × DRes :=
  match keyOf file v with
  | none => (g, .panic)
  | some k =>
    match g.w.cache k with
    | none => (g, .panic)
    | some c =>
      match (g.w.conns c).idx with
      | none => (g, .panic)
      | some i =>
        match g.opened i with
        | none => (g, .panic)
        | some o =>
          match Gen.ParseQuery (3 * text.length + 5) text with
          | .error _ => (g, .rows .error)
          | .ok pq =>
            match (g.cfg i).cacheSize with
            | none =>
              (g, .rows ((toOutcome (Gen.stmtQuery (genLibExecute H nullCacheImpl X o.bolt o.hp o.idx ()) ⟨pq⟩ values)).map
                GenCompose.rowsView))
            | some _ =>
              ({ g with lru := upd g.lru i (lruAfter X H sz o pq values (g.lru i)) },
               .rows ((toOutcome (Gen.stmtQuery (genLibExecute H (genLruImpl sz) X o.bolt o.hp o.idx (g.lru i)) ⟨pq⟩
                 values)).map GenCompose.rowsView))

/-- **`Close` of one connection of a DSN**: the generated `fileConn.Close` on the cached connection -/
def gClose (g : GWorld) (file : Bytes) (v : Url.Values) : GWorld × DRes :=
  match keyOf file v with
  | none => (g, .panic)
  | some k =>
    match g.w.cache k with
    | none => (g, .panic)
    | some c =>
      ({ g with w := (Gen.connClose g.w c).2 },
       match (Gen.connClose g.w c).1 with
       | none => .closed
       | some _ => .failed)

def gstep (g : GWorld) : DOp → GWorld × DRes
  | .open file v => gOpen X fs g file v
  | .query file v text values => gQuery X H sz g file v text values
  | .close file v => gClose g file v

def grun (g : GWorld) : List DOp → GWorld × List DRes
  | [] => (g, [])
  | op :: ops => ((grun (gstep X H sz fs g op).1 ops).1, (gstep X H sz fs g op).2 :: (grun (gstep X H sz fs g op).1 ops).2)

/-- the driver before its first use (the per-handle tables are irrelevant: no handle exists) -/
def g0 : GWorld := ⟨w0, fun _ => ⟨false, none, []⟩, fun _ => none, fun _ => Gen.newLRUCache 0 []⟩

/-! ### the invariant -/

/-- the file holds the index the writer made of `rows` (fewer than 2^64), in bbolt's key order -/
def GoodFile (f : Bytes) (rows : List Row) : Prop :=
  ∃ c d next, fs f = some c ∧ bucketsGet c dataName = some d ∧ SortedData d ∧
    HoldsWriter X d (Writer.addRows H {} rows) next ∧ rows.length < 2 ^ 64

theorem GoodFile.length_lt {f : Bytes} {rows : List Row} (h : GoodFile X H fs f rows) : rows.length < 2 ^ 64 := by
  obtain ⟨_, _, _, _, _, _, _, h⟩ := h
  exact h

/-- what is known about handle `i` on a file holding `rows`: the recorded index is the one the generated open returns
    (its getter refines the model index), and — if the handle has a cache — the generated LRU is related to a model
    LRU that is sound for this file -/
structure HandleGood (U : List Expr) (g : GWorld) (i : Nat) (rows : List Row) : Prop where
  opened : ∃ bolt hp j vals d next,
    g.opened i = some ⟨bolt, hp, openedIndex j (Writer.addRows H {} rows).schema next vals⟩ ∧
    HoldsWriter X d (Writer.addRows H {} rows) next ∧
    GetColRefines (genGetCol X bolt hp vals) (fileIndex X d (Writer.addRows H {} rows).schema next)
  cache : ∀ n, (g.cfg i).cacheSize = some n →
    ∃ m, LruRel sz n.toUInt64 (g.lru i) m ∧
      Sound H (Writer.addRows H {} rows).toIndex U (C03.lruCache_contract fun b => (sz b).toNat) m

theorem HandleGood.congr {U : List Expr} {g g' : GWorld} {i : Nat} {rows : List Row}
    (h : HandleGood X H sz U g i rows) (h1 : g'.opened i = g.opened i) (h2 : g'.cfg i = g.cfg i) (h3 : g'.lru i = g.lru i) :
    HandleGood X H sz U g' i rows := by
  obtain ⟨ho, hc⟩ := h
  exact ⟨by rw [h1]; exact ho, by rw [h2, h3]; exact hc⟩

/-- every handle of a cached connection on a good file is good -/
def HandleSem (U : List Expr) (g : GWorld) : Prop :=
  ∀ k (c i : Nat), g.w.cache k = some c → (g.w.conns c).idx = some i →
    ∀ rows, GoodFile X H fs k.file rows → HandleGood X H sz U g i rows

structure GInv (U : List Expr) (g : GWorld) : Prop where
  conn : ConnInv g.w
  handle : HandleInv g.w
  /-- the handle of every cached connection has a recorded (non-nil) index -/
  live : ∀ k (c i : Nat), g.w.cache k = some c → (g.w.conns c).idx = some i → (g.opened i).isSome = true
  sem : HandleSem X H sz fs U g

theorem g0_inv (U : List Expr) : GInv X H sz fs U g0 :=
  ⟨w0_connInv, w0_handleInv, fun k c i h => (by cases h), fun k c i h => (by cases h)⟩

/-! ### `Open` -/

/-- only the driver's part of the world changed, and the cached connections and their handles are among the old ones -/
theorem GInv.of_w {U : List Expr} {g : GWorld} (h : GInv X H sz fs U g) (w' : Drv.World) (hc : ConnInv w')
    (hh : HandleInv w')
    (hsub : ∀ k (c i : Nat), w'.cache k = some c → (w'.conns c).idx = some i →
      g.w.cache k = some c ∧ (g.w.conns c).idx = some i) :
    GInv X H sz fs U { g with w := w' } :=
  ⟨hc, hh, fun k c i h1 h2 => h.live k c i (hsub k c i h1 h2).1 (hsub k c i h1 h2).2,
   fun k c i h1 h2 rows hg => (h.sem k c i (hsub k c i h1 h2).1 (hsub k c i h1 h2).2 rows hg).congr X H sz rfl rfl rfl⟩

/-- **the three things `Open` does**: fail and change nothing (options unparsable; or no connection of the key cached
    and the generated open does not succeed on the file), share the cached connection of the key (one more reference),
    or open the file: a new connection is cached and what the generated open returned is recorded for its handle -/
theorem gOpen_cases (g : GWorld) (hinv : ConnInv g.w) (file : Bytes) (v : Url.Values) :
    (gOpen X fs g file v = (g, .failed) ∧
      (keyOf file v = none ∨ ∃ k, keyOf file v = some k ∧ g.w.cache k = none ∧ genValid X fs file = false)) ∨
    (∃ k c, keyOf file v = some k ∧ g.w.cache k = some c ∧
      gOpen X fs g file v = ({ g with w := bump g.w c ((g.w.conns c).refs + 1) }, .conn c)) ∨
    (∃ cfg content, dsnConfig (dsnOptsOf v) = .ok cfg ∧ keyOf file v = some ⟨file, cfg.keyOpts⟩ ∧
      g.w.cache ⟨file, cfg.keyOpts⟩ = none ∧ fs file = some content ∧ genValid X fs file = true ∧
      gOpen X fs g file v =
        (g.record X (addEntry g.w ⟨file, cfg.keyOpts⟩ file) g.w.nextIdx cfg content, .conn g.w.nextConn)) := by
  cases hk : keyOf file v with
  | none =>
    obtain ⟨e, hr⟩ := openFileWhole_bad (genValid X fs) g.w file v hk
    exact Or.inl ⟨by unfold gOpen; simp only [hr], Or.inl rfl⟩
  | some k =>
    obtain ⟨cfg, hd, rfl⟩ := keyOf_eq_some hk
    have hw := openFileWhole_ok (genValid X fs) g.w file v cfg hd
    cases hc : g.w.cache ⟨file, cfg.keyOpts⟩ with
    | some c =>
      have hr := hw.trans (openFileLocked_hit _ _ hinv.idle hinv.clean _ _ _ c hc)
      exact Or.inr (Or.inl ⟨_, c, rfl, hc, by unfold gOpen; simp only [hr]; exact if_pos rfl⟩)
    | none =>
      cases hv : genValid X fs file with
      | false =>
        obtain ⟨e, he⟩ := openFileLocked_fail (genValid X fs) g.w hinv.idle hinv.clean file ⟨file, cfg.keyOpts⟩
          (optionsOf cfg) hc hv
        exact Or.inl ⟨by unfold gOpen; simp only [hw.trans he], Or.inr ⟨_, rfl, hc, rfl⟩⟩
      | true =>
        obtain ⟨content, hfs⟩ : ∃ content, fs file = some content := by
          unfold genValid at hv
          cases hf : fs file with
          | none => rw [hf] at hv; cases hv
          | some c => exact ⟨c, rfl⟩
        have hr := hw.trans (openFileLocked_new _ _ hinv.idle hinv.clean _ _ _ hc hv)
        refine Or.inr (Or.inr ⟨cfg, content, hd, rfl, hc, hfs, rfl, ?_⟩)
        unfold gOpen
        simp only [hr, hd, hfs]
        exact if_neg (Nat.succ_ne_self _)

theorem record_inv {U : List Expr} (hnil : X.roaringFromBuffer [] = none) (hblind : OptionBlind X fs) {g : GWorld}
    (hinv : GInv X H sz fs U g) (file : Bytes) (cfg : FileConfig) (hc : g.w.cache ⟨file, cfg.keyOpts⟩ = none)
    (content : Buckets) (hfs : fs file = some content) (hv : genValid X fs file = true)
    (hfit : ∀ n, cfg.cacheSize = some n → ∀ bm, n.toUInt64.toNat + (sz bm).toNat + ovh < 2 ^ 64) :
    GInv X H sz fs U (g.record X (addEntry g.w ⟨file, cfg.keyOpts⟩ file) g.w.nextIdx cfg content) := by
  -- an entry of the new world is the new one (new handle) or an old one (old handle, below the counter)
  have split : ∀ k (c i : Nat), (addEntry g.w ⟨file, cfg.keyOpts⟩ file).cache k = some c →
      ((addEntry g.w ⟨file, cfg.keyOpts⟩ file).conns c).idx = some i →
      (k = ⟨file, cfg.keyOpts⟩ ∧ i = g.w.nextIdx) ∨
      (g.w.cache k = some c ∧ (g.w.conns c).idx = some i ∧ i ≠ g.w.nextIdx) := by
    intro k c i h1 h2
    rcases addEntry_cases hinv.conn _ file h1 with ⟨hk, _, e⟩ | ⟨_, h1', e⟩ <;> rw [e] at h2
    · cases h2; exact Or.inl ⟨hk, rfl⟩
    · obtain ⟨j, e1, e2, _⟩ := hinv.handle.owns k c h1'
      rw [h2] at e1; cases e1
      exact Or.inr ⟨h1', h2, Nat.ne_of_lt e2⟩
  have hopens : genOpens X g.w.nextIdx content cfg.preload = true := by
    rw [hblind file content hfs]
    simpa only [genValid, hfs] using hv
  refine ⟨addEntry_connInv hinv.conn _ file, addEntry_handleInv hinv.conn hinv.handle _ file hc rfl, ?_, ?_⟩
  · intro k c i h1 h2
    rcases split k c i h1 h2 with ⟨_, rfl⟩ | ⟨h1', h2', hne⟩
    · simp only [GWorld.record, upd_same]
      simp only [genOpens, Bool.and_eq_true] at hopens
      rw [Option.isSome_map]
      exact hopens.2
    · simp only [GWorld.record, upd_other _ _ _ _ hne]
      exact hinv.live k c i h1' h2'
  · intro k c i h1 h2 rows hgood
    rcases split k c i h1 h2 with ⟨rfl, rfl⟩ | ⟨h1', h2', hne⟩
    · obtain ⟨c', d, next, hfs', hb, hs, hw, hlen⟩ := hgood
      rw [hfs] at hfs'; cases hfs'
      obtain ⟨n', hp', vals, hopen, hg⟩ := GenCompose.opened_index_refines X g.w.nextIdx 0 content [] ({} : Heap) d _
        next (hw.fileOK hb) hnil cfg.preload (fun _ => hs) (fun _ => hw.vDecodable hs)
      refine ⟨⟨_, _, g.w.nextIdx, vals, d, next, ?_, hw, hg⟩, ?_⟩
      · simp only [GWorld.record, upd_same, genOpen, hopen, Option.map_some]
      · intro n hn
        simp only [GWorld.record, upd_same] at hn ⊢
        have hnew := newLRUCache_rel sz n.toUInt64 [] (hfit n hn)
        simp only [List.map_nil] at hnew
        rw [hn, Option.getD_some]
        exact ⟨_, hnew.1, (C03.lru_empty _ _ hnew.2).sound H _ _ _⟩
    · exact (hinv.sem k c i h1' h2' rows hgood).congr X H sz (by simp only [GWorld.record, upd_other _ _ _ _ hne])
        (by simp only [GWorld.record, upd_other _ _ _ _ hne]) (by simp only [GWorld.record, upd_other _ _ _ _ hne])

def validK : Drv.fileCacheKey → Bool := fun k => genValid X fs k.file

theorem validK_keyOf {file : Bytes} {v : Url.Values} {k : Drv.fileCacheKey} (hk : keyOf file v = some k) :
    validK X fs k = genValid X fs file := by
  unfold validK
  rw [keyOf_file hk]

/-- **`Open`: one step of the composed driver is the model's `open` step**, and the invariant is kept -/
theorem gOpen_spec {U : List Expr} (hnil : X.roaringFromBuffer [] = none) (hblind : OptionBlind X fs) (g : GWorld)
    (hinv : GInv X H sz fs U g) (file : Bytes) (v : Url.Values)
    (hfit : ∀ cfg n, dsnConfig (dsnOptsOf v) = .ok cfg → cfg.cacheSize = some n →
      ∀ bm, n.toUInt64.toNat + (sz bm).toNat + ovh < 2 ^ 64) :
    GInv X H sz fs U (gOpen X fs g file v).1 ∧
    refsOf (gOpen X fs g file v).1.w = (stepO (validK X fs) (refsOf g.w) ((keyOf file v).map .open)).1 ∧
    (gOpen X fs g file v).2.outcome = (stepO (validK X fs) (refsOf g.w) ((keyOf file v).map .open)).2 := by
  rcases gOpen_cases X fs g hinv.conn file v with
    ⟨he, hbad⟩ | ⟨k, c, hk, hc, he⟩ | ⟨cfg, content, hd, hk, hc, hfs, hv, he⟩
  · rw [he]
    rcases hbad with hk | ⟨k, hk, hc, hv⟩
    · rw [hk]; exact ⟨hinv, rfl, rfl⟩
    · rw [hk, Option.map_some, stepO,
        stepG_open_fail _ _ _ (refsOf_not_cached hc) ((validK_keyOf X fs hk).trans hv)]
      exact ⟨hinv, rfl, rfl⟩
  · have hr := refsOf_cached hinv.conn hc
    rw [he, hk, Option.map_some, stepO, stepG_open_held _ _ _ hr.2]
    refine ⟨hinv.of_w X H sz fs _ (bump_connInv hinv.conn c _ (by have := hinv.conn.pos k c hc; omega))
      (bump_handleInv hinv.handle c _) (fun k c' i h1 h2 => ⟨h1, by rw [bump_idx] at h2; exact h2⟩), ?_, rfl⟩
    show refsOf (bump g.w c ((g.w.conns c).refs + 1)) = _
    rw [bump_refsOf hinv.conn _ c hc, hr.1]
    congr 1
    have := hinv.conn.pos k c hc
    omega
  · rw [he, hk, Option.map_some, stepO,
      stepG_open_new _ _ _ (refsOf_not_cached hc) ((validK_keyOf X fs hk).trans hv)]
    exact ⟨record_inv X H sz fs hnil hblind hinv file cfg hc content hfs hv (fun n hn => hfit cfg n hd hn),
      addEntry_refsOf hinv.conn _ _, rfl⟩

/-! ### `Close` -/

/-- **the two things `Close` of a held connection does**: the last connection of its key goes together with the cache
    entry and the key's index handle (which was open on the key's file); any other one only gives up its reference -/
theorem gClose_cases (g : GWorld) (hc : ConnInv g.w) (hh : HandleInv g.w) (file : Bytes) (v : Url.Values)
    (k : Drv.fileCacheKey) (hk : keyOf file v = some k) (c : Nat) (hck : g.w.cache k = some c) :
    ((g.w.conns c).refs = 1 ∧ ∃ i, (g.w.conns c).idx = some i ∧ g.w.openIdx i = some k.file ∧
      gClose g file v = ({ g with w := dropEntry g.w k c i }, .closed)) ∨
    (2 ≤ (g.w.conns c).refs ∧ gClose g file v = ({ g with w := bump g.w c ((g.w.conns c).refs - 1) }, .closed)) := by
  have hp := hc.pos k c hck
  by_cases h1 : (g.w.conns c).refs = 1
  · obtain ⟨i, hi, _, hoi⟩ := hh.owns k c hck
    have hr := connClose_last g.w hc.idle hc.clean k c i hck (hc.key k c hck) h1 hi
    exact Or.inl ⟨h1, i, hi, hoi, by unfold gClose; simp only [hk, hck, hr]⟩
  · have h2 : 2 ≤ (g.w.conns c).refs := by omega
    have hr := connClose_notlast g.w hc.idle hc.clean c h2
    exact Or.inr ⟨h2, by unfold gClose; simp only [hk, hck, hr]⟩

/-- **`Close`: one step of the composed driver is the model's `close` step**, and the invariant is kept -/
theorem gClose_spec {U : List Expr} (g : GWorld) (hinv : GInv X H sz fs U g) (file : Bytes) (v : Url.Values)
    (k : Drv.fileCacheKey) (hk : keyOf file v = some k) (hheld : refsOf g.w k > 0) :
    GInv X H sz fs U (gClose g file v).1 ∧
    refsOf (gClose g file v).1.w = upd (refsOf g.w) k (refsOf g.w k - 1) ∧
    (gClose g file v).2 = .closed := by
  obtain ⟨c, hc⟩ := cached_of_held hheld
  have hrefs := (refsOf_cached hinv.conn hc).1
  rcases gClose_cases g hinv.conn hinv.handle file v k hk c hc with ⟨h1, i, hi, _, he⟩ | ⟨h2, he⟩
  · rw [he]
    refine ⟨hinv.of_w X H sz fs _ (dropEntry_connInv hinv.conn k c i hc)
      (dropEntry_handleInv hinv.conn hinv.handle k c i hc hi) ?_, ?_, rfl⟩
    · intro k' c' i' h1' h2'
      obtain ⟨_, g1, e⟩ := dropEntry_cases hinv.conn i hc h1'
      exact ⟨g1, by rw [e] at h2'; exact h2'⟩
    · show refsOf (dropEntry g.w k c i) = _
      rw [dropEntry_refsOf hinv.conn k c i hc, hrefs, h1]
      rfl
  · rw [he]
    refine ⟨hinv.of_w X H sz fs _ (bump_connInv hinv.conn c _ (by omega)) (bump_handleInv hinv.handle c _)
      (fun k c' i h1 h2 => ⟨h1, by rw [bump_idx] at h2; exact h2⟩), ?_, rfl⟩
    show refsOf (bump g.w c ((g.w.conns c).refs - 1)) = _
    rw [bump_refsOf hinv.conn _ c hc, hrefs]
    congr 1
    omega

/-! ### `Query` -/

/-- **a statement on an open connection**: the driver's world is untouched (only the handle's LRU moves), the
    invariant is kept, the call returns (rows or an error, never a nil dereference), and on a file that holds the
    written `rows` a statement that parses, binds and meets the collision hypotheses of C01 / C02 returns exactly the
    SQL rows of THAT file — through `nullCache` or the handle's generated LRU, whichever the DSN configured -/
theorem gQuery_spec {U : List Expr} (hU : SubClosed U)
    (hkeyU : ∀ f rows, GoodFile X H fs f rows → KeyOK H (Writer.addRows H {} rows).toIndex U)
    (g : GWorld) (hinv : GInv X H sz fs U g) (file : Bytes) (v : Url.Values) (text : Bytes) (values : List Bytes)
    (k : Drv.fileCacheKey) (hk : keyOf file v = some k) (hheld : refsOf g.w k > 0)
    (hinU : ∀ pq q', Gen.ParseQuery (3 * text.length + 5) text = .ok pq → bind pq values = .ok q' → toExpr q'.expr ∈ U) :
    GInv X H sz fs U (gQuery X H sz g file v text values).1 ∧
    (gQuery X H sz g file v text values).1.w = g.w ∧
    (∃ r, (gQuery X H sz g file v text values).2 = .rows r) ∧
    (∀ rows pq q', GoodFile X H fs file rows → Gen.ParseQuery (3 * text.length + 5) text = .ok pq →
      bind pq values = .ok q' → EndToEnd.QueryOK H rows (toQuery q') → DataNoCollision H rows →
      ∃ r, sqlRows rows q' = some r ∧ (gQuery X H sz g file v text values).2 = .rows (.ok r)) := by
  obtain ⟨c, hc⟩ := cached_of_held hheld
  obtain ⟨i, hi, _, _⟩ := hinv.handle.owns k c hc
  obtain ⟨o, ho⟩ := Option.isSome_iff_exists.mp (hinv.live k c i hc hi)
  have hsem : ∀ rows, GoodFile X H fs file rows → rows.length < 2 ^ 64 ∧ HandleGood X H sz U g i rows :=
    fun rows hgood => ⟨hgood.length_lt X H fs, hinv.sem k c i hc hi rows (by rw [keyOf_file hk]; exact hgood)⟩
  generalize hr : gQuery X H sz g file v text values = r
  unfold gQuery at hr
  simp only [hk, hc, hi, ho] at hr
  cases hparse : Gen.ParseQuery (3 * text.length + 5) text with
  | error e =>
    simp only [hparse] at hr
    subst hr
    exact ⟨hinv, rfl, ⟨_, rfl⟩, fun rows pq q' _ h => by cases h⟩
  | ok pq =>
    simp only [hparse] at hr
    cases hcs : (g.cfg i).cacheSize with
    | none =>
      simp only [hcs] at hr
      subst hr
      refine ⟨hinv, rfl, ⟨_, rfl⟩, fun rows pq' q' hgood hp' hb ok hD => ?_⟩
      cases hp'
      obtain ⟨hlen, ⟨bolt, hp, j, vals, d, next, hop, hw, hgr⟩, _⟩ := hsem rows hgood
      rw [ho] at hop
      cases hop
      obtain ⟨r, hr1, hr2⟩ := stmtQuery_sql H X rows bolt hp j d next vals hw hgr hlen nullCacheImpl () pq values q' hb
        (evalC_null H _ _) (executeC_null H _ _) ok hD
      exact ⟨r, hr1, congrArg DRes.rows hr2⟩
    | some n =>
      simp only [hcs] at hr
      subst hr
      refine ⟨⟨hinv.conn, hinv.handle, hinv.live, ?_⟩, rfl, ⟨_, rfl⟩, fun rows pq' q' hgood hp' hb ok hD => ?_⟩
      · intro k' c' i' h1 h2 rows hgood
        have hold := hinv.sem k' c' i' h1 h2 rows hgood
        by_cases hii : i' = i
        · subst hii
          obtain ⟨⟨bolt, hp, j, vals, d, next, hop, hw, hgr⟩, hcache⟩ := hold
          refine ⟨⟨bolt, hp, j, vals, d, next, hop, hw, hgr⟩, fun n' hn' => ?_⟩
          obtain ⟨m, hrel, hst⟩ := hcache n' hn'
          simp only [upd_same]
          rw [ho] at hop
          cases hop
          unfold lruAfter
          cases hb : bind pq values with
          | ok q' =>
            exact genLruExecute_state H X bolt hp j d next vals hw hgr (written_fits H rows (hgood.length_lt X H fs)) sz n'.toUInt64 hU
              (hkeyU k'.file rows hgood) (g.lru i') m hrel hst _ _ (libComplete_ToQuery_toWire q') (hinU pq q' hparse hb) []
          | _ => exact ⟨m, hrel, hst⟩
        · exact hold.congr X H sz rfl rfl (upd_other _ _ _ _ hii)
      · cases hp'
        obtain ⟨hlen, ⟨bolt, hp, j, vals, d, next, hop, hw, hgr⟩, hcache⟩ := hsem rows hgood
        obtain ⟨m, hrel, hst⟩ := hcache n hcs
        rw [ho] at hop
        cases hop
        obtain ⟨r, hr1, hr2⟩ := genLru_stmtQuery_sql H X rows bolt hp j d next vals hw hgr hlen sz n.toUInt64 hU
          (hkeyU file rows hgood) (g.lru i) m hrel hst pq values q' hb (hinU pq q' hparse hb) ok hD
        exact ⟨r, hr1, congrArg DRes.rows hr2⟩

/-! ### histories -/

/-- the handle discipline `database/sql` guarantees, stated on the reference counts (which are the numbers of
    connections the client holds): a connection is queried or closed only while the client holds one for that DSN.
    `Open` is always allowed — also of a missing or invalid file, also with unparsable options. -/
def DOp.allowed (refs : Drv.fileCacheKey → Nat) : DOp → Prop
  | .open _ _ => True
  | .query file v _ _ => ∃ k, keyOf file v = some k ∧ refs k > 0
  | .close file v => ∃ k, keyOf file v = some k ∧ refs k > 0

/-- a history respects the discipline; the counts evolve by the model's steps (a failed `Open` yields no connection) -/
def Disciplined (valid : Drv.fileCacheKey → Bool) : (Drv.fileCacheKey → Nat) → List DOp → Prop
  | _, [] => True
  | refs, op :: ops => op.allowed refs ∧ Disciplined valid (stepO valid refs op.abs).1 ops

/-- side conditions of the operations: the LRU size of a DSN leaves room for every bitmap in the 64-bit account; the
    bound expression of a statement lies in the universe `U` on which cache keys separate meanings -/
def DOp.ok (U : List Expr) : DOp → Prop
  | .open _ v => ∀ cfg n, dsnConfig (dsnOptsOf v) = .ok cfg → cfg.cacheSize = some n →
      ∀ bm, n.toUInt64.toNat + (sz bm).toNat + ovh < 2 ^ 64
  | .query _ _ text values => ∀ pq q', Gen.ParseQuery (3 * text.length + 5) text = .ok pq →
      bind pq values = .ok q' → toExpr q'.expr ∈ U
  | .close _ _ => True

/-- the standing hypotheses of the composed driver -/
structure Setting (U : List Expr) : Prop where
  hnil : X.roaringFromBuffer [] = none
  blind : OptionBlind X fs
  closed : SubClosed U
  keys : ∀ f rows, GoodFile X H fs f rows → KeyOK H (Writer.addRows H {} rows).toIndex U

/-- **one step of the composed driver = one step of the reference-count model**, for every operation -/
theorem gstep_spec {U : List Expr} (S : Setting X H fs U) (g : GWorld) (hinv : GInv X H sz fs U g) (op : DOp)
    (hall : op.allowed (refsOf g.w)) (hok : op.ok sz U) :
    GInv X H sz fs U (gstep X H sz fs g op).1 ∧
    refsOf (gstep X H sz fs g op).1.w = (stepO (validK X fs) (refsOf g.w) op.abs).1 ∧
    (gstep X H sz fs g op).2.outcome = (stepO (validK X fs) (refsOf g.w) op.abs).2 := by
  cases op with
  | «open» file v => exact gOpen_spec X H sz fs S.hnil S.blind g hinv file v hok
  | query file v text values =>
    obtain ⟨k, hk, hheld⟩ := hall
    obtain ⟨h1, h2, ⟨r, h3⟩, _⟩ := gQuery_spec X H sz fs S.closed S.keys g hinv file v text values k hk hheld hok
    simp only [gstep, DOp.abs, hk, Option.map_some, stepO, stepG_query_held _ _ _ hheld, h2, h3, DRes.outcome, and_true]
    exact h1
  | close file v =>
    obtain ⟨k, hk, hheld⟩ := hall
    obtain ⟨h1, h2, h3⟩ := gClose_spec X H sz fs g hinv file v k hk hheld
    simp only [gstep, DOp.abs, hk, Option.map_some, stepO, stepG, h2, h3, DRes.outcome, and_true]
    exact h1

/-- **every history of the composed driver refines the model's run**: the invariant holds at the end, the reference
    counts are the model's, and so are the outcomes (ok / error; never panic or hang) -/
theorem grun_sim {U : List Expr} (S : Setting X H fs U) (ops : List DOp) (g : GWorld) (hinv : GInv X H sz fs U g)
    (hdisc : Disciplined (validK X fs) (refsOf g.w) ops) (hok : ∀ op ∈ ops, op.ok sz U) :
    GInv X H sz fs U (grun X H sz fs g ops).1 ∧
    refsOf (grun X H sz fs g ops).1.w = (runO (validK X fs) (refsOf g.w) (ops.map DOp.abs)).1 ∧
    (grun X H sz fs g ops).2.map DRes.outcome = (runO (validK X fs) (refsOf g.w) (ops.map DOp.abs)).2 := by
  induction ops generalizing g with
  | nil => exact ⟨hinv, rfl, rfl⟩
  | cons op ops ih =>
    obtain ⟨hall, hrest⟩ := hdisc
    obtain ⟨h1, h2, h3⟩ := gstep_spec X H sz fs S g hinv op hall (hok op List.mem_cons_self)
    rw [← h2] at hrest
    obtain ⟨i1, i2, i3⟩ := ih _ h1 hrest (fun o ho => hok o (List.mem_cons_of_mem _ ho))
    simp only [grun, List.map_cons, runO]
    rw [← h2, ← h3]
    exact ⟨i1, i2, by rw [i3]⟩

theorem grun_append (g : GWorld) (a b : List DOp) :
    grun X H sz fs g (a ++ b) =
      ((grun X H sz fs (grun X H sz fs g a).1 b).1, (grun X H sz fs g a).2 ++ (grun X H sz fs (grun X H sz fs g a).1 b).2) := by
  induction a generalizing g with
  | nil => rfl
  | cons op a ih => simp only [List.cons_append, grun, ih]

theorem grun_length (g : GWorld) (ops : List DOp) : (grun X H sz fs g ops).2.length = ops.length := by
  induction ops generalizing g with
  | nil => rfl
  | cons op ops ih => simp only [grun, List.length_cons, ih]

theorem disciplined_append (valid : Drv.fileCacheKey → Bool) (refs : Drv.fileCacheKey → Nat) (a b : List DOp) :
    Disciplined valid refs (a ++ b) ↔
      Disciplined valid refs a ∧ Disciplined valid (runO valid refs (a.map DOp.abs)).1 b := by
  induction a generalizing refs with
  | nil => simp [Disciplined, runO]
  | cons op a ih => simp only [List.cons_append, Disciplined, List.map_cons, runO, ih, and_assoc]

/-- the state before the operation at position `pre.length` of a disciplined history: the invariant holds, the
    operation is allowed there, and its result is the result of that single step -/
theorem grun_at {U : List Expr} (S : Setting X H fs U) (pre : List DOp) (op : DOp) (post : List DOp) (g : GWorld)
    (hinv : GInv X H sz fs U g) (hdisc : Disciplined (validK X fs) (refsOf g.w) (pre ++ op :: post))
    (hok : ∀ o ∈ pre ++ op :: post, o.ok sz U) :
    GInv X H sz fs U (grun X H sz fs g pre).1 ∧ op.allowed (refsOf (grun X H sz fs g pre).1.w) ∧
    (grun X H sz fs g (pre ++ op :: post)).2[pre.length]? = some (gstep X H sz fs (grun X H sz fs g pre).1 op).2 := by
  rw [disciplined_append] at hdisc
  obtain ⟨hd1, hd2⟩ := hdisc
  obtain ⟨h1, h2, _⟩ := grun_sim X H sz fs S pre g hinv hd1 (fun o ho => hok o (List.mem_append_left _ ho))
  rw [← h2] at hd2
  refine ⟨h1, hd2.1, ?_⟩
  rw [grun_append]
  simp only [grun]
  rw [List.getElem?_append_right (by rw [grun_length]; exact Nat.le_refl _), grun_length, Nat.sub_self]
  rfl

/-! ### no handle without a held connection: the file lock -/

/-- the handles open on file `f`, as flock holders of `Model/OpenLock.lean` (all shared: read-only opens) -/
def holders (w : Drv.World) (f : Bytes) : List Holder :=
  ((List.range w.nextIdx).filter fun i => w.openIdx i == some f).map fun i => ⟨i, 0, .shared⟩

theorem holders_eq_nil_iff {w : Drv.World} (hc : ConnInv w) (hh : HandleInv w) (f : Bytes) :
    holders w f = [] ↔ ∀ k : Drv.fileCacheKey, k.file = f → refsOf w k = 0 := by
  constructor
  · intro hnil k hkf
    unfold refsOf
    cases hck : w.cache k with
    | none => rfl
    | some c =>
      exfalso
      obtain ⟨i, _, hlt, hoi⟩ := hh.owns k c hck
      have : (⟨i, 0, .shared⟩ : Holder) ∈ holders w f := by
        unfold holders
        refine List.mem_map.2 ⟨i, List.mem_filter.2 ⟨List.mem_range.2 hlt, ?_⟩, rfl⟩
        rw [hoi, hkf]; simp
      rw [hnil] at this
      cases this
  · intro hall
    unfold holders
    rw [List.map_eq_nil_iff, List.filter_eq_nil_iff]
    intro i _ hi
    have hoi : w.openIdx i = some f := by simpa using hi
    obtain ⟨k, c, hck, _, hkf⟩ := hh.noleak i f hoi
    have := hall k hkf
    have hp := hc.pos k c hck
    simp only [refsOf, hck] at this
    omega

/-- closing handle `i` is `release` of Model/OpenLock.lean on the holders of every file -/
theorem holders_release (w w' : Drv.World) (i : Nat) (hn : w'.nextIdx = w.nextIdx) (hi : w'.openIdx i = none)
    (ho : ∀ j, j ≠ i → w'.openIdx j = w.openIdx j) (f : Bytes) : holders w' f = release (holders w f) i := by
  unfold holders release
  rw [hn, List.filter_map, List.filter_filter]
  congr 1
  apply List.filter_congr
  intro j _
  by_cases hj : j = i
  · subst hj; simp [hi]
  · simp [ho j hj, hj]

/-- opening a new handle on `file` is `acquire` (a shared holder appended) on the holders of that file, and nothing on
    the holders of other files -/
theorem holders_addEntry (w : Drv.World) (key : Drv.fileCacheKey) (file f : Bytes) :
    holders (addEntry w key file) f =
      if f = file then holders w f ++ [⟨w.nextIdx, 0, .shared⟩] else holders w f := by
  unfold holders
  have hold : ∀ j ∈ List.range w.nextIdx,
      ((addEntry w key file).openIdx j == some f) = (w.openIdx j == some f) := by
    intro j hj
    rw [addEntry_openIdx, if_neg (Nat.ne_of_lt (List.mem_range.1 hj))]
  show (((List.range (w.nextIdx + 1)).filter _).map _) = _
  rw [List.range_succ, List.filter_append, List.filter_congr hold, List.map_append, List.filter_cons, List.filter_nil,
    addEntry_openIdx, if_pos rfl]
  by_cases hf : f = file
  · rw [if_pos hf, hf, beq_self_eq_true, if_pos rfl]; rfl
  · rw [if_neg hf, beq_eq_false_iff_ne.mpr fun e => hf (Option.some.inj e).symm, if_neg Bool.false_ne_true]
    exact List.append_nil _

theorem stepO_ok_or_error (valid : Drv.fileCacheKey → Bool) (refs : Drv.fileCacheKey → Nat) (op : DOp)
    (hall : op.allowed refs) :
    (stepO valid refs op.abs).2 = .ok () ∨ (stepO valid refs op.abs).2 = .error := by
  cases op with
  | «open» file v =>
    simp only [DOp.abs]
    cases keyOf file v with
    | none => exact Or.inr rfl
    | some k =>
      simp only [Option.map_some, stepO, stepG]
      by_cases h1 : refs k > 0
      · simp [h1]
      · by_cases h2 : valid k = true <;> simp [h1, h2]
  | query file v text values =>
    obtain ⟨k, hk, hheld⟩ := hall
    simp [DOp.abs, hk, stepO, stepG, hheld]
  | close file v =>
    obtain ⟨k, hk, hheld⟩ := hall
    simp [DOp.abs, hk, stepO, stepG]

theorem runO_ok_or_error (valid : Drv.fileCacheKey → Bool) (ops : List DOp) (refs : Drv.fileCacheKey → Nat)
    (hdisc : Disciplined valid refs ops) :
    ∀ o ∈ (runO valid refs (ops.map DOp.abs)).2, o = .ok () ∨ o = .error := by
  induction ops generalizing refs with
  | nil => intro o ho; cases ho
  | cons op ops ih =>
    intro o ho
    simp only [List.map_cons, runO, List.mem_cons] at ho
    rcases ho with rfl | ho
    · exact stepO_ok_or_error valid refs op hdisc.1
    · exact ih _ hdisc.2 o ho

/-! ### files that are complete indexes or no indexes at all are option-blind -/

theorem genOpens_good (hnil : X.roaringFromBuffer [] = none) (f : Bytes) (rows : List Row) (c : Buckets)
    (hfs : fs f = some c) (hgood : GoodFile X H fs f rows) (i : Nat) (preload : Bool) : genOpens X i c preload = true := by
  obtain ⟨c', d, next, hfs', hb, hs, hw, hlen⟩ := hgood
  rw [hfs] at hfs'; cases hfs'
  obtain ⟨n', hp', vals, hopen, _⟩ := GenCompose.opened_index_refines X i 0 c [] ({} : Heap) d _ next (hw.fileOK hb) hnil
    preload (fun _ => hs) (fun _ => hw.vDecodable hs)
  simp only [genOpens, genOpen, hopen]
  rfl

theorem genOpens_headerless (c : Buckets) (hbad : headerOK X c = false) (i : Nat) (preload : Bool) :
    genOpens X i c preload = false := by
  have := (C15.generated_validation_failure_closes X i 0 c [] ({} : Heap) (openOpts X preload) hbad).1
  simp only [genOpens, genOpen, this]
  rfl

theorem optionBlind_of_files (hnil : X.roaringFromBuffer [] = none)
    (hclass : ∀ f c, fs f = some c → (∃ rows, GoodFile X H fs f rows) ∨ headerOK X c = false) : OptionBlind X fs := by
  intro f c hfs i preload
  rcases hclass f c hfs with ⟨rows, hgood⟩ | hbad
  · rw [genOpens_good X H fs hnil f rows c hfs hgood, genOpens_good X H fs hnil f rows c hfs hgood]
  · rw [genOpens_headerless X c hbad, genOpens_headerless X c hbad]

theorem genValid_good (hnil : X.roaringFromBuffer [] = none) (f : Bytes) (rows : List Row)
    (hgood : GoodFile X H fs f rows) : genValid X fs f = true := by
  obtain ⟨c, d, next, hfs, hb, hs, hw, hlen⟩ := hgood
  unfold genValid
  rw [hfs]
  exact genOpens_good X H fs hnil f rows c hfs ⟨c, d, next, hfs, hb, hs, hw, hlen⟩ 0 false

/-- a file holds at most one index: two row lists it is a `GoodFile` for have the same model index -/
theorem goodFile_toIndex_eq (f : Bytes) (rows rows' : List Row) (h : GoodFile X H fs f rows)
    (h' : GoodFile X H fs f rows') : (Writer.addRows H {} rows).toIndex = (Writer.addRows H {} rows').toIndex := by
  obtain ⟨c, d, next, hfs, hb, _, hw, _⟩ := h
  obtain ⟨c', d', next', hfs', hb', _, hw', _⟩ := h'
  rw [hfs] at hfs'; cases hfs'
  rw [hb] at hb'; cases hb'
  obtain ⟨sb, hs1, hs2⟩ := hw.schema
  obtain ⟨sb', hs1', hs2'⟩ := hw'.schema
  rw [hs1] at hs1'; cases hs1'
  rw [hs2] at hs2'
  obtain ⟨cb, hc1, _, hc3⟩ := hw.counter
  obtain ⟨cb', hc1', _, hc3'⟩ := hw'.counter
  rw [hc1] at hc1'; cases hc1'
  have hsch : (Writer.addRows H {} rows).schema = (Writer.addRows H {} rows').schema := Option.some.inj hs2'
  rw [← hw.fileIndex_eq, ← hw'.fileIndex_eq, ← hc3, ← hc3', hsch]

/-! ### the literal `Drv.run` of Model/Driver.lean -/

/-- the model's key (two numbers) of a driver key, along an encoding of strings -/
def encK (enc : Bytes → Nat) (k : Drv.fileCacheKey) : DKey := ⟨enc k.file, enc k.opts⟩

theorem encK_inj (enc : Bytes → Nat) (hinj : Function.Injective enc) : Function.Injective (encK enc) := by
  intro a b h
  obtain ⟨af, ao⟩ := a
  obtain ⟨bf, bo⟩ := b
  simp only [encK, DKey.mk.injEq] at h
  rw [hinj h.1, hinj h.2]

/-- the history as the model's `DrvOp`s: operations whose DSN has no key are dropped (they do nothing) -/
def modelOps (enc : Bytes → Nat) (ops : List DOp) : List DrvOp :=
  (((ops.map DOp.abs).filterMap id).map (KOp.map (encK enc))).map KOp.toDrv

end world

end Updog.GenConn
