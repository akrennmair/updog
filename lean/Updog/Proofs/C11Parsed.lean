/-
Every `field` item the lexer emits is a valid identifier, hence every query the parser returns for a TEXT
is well-formed (`WFQ`).
-/
import Updog.Proofs.FmtToks
namespace Updog
open Grammar

/-- every `field` item of a token list is a valid identifier -/
def FieldsOK (ts : List Tok) : Prop := ∀ c, Tok.field c ∈ ts → validIdent c = true

theorem FieldsOK.tail {t : Tok} {ts : List Tok} (h : FieldsOK (t :: ts)) : FieldsOK ts :=
  fun c hc => h c (List.mem_cons_of_mem _ hc)

theorem FieldsOK.suffix {pre r : List Tok} (h : FieldsOK (pre ++ r)) : FieldsOK r :=
  fun c hc => h c (List.mem_append_right _ hc)

theorem lexAll_fieldsOK (s : Bytes) : FieldsOK (lexAll s) := by
  refine lexAll_induction (fun c hc => ?_) (fun c hc => ?_) (fun t ts ht ih c hc => ?_) s
  · cases List.mem_singleton.mp hc
  · cases List.mem_singleton.mp hc
  · rcases List.mem_cons.mp hc with rfl | hc
    · obtain ⟨a, cs, rfl, ha, hcs⟩ := ht
      rw [validIdent, ha, List.all_eq_true.mpr hcs]; rfl
    · exact ih c hc

/-- a phrase over a token list whose `field` items are identifiers denotes a well-formed tree, and the
    unconsumed rest is such a list again -/
theorem wf_of_phrase :
    (∀ {ts e r}, Simple ts e r → FieldsOK ts → WFE e ∧ FieldsOK r) ∧
    (∀ {sep ts es r}, Chain sep ts es r → FieldsOK ts → WFL es ∧ FieldsOK r) ∧
    (∀ {ts e r}, Expr ts e r → FieldsOK ts → WFE e ∧ FieldsOK r) := by
  refine Grammar.induction (P := fun ts e r => FieldsOK ts → WFE e ∧ FieldsOK r)
    (Q := fun _ ts es r => FieldsOK ts → WFL es ∧ FieldsOK r)
    (R := fun ts e r => FieldsOK ts → WFE e ∧ FieldsOK r) ?_ ?_ ?_ ?_ ?_ ?_ ?_ ?_ ?_
  · exact fun c _ _ hf => ⟨⟨hf c List.mem_cons_self, Nat.zero_le _⟩, hf.tail.tail.tail⟩
  · exact fun c ds _ _ hf => ⟨⟨hf c List.mem_cons_self, decodePlaceholder_le ds⟩, hf.tail.tail.tail⟩
  · exact fun _ ih hf => ih hf.tail
  · exact fun _ ih hf => ⟨(ih hf.tail).1, (ih hf.tail).2.tail⟩
  · exact fun _ _ ih hf => ⟨⟨(ih hf).1, trivial⟩, (ih hf).2⟩
  · exact fun _ _ ih ihc hf => ⟨⟨(ih hf).1, (ihc (ih hf).2.tail).1⟩, (ihc (ih hf).2.tail).2⟩
  · exact fun _ _ _ ih hf => ih hf
  · exact fun _ _ ih ihc hf =>
      ⟨⟨List.cons_ne_nil _ _, (ih hf).1, (ihc (ih hf).2.tail).1⟩, (ihc (ih hf).2.tail).2⟩
  · exact fun _ _ ih ihc hf =>
      ⟨⟨List.cons_ne_nil _ _, (ih hf).1, (ihc (ih hf).2.tail).1⟩, (ihc (ih hf).2.tail).2⟩

theorem Grammar.FieldsRest.valid {ts : List Tok} {fs : List Bytes} {r : List Tok}
    (h : FieldsRest ts fs r) (hf : FieldsOK ts) : ∀ f ∈ fs, validIdent f = true := by
  induction h with
  | done _ => nofun
  | @more c _ _ _ _ ih =>
    intro g hg
    rcases List.mem_cons.mp hg with rfl | hg
    · exact hf g (List.mem_cons_of_mem _ List.mem_cons_self)
    · exact ih hf.tail.tail g hg

theorem parseQuery_wf {s : Bytes} {q : PQuery} (h : parseQuery s = some q) : WFQ q := by
  have hf := lexAll_fieldsOK s
  cases parseToks_iff.mp h with
  | plain he =>
    exact ⟨(wf_of_phrase.2.2 he hf).1, nofun⟩
  | grouped he hfl =>
    have hw := wf_of_phrase.2.2 he hf
    cases hfl with
    | @mk c _ _ _ hr =>
      refine ⟨hw.1, fun g hg => ?_⟩
      rcases List.mem_cons.mp hg with rfl | hg
      · exact hw.2 g (List.mem_cons_of_mem _ List.mem_cons_self)
      · exact hr.valid hw.2.tail.tail g hg

end Updog
