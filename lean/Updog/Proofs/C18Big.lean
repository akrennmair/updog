/-
Helper lemmas for C18 on the disk-backed big writer with explicit temp transactions (`Model/BigWriterTx.lean`):
the simulation of `Model/BigWriter.lean`, the invariant of the temp bucket across commit boundaries, the ids handed
out along a schedule, and the flushed image.
-/
import Updog.Model.BigWriterTx
import Updog.Proofs.BigWriter
import Updog.Proofs.Sort
import Updog.Props.C18
namespace Updog

/-! ### the commit arithmetic -/

/-- number of temp commits `AddRow` has performed after `n` calls: the calls with ids 1000, 2000, … commit -/
def commitCount (n : Nat) : Nat := (n - 1) / 1000

/-- id of the last committing call after `n` calls (the largest positive multiple of 1000 that is `≤ n - 1`);
    0 when there was no commit yet -/
def lastCommit (n : Nat) : Nat := commitCount n * 1000

/-- number of rows whose keys are committed after `n` calls: none up to 1000 calls, then the rows `0 … lastCommit` -/
def committedRows (n : Nat) : Nat := if commitCount n = 0 then 0 else lastCommit n + 1

theorem commitsAt_true_iff (n : Nat) : commitsAt n = true ↔ 0 < n ∧ n % 1000 = 0 := by
  simp [commitsAt]

theorem commitCount_succ (n : Nat) : commitCount (n + 1) = commitCount n + if commitsAt n then 1 else 0 := by
  cases n with
  | zero => rfl
  | succ m =>
    show (m + 1) / 1000 = m / 1000 + _
    rw [Nat.succ_div]
    simp only [Nat.dvd_iff_mod_eq_zero, commitsAt_true_iff, Nat.succ_pos, true_and]

theorem committedRows_succ (n : Nat) : committedRows (n + 1) = if commitsAt n then n + 1 else committedRows n := by
  split
  · next h =>
    obtain ⟨hpos, hmod⟩ := (commitsAt_true_iff n).mp h
    have hd : n / 1000 * 1000 = n := Nat.div_mul_cancel (Nat.dvd_of_mod_eq_zero hmod)
    show (if n / 1000 = 0 then 0 else n / 1000 * 1000 + 1) = n + 1
    rw [hd, if_neg fun h0 => by rw [h0, Nat.zero_mul] at hd; omega]
  · next h =>
    unfold committedRows lastCommit
    rw [commitCount_succ, if_neg h]; rfl

theorem committedRows_le (n : Nat) : committedRows n ≤ n := by
  unfold committedRows lastCommit commitCount
  split <;> omega

/-! ### simulation of `BigWriter` -/

section
variable (H : Bytes → UInt64)

theorem BigWriter.ext' {a b : BigWriter} (h1 : a.schema = b.schema) (h2 : a.temp = b.temp) (h3 : a.next = b.next) :
    a = b := by
  cases a; cases b; simp only at h1 h2 h3; subst h1 h2 h3; rfl

theorem put_visible (st : BigWriterTx) (k : Bytes) : (st.put k).visible = insertKey st.visible k := by
  unfold BigWriterTx.put insertKey
  split
  · rfl
  · exact (List.append_assoc ..).symm

/-- a `Put` touches the pending keys only -/
theorem put_fixed (st : BigWriterTx) (k : Bytes) :
    (st.put k).committed = st.committed ∧ (st.put k).commits = st.commits ∧ (st.put k).next = st.next := by
  unfold BigWriterTx.put
  split <;> exact ⟨rfl, rfl, rfl⟩

theorem toBig_addPair (i : Nat) (st : BigWriterTx) (kv : Bytes × Bytes) :
    (BigWriterTx.addPair H i st kv).toBig = BigWriter.addPair H i st.toBig kv :=
  BigWriter.ext' rfl (put_visible st _) (put_fixed st _).2.2

theorem toBig_addPair_fold (i : Nat) (r : Row) (st : BigWriterTx) :
    (r.foldl (BigWriterTx.addPair H i) st).toBig = r.foldl (BigWriter.addPair H i) st.toBig :=
  (List.foldl_hom BigWriterTx.toBig fun st kv => (toBig_addPair H i st kv).symm).symm

theorem addPair_fold_fixed (i : Nat) (r : Row) (st : BigWriterTx) :
    (r.foldl (BigWriterTx.addPair H i) st).committed = st.committed ∧
    (r.foldl (BigWriterTx.addPair H i) st).commits = st.commits :=
  List.foldlRecOn (motive := fun (s : BigWriterTx) => s.committed = st.committed ∧ s.commits = st.commits) r _
    ⟨rfl, rfl⟩ fun s h kv _ =>
      have f := put_fixed s (tempKey (H (encodePair kv.1 kv.2)).toNat i)
      ⟨f.1.trans h.1, f.2.1.trans h.2⟩

theorem toBig_commit (st : BigWriterTx) : st.commit.toBig = st.toBig :=
  BigWriter.ext' rfl (by simp [BigWriterTx.toBig, BigWriterTx.commit, BigWriterTx.visible]) rfl

theorem addRowTx_id (st : BigWriterTx) (r : Row) : (addRowTx H st r).1 = st.next := rfl

theorem addRowTx_next (st : BigWriterTx) (r : Row) : (addRowTx H st r).2.next = st.next + 1 := rfl

/-- **One `AddRow` of the transaction model is one `AddRow` of `Model/BigWriter.lean`**, whether or not the call commits:
    schema, counter and the bucket as the writer sees it evolve identically. -/
theorem toBig_addRowTx (st : BigWriterTx) (r : Row) :
    (addRowTx H st r).2.toBig = BigWriter.addRow H st.toBig r := by
  have e : (if commitsAt st.next then (r.foldl (BigWriterTx.addPair H st.next) st).commit
      else r.foldl (BigWriterTx.addPair H st.next) st).toBig = r.foldl (BigWriter.addPair H st.next) st.toBig := by
    rw [← toBig_addPair_fold]
    split
    · exact toBig_commit _
    · rfl
  have e1 := congrArg BigWriter.schema e
  have e2 := congrArg BigWriter.temp e
  exact BigWriter.ext' e1 e2 rfl

/-- a committing call: afterwards everything the writer sees is committed, nothing is pending -/
theorem addRowTx_commit (st : BigWriterTx) (r : Row) (h : commitsAt st.next = true) :
    (addRowTx H st r).2.committed = (BigWriter.addRow H st.toBig r).temp ∧
    (addRowTx H st r).2.pending = [] ∧ (addRowTx H st r).2.commits = st.commits + 1 := by
  simp only [addRowTx, BigWriter.addRow, h, if_true]
  exact ⟨congrArg BigWriter.temp (toBig_addPair_fold H st.next r st), rfl,
    congrArg (· + 1) (addPair_fold_fixed H st.next r st).2⟩

theorem addRowTx_no_commit (st : BigWriterTx) (r : Row) (h : commitsAt st.next = false) :
    (addRowTx H st r).2.committed = st.committed ∧ (addRowTx H st r).2.commits = st.commits := by
  simp only [addRowTx, h, Bool.false_eq_true, if_false]
  exact addPair_fold_fixed H st.next r st

/-! ### the invariant of the temp bucket across commit boundaries, literal form -/

/-- After the rows `rows` (ids `0 … rows.length-1`): the counter is their number; `commitCount` commits happened; the
    bucket the writer sees is the temp bucket of `Model/BigWriter.lean` after the same rows; and the COMMITTED bucket is
    the temp bucket after the first `committedRows` rows — the pending transaction holds the rest. -/
structure TxSim (st : BigWriterTx) (rows : List Row) : Prop where
  big : st.toBig = BigWriter.addRows H {} rows
  commits : st.commits = commitCount rows.length
  committed : st.committed = (BigWriter.addRows H {} (rows.take (committedRows rows.length))).temp

theorem TxSim.next {st : BigWriterTx} {rows : List Row} (hs : TxSim H st rows) : st.next = rows.length :=
  (congrArg BigWriter.next hs.big).trans (binv_addRows H rows).next

theorem TxSim.init : TxSim H {} [] := ⟨rfl, rfl, rfl⟩

theorem big_addRows_snoc (w : BigWriter) (rows : List Row) (r : Row) :
    BigWriter.addRows H w (rows ++ [r]) = BigWriter.addRow H (BigWriter.addRows H w rows) r :=
  List.foldl_append ..

theorem TxSim.addRow {st : BigWriterTx} {rows : List Row} (hs : TxSim H st rows) (r : Row) :
    TxSim H (addRowTx H st r).2 (rows ++ [r]) := by
  have hbig : (addRowTx H st r).2.toBig = BigWriter.addRows H {} (rows ++ [r]) := by
    rw [toBig_addRowTx, hs.big, big_addRows_snoc]
  refine ⟨hbig, ?_, ?_⟩ <;> rw [List.length_append, List.length_singleton]
  · rw [commitCount_succ, ← hs.commits, ← hs.next]
    cases hc : commitsAt st.next
    · exact (addRowTx_no_commit H st r hc).2
    · exact (addRowTx_commit H st r hc).2.2
  · rw [committedRows_succ, ← hs.next]
    cases hc : commitsAt st.next
    · rw [(addRowTx_no_commit H st r hc).1, hs.committed, if_neg Bool.false_ne_true, hs.next,
        List.take_append_of_le_length (committedRows_le _)]
    · rw [(addRowTx_commit H st r hc).1, hs.big, ← big_addRows_snoc, if_pos rfl, hs.next,
        List.take_of_length_le (by simp)]

theorem addRowsTx_snoc (st : BigWriterTx) (rows : List Row) (r : Row) :
    addRowsTx H st (rows ++ [r]) = (addRowTx H (addRowsTx H st rows) r).2 :=
  List.foldl_append ..

theorem TxSim.addRows {st : BigWriterTx} {rows : List Row} (hs : TxSim H st rows) (more : List Row) :
    TxSim H (addRowsTx H st more) (rows ++ more) :=
  foldl_snoc_inv more (fun _ _ r _ h => h.addRow H r) hs

theorem txSim_addRowsTx (rows : List Row) : TxSim H (addRowsTx H {} rows) rows :=
  (TxSim.init H).addRows H rows

/-- the final commit of `Flush` makes the committed bucket the whole bucket the writer saw -/
theorem commit_committed (st : BigWriterTx) : st.commit.committed = st.toBig.temp := rfl

theorem TxSim.flush {st : BigWriterTx} {rows : List Row} (hs : TxSim H st rows) :
    flushTx st = BigWriter.image H rows :=
  congrArg BigWriter.flushCore hs.big

/-! ### the ids handed out along a schedule -/

theorem runCallsBigTx_ids (st : BigWriterTx) (calls : List (Nat × Row)) :
    (runCallsBigTx H st calls).1 = (List.range calls.length).map (st.next + ·) := by
  induction calls generalizing st with
  | nil => rfl
  | cons c cs ih =>
    simp only [runCallsBigTx, ih, addRowTx_id, addRowTx_next, List.length_cons, List.range_succ_eq_map,
      List.map_cons, List.map_map, Nat.add_zero, List.cons.injEq, true_and]
    apply List.map_congr_left
    intro a _
    simp only [Function.comp]; omega

/-- a fresh writer hands out 0, 1, …, n−1 in execution order, whatever commits happen in between -/
theorem runCallsBigTx_ids_fresh (calls : List (Nat × Row)) : (runCallsBigTx H {} calls).1 = List.range calls.length :=
  (runCallsBigTx_ids H {} calls).trans (C18.range_map_zero_add _)

theorem runCallsBigTx_state (st : BigWriterTx) (calls : List (Nat × Row)) :
    (runCallsBigTx H st calls).2 = addRowsTx H st (calls.map (·.2)) := by
  induction calls generalizing st with
  | nil => rfl
  | cons c cs ih => simp only [runCallsBigTx, ih, addRowsTx, List.map_cons, List.foldl_cons]

theorem txSim_runCalls (calls : List (Nat × Row)) :
    TxSim H (runCallsBigTx H {} calls).2 (calls.map (·.2)) := by
  rw [runCallsBigTx_state]; exact txSim_addRowsTx H _

end

/-- the ids `0 … n-1` handed out in call order, restricted to the calls of goroutine `g`, are strictly increasing -/
theorem ids_of_goroutine_increasing (calls : List (Nat × Row)) (g : Nat) :
    (((calls.zip (List.range calls.length)).filter (·.1.1 == g)).map (·.2)).Pairwise (· < ·) := by
  have hsub : List.Sublist (((calls.zip (List.range calls.length)).filter (·.1.1 == g)).map (·.2))
      ((calls.zip (List.range calls.length)).map (·.2)) := List.Sublist.map _ List.filter_sublist
  rw [List.map_snd_zip (by simp)] at hsub
  exact List.Pairwise.sublist hsub List.pairwise_lt_range

/-- a list of rows is determined by the multiset of its (id, row) pairs -/
theorem rows_eq_of_zip_perm (rows₁ rows₂ : List Row)
    (h : ((List.range rows₁.length).zip rows₁).Perm ((List.range rows₂.length).zip rows₂)) : rows₁ = rows₂ := by
  have hs : ∀ rows : List Row, ((List.range rows.length).zip rows).Pairwise (fun a b => a.1 < b.1) := by
    intro rows
    have h1 : ((List.range rows.length).zip rows).map Prod.fst = List.range rows.length :=
      List.map_fst_zip (by simp)
    have h2 := List.pairwise_lt_range (n := rows.length)
    rwa [← h1, List.pairwise_map] at h2
  have e := List.Perm.eq_of_pairwise (le := fun a b : Nat × Row => a.1 < b.1)
    (fun a b _ _ h1 h2 => absurd h1 (by omega)) (hs rows₁) (hs rows₂) h
  have e2 := congrArg (List.map Prod.snd) e
  rwa [List.map_snd_zip (by simp), List.map_snd_zip (by simp)] at e2

/-! ### the walk depends on the key SET only -/

theorem sortKeys_eq_of_mem_iff {l₁ l₂ : List Bytes} (hn₁ : l₁.Nodup) (hn₂ : l₂.Nodup)
    (h : ∀ k, k ∈ l₁ ↔ k ∈ l₂) : sortKeys l₁ = sortKeys l₂ := by
  apply StrictSorted.eq_of_mem_iff (strictSorted_mergeSort hn₁) (strictSorted_mergeSort hn₂)
  intro x
  rw [List.mem_mergeSort, List.mem_mergeSort]
  exact h x

/-- The list order of the model's bucket is an artefact: two duplicate-free representations of the same key set are
    walked identically by `Flush`. -/
theorem flushTx_order_irrelevant (st₁ st₂ : BigWriterTx) (hn₁ : st₁.visible.Nodup) (hn₂ : st₂.visible.Nodup)
    (hk : ∀ k, k ∈ st₁.visible ↔ k ∈ st₂.visible) (hs : st₁.schema = st₂.schema) (hx : st₁.next = st₂.next) :
    flushTx st₁ = flushTx st₂ := by
  have : sortKeys st₁.commit.committed = sortKeys st₂.commit.committed := sortKeys_eq_of_mem_iff hn₁ hn₂ hk
  simp only [flushTx, this]
  simp only [BigWriterTx.commit, hs, hx]

section
variable (H : Bytes → UInt64)

/-! ### the invariant in membership form -/

theorem rowHas_take (rows : List Row) (c : Nat) (h : UInt64) (j : Nat) :
    rowHas H (rows.take c) h j = (decide (j < c) && rowHas H rows h j) := by
  unfold rowHas
  rw [List.getElem?_take]
  by_cases hj : j < c <;> simp [hj]

theorem keys_take_iff (rows : List Row) (c : Nat) (k : Bytes) :
    (∃ h j, rowHas H (rows.take c) h j = true ∧ k = tempKey h.toNat j) ↔
      ∃ h j, rowHas H rows h j = true ∧ j < c ∧ k = tempKey h.toNat j := by
  simp only [rowHas_take, Bool.and_eq_true, decide_eq_true_eq]
  exact ⟨fun ⟨h, j, ⟨h1, h2⟩, h3⟩ => ⟨h, j, h2, h1, h3⟩, fun ⟨h, j, h2, h1, h3⟩ => ⟨h, j, ⟨h1, h2⟩, h3⟩⟩

/-- **The temp bucket across commit boundaries.**  After the rows `rows`:
    the bucket the writer sees (committed ∪ pending) holds exactly the keys `(h, j)` with row `j` carrying a pair that
    hashes to `h`; the COMMITTED part holds exactly those with `j < committedRows rows.length`, i.e. `j ≤ lastCommit`
    once a commit happened and nothing before; the pending transaction holds the others; the number of commits is
    `(rows.length - 1) / 1000`. -/
structure TxInv (st : BigWriterTx) (rows : List Row) : Prop where
  next : st.next = rows.length
  commits : st.commits = commitCount rows.length
  visible : ∀ k, (k ∈ st.committed ∨ k ∈ st.pending) ↔ ∃ h j, rowHas H rows h j = true ∧ k = tempKey h.toNat j
  committed : ∀ k, k ∈ st.committed ↔
    ∃ h j, rowHas H rows h j = true ∧ j < committedRows rows.length ∧ k = tempKey h.toNat j
  pending : ∀ k, k ∈ st.pending ↔
    k ∉ st.committed ∧ ∃ h j, rowHas H rows h j = true ∧ committedRows rows.length ≤ j ∧ k = tempKey h.toNat j
  nodup : (st.committed ++ st.pending).Nodup

theorem TxSim.inv {st : BigWriterTx} {rows : List Row} (hs : TxSim H st rows) : TxInv H st rows := by
  have hvis : st.committed ++ st.pending = (BigWriter.addRows H {} rows).temp := congrArg BigWriter.temp hs.big
  have hnd : (st.committed ++ st.pending).Nodup := hvis ▸ big_addRows_nodup H rows {} List.nodup_nil
  have hv : ∀ k, (k ∈ st.committed ∨ k ∈ st.pending) ↔ ∃ h j, rowHas H rows h j = true ∧ k = tempKey h.toNat j :=
    fun k => by rw [← List.mem_append, hvis]; exact (binv_addRows H rows).temp k
  have hc : ∀ k, k ∈ st.committed ↔
      ∃ h j, rowHas H rows h j = true ∧ j < committedRows rows.length ∧ k = tempKey h.toNat j :=
    fun k => by rw [hs.committed]; exact ((binv_addRows H _).temp k).trans (keys_take_iff H ..)
  refine ⟨hs.next, hs.commits, hv, hc, fun k => ⟨fun hk => ?_, ?_⟩, hnd⟩
  · have hnc : k ∉ st.committed := fun hk' => (List.nodup_append.mp hnd).2.2 k hk' k hk rfl
    obtain ⟨h, j, h1, h2⟩ := (hv k).mp (.inr hk)
    exact ⟨hnc, h, j, h1, Nat.le_of_not_lt fun hlt => hnc ((hc k).mpr ⟨h, j, h1, hlt, h2⟩), h2⟩
  · rintro ⟨hnc, h, j, h1, _, h2⟩
    exact ((hv k).mpr ⟨h, j, h1, h2⟩).resolve_left hnc

/-- with at most 2^32 rows the keys of different rows are different, so the pending transaction holds exactly the
    keys of the rows after the last commit -/
theorem TxInv.pending_iff {st : BigWriterTx} {rows : List Row} (inv : TxInv H st rows) (hlen : rows.length ≤ 2 ^ 32)
    (k : Bytes) :
    k ∈ st.pending ↔ ∃ h j, rowHas H rows h j = true ∧ committedRows rows.length ≤ j ∧ k = tempKey h.toNat j := by
  rw [inv.pending k]
  refine ⟨fun h => h.2, fun ⟨h, j, h1, h2, h3⟩ => ⟨fun hk => ?_, h, j, h1, h2, h3⟩⟩
  obtain ⟨h', j', g1, g2, g3⟩ := (inv.committed k).mp hk
  have b1 := rowHas_lt H rows h j h1
  have b2 := rowHas_lt H rows h' j' g1
  have := tempKey_inj _ _ _ _ h.toNat_lt h'.toNat_lt (by omega) (by omega) (h3.symm.trans g3)
  omega

/-- the final commit of `Flush` makes the committed bucket the full key set -/
theorem TxInv.commit_full {st : BigWriterTx} {rows : List Row} (inv : TxInv H st rows) (k : Bytes) :
    k ∈ st.commit.committed ↔ ∃ h j, rowHas H rows h j = true ∧ k = tempKey h.toNat j :=
  List.mem_append.trans (inv.visible k)

/-- what `Flush` reads after its commit, derived from the invariant alone -/
theorem TxInv.binv_flush {st : BigWriterTx} {rows : List Row} (inv : TxInv H st rows) :
    BInv H { schema := st.schema, temp := st.commit.committed, next := st.next } rows :=
  ⟨inv.next, inv.commit_full H⟩

/-- what an abandoned temp database holds, as a `BInv` for the committed prefix of the rows -/
theorem TxInv.binv_abandoned {st : BigWriterTx} {rows : List Row} (inv : TxInv H st rows) :
    BInv H { schema := st.schema, temp := st.committed, next := committedRows rows.length }
      (rows.take (committedRows rows.length)) :=
  ⟨(List.length_take_of_le (committedRows_le _)).symm, fun k => (inv.committed k).trans (keys_take_iff H ..).symm⟩

/-- the bit-level content of the flushed data bucket, from the invariant and the cursor walk only -/
theorem TxInv.flush_testBit {st : BigWriterTx} {rows : List Row} (inv : TxInv H st rows) (hlen : rows.length ≤ 2 ^ 32)
    (h : UInt64) (j : Nat) : (((flushTx st).1.get h).getD 0).testBit j = rowHas H rows h j :=
  (inv.binv_flush H).walk_testBit H hlen h j

theorem TxInv.abandoned_testBit {st : BigWriterTx} {rows : List Row} (inv : TxInv H st rows)
    (hlen : rows.length ≤ 2 ^ 32) (h : UInt64) (j : Nat) :
    (((abandonedWalk st).get h).getD 0).testBit j = (decide (j < committedRows rows.length) && rowHas H rows h j) := by
  have hl : (rows.take (committedRows rows.length)).length ≤ 2 ^ 32 := by
    rw [List.length_take]; omega
  rw [← rowHas_take]
  exact (inv.binv_abandoned H).walk_testBit H hl h j

end
end Updog
