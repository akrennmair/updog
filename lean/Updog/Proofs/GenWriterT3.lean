/-
Step lemmas for Props/Gen/Writer.lean: the generated `schemaAdd`, `getValueBitmap` + `bitmapAdd` against the model's
`Schema.add` / `ValMap.addBit`, under the heap invariant of the writer.
-/
import Updog.GeneratedFns
import Updog.Proofs.GoPreludeT3
namespace Updog.GeneratedEq
open Updog.Go.T3

section
variable (H : Bytes → UInt64)

theorem getValueIndex_eq' (k v : Bytes) : Gen.getValueIndex H k v = H (encodePair k v) := by
  simp [Gen.getValueIndex, Gen.valueIndexInput, encodePair]

/-- every recorded value index is the hash of its (column, value) pair -/
def Hashed (s : Schema) : Prop := ∀ cv ∈ s, ∀ vh ∈ cv.2, vh.2 = H (encodePair cv.1 vh.1)

/-- heap invariant of a `*schema`: its column pointers are valid and distinct, and the value indexes are hashes -/
structure SchemaWF (hp : Heap) (sch : SchemaObj) : Prop where
  ptrs : PtrsOK hp.columns.length (sch.Columns.map (·.2))
  hashed : Hashed H (schemaValue hp sch)

theorem hashed_addVal {c : Bytes} {vs : List (Bytes × UInt64)} (h : ∀ vh ∈ vs, vh.2 = H (encodePair c vh.1)) (v : Bytes) :
    ∀ vh ∈ addVal vs v (H (encodePair c v)), vh.2 = H (encodePair c vh.1) := by
  intro vh hvh
  unfold addVal at hvh
  split at hvh
  · exact h vh hvh
  · rcases List.mem_append.mp hvh with h1 | h1
    · exact h vh h1
    · simp only [List.mem_singleton] at h1; subst h1; rfl

theorem schemaAdd_spec (hp : Heap) (sch : SchemaObj) (k v : Bytes) (wf : SchemaWF H hp sch) :
    schemaValue (Gen.schemaAdd H hp sch k v).1 (Gen.schemaAdd H hp sch k v).2.1
        = Schema.add (schemaValue hp sch) k v (H (encodePair k v)) ∧
    (Gen.schemaAdd H hp sch k v).2.2 = H (encodePair k v) ∧
    SchemaWF H (Gen.schemaAdd H hp sch k v).1 (Gen.schemaAdd H hp sch k v).2.1 ∧
    (Gen.schemaAdd H hp sch k v).1.bitmaps = hp.bitmaps := by
  obtain ⟨cols⟩ := sch
  have hptr := wf.ptrs
  have hh := wf.hashed
  simp only [schemaValue_eq] at hh ⊢
  rcases map_split cols k with hm | ⟨m1, k', p, m2, e, h1, hk⟩
  · -- new column
    have hl := mapLookup_miss cols k nilPtr hm
    have hs := mapSet_miss cols k (some hp.columns.length) hm
    simp only [Gen.schemaAdd, hl, newColumn_eq, hs, columnAt_allocCol_new, mapLookup, mapSet, makeMap,
      Bool.not_false, if_true, getValueIndex_eq']
    have hold : ∀ (C : Column), ∀ kp ∈ cols,
        columnAt (columnSet (allocCol hp {}) (some hp.columns.length) C) kp.2 = columnAt hp kp.2 := by
      intro C kp hkp
      obtain ⟨a, ea, ha⟩ := hptr.2 kp.2 (List.mem_map_of_mem hkp)
      rw [columnAt_columnSet_other _ _ _ _ (by rw [ea]; intro e; injection e with e; omega),
        columnAt_allocCol hp _ kp.2 a ea ha]
    have hnew : ∀ (C : Column), columnAt (columnSet (allocCol hp {}) (some hp.columns.length) C) (some hp.columns.length) = C :=
      fun C => columnAt_columnSet_same _ _ _ (by simp)
    have hmm : ∀ cv ∈ (cols.map fun kp => (kp.1, (columnAt hp kp.2).Values)), (cv.1 == k) = false := by
      intro cv hcv
      obtain ⟨kp, hkp, rfl⟩ := List.mem_map.mp hcv
      exact hm kp hkp
    have hval : List.map (fun kp => (kp.fst, (columnAt (columnSet (allocCol hp {}) (some hp.columns.length)
          { Values := [(v, H (encodePair k v))] }) kp.snd).Values)) (cols ++ [(k, some hp.columns.length)])
        = List.map (fun kp => (kp.fst, (columnAt hp kp.snd).Values)) cols ++ [(k, [(v, H (encodePair k v))])] := by
      rw [List.map_append, cols_congr hp _ cols (hold _)]
      simp [hnew]
    refine ⟨?_, trivial, ⟨?_, ?_⟩, by simp⟩
    · rw [hval, schemaAdd_miss _ _ _ _ hmm]
    · have := hptr.snoc
      simpa [List.map_append] using this
    · simp only [schemaValue_eq]
      rw [hval]
      intro cv hcv
      rcases List.mem_append.mp hcv with hc | hc
      · exact hh cv hc
      · simp only [List.mem_singleton] at hc
        subst hc
        intro vh hvh
        simp only [List.mem_singleton] at hvh
        subst hvh; rfl
  · -- existing column
    subst e
    have hl := mapLookup_hit m1 m2 k' k p nilPtr h1 hk
    obtain ⟨a, ea, ha⟩ := hptr.2 p (by simp)
    subst ea
    have hke : k' = k := by simpa using hk
    have hnd : (m1.map (·.2) ++ some a :: m2.map (·.2)).Nodup := by simpa using hptr.1
    have hn1 : ∀ kp ∈ m1, kp.2 ≠ some a := by
      intro kp hkp e
      have := (List.nodup_append.mp hnd).2.2 kp.2 (List.mem_map_of_mem hkp) (some a) (by simp)
      exact this e
    have hn2 : ∀ kp ∈ m2, kp.2 ≠ some a := by
      intro kp hkp e
      have := (List.nodup_cons.mp (List.nodup_append.mp hnd).2.1).1
      exact this (e ▸ List.mem_map_of_mem hkp)
    have hmm : ∀ cv ∈ (m1.map fun kp => (kp.1, (columnAt hp kp.2).Values)), (cv.1 == k) = false := by
      intro cv hcv
      obtain ⟨kp, hkp, rfl⟩ := List.mem_map.mp hcv
      exact h1 kp hkp
    have hcol : ∀ vh ∈ (columnAt hp (some a)).Values, vh.2 = H (encodePair k vh.1) := by
      intro vh hvh
      have := hh (k', (columnAt hp (some a)).Values) (by simp) vh hvh
      rw [← hke]; exact this
    have hadd : Schema.add (List.map (fun kp => (kp.fst, (columnAt hp kp.snd).Values)) (m1 ++ (k', some a) :: m2)) k v
          (H (encodePair k v))
        = List.map (fun kp => (kp.fst, (columnAt hp kp.snd).Values)) m1
          ++ (k', addVal (columnAt hp (some a)).Values v (H (encodePair k v)))
            :: List.map (fun kp => (kp.fst, (columnAt hp kp.snd).Values)) m2 := by
      rw [List.map_append, List.map_cons, schemaAdd_hit _ _ k' k v _ _ hmm hk]
    cases hlv : mapLookup (columnAt hp (some a)).Values v (0 : UInt64) with
    | mk val ok =>
    cases ok with
    | true =>
      simp only [Gen.schemaAdd, hl, hlv, Bool.not_true, Bool.false_eq_true, if_false]
      have hmem := mapLookup_mem (columnAt hp (some a)).Values v (0 : UInt64) (by rw [hlv])
      rw [hlv] at hmem
      obtain ⟨v', hv', hv'e⟩ := hmem
      have hve : v' = v := by simpa using hv'e
      subst hve
      refine ⟨?_, hcol (v', val) hv', ⟨hptr, wf.hashed⟩, trivial⟩
      rw [hadd, addVal_eq, hlv]
      simp
    | false =>
      simp only [Gen.schemaAdd, hl, hlv, Bool.not_true, Bool.not_false, Bool.false_eq_true, if_false, if_true, getValueIndex_eq']
      generalize hC : ({ Values := mapSet (columnAt hp (some a)).Values v (H (encodePair k v)) } : Column) = C
      have e1 := cols_congr hp (columnSet hp (some a) C) m1
        (fun kp hkp => columnAt_columnSet_other hp a C kp.2 (hn1 kp hkp))
      have e2 := cols_congr hp (columnSet hp (some a) C) m2
        (fun kp hkp => columnAt_columnSet_other hp a C kp.2 (hn2 kp hkp))
      have e3 := columnAt_columnSet_same hp a C ha
      have hval : List.map (fun kp => (kp.fst, (columnAt (columnSet hp (some a) C) kp.snd).Values)) (m1 ++ (k', some a) :: m2)
          = List.map (fun kp => (kp.fst, (columnAt hp kp.snd).Values)) m1
            ++ (k', addVal (columnAt hp (some a)).Values v (H (encodePair k v)))
              :: List.map (fun kp => (kp.fst, (columnAt hp kp.snd).Values)) m2 := by
        rw [List.map_append, List.map_cons, e1, e2, e3, addVal_eq, hlv, ← hC]
        simp
      refine ⟨?_, trivial, ⟨?_, ?_⟩, by simp⟩
      · rw [hval, hadd]
      · simpa using hptr
      · simp only [schemaValue_eq]
        rw [hval]
        intro cv hcv
        rcases List.mem_append.mp hcv with hc | hc
        · exact hh cv (by simp [hc])
        · rcases List.mem_cons.mp hc with hc | hc
          · subst hc
            have := hashed_addVal H (c := k) hcol v
            rw [hke]; exact this
          · exact hh cv (by simp [hc])

/-! ### getValueBitmap + Add -/

theorem columnAt_of_columns {hp hp' : Heap} (h : hp'.columns = hp.columns) (p : Ptr) : columnAt hp' p = columnAt hp p := by
  cases p <;> simp [columnAt, h]

theorem bitmapAt_of_bitmaps {hp hp' : Heap} (h : hp'.bitmaps = hp.bitmaps) (p : Ptr) : bitmapAt hp' p = bitmapAt hp p := by
  cases p <;> simp [bitmapAt, h]

theorem schemaValue_of_columns {hp hp' : Heap} (h : hp'.columns = hp.columns) (s : SchemaObj) :
    schemaValue hp' s = schemaValue hp s := by
  simp only [schemaValue_eq]
  exact cols_congr hp hp' _ (fun kp _ => columnAt_of_columns h kp.2)

theorem absVals_of_bitmaps {hp hp' : Heap} (h : hp'.bitmaps = hp.bitmaps) (m : GoMap UInt64 Ptr) :
    absVals hp' m = absVals hp m :=
  absVals_congr hp hp' m (fun kp _ => bitmapAt_of_bitmaps h kp.2)

theorem SchemaWF.of_columns {hp hp' : Heap} {s : SchemaObj} (h : hp'.columns = hp.columns) (wf : SchemaWF H hp s) :
    SchemaWF H hp' s :=
  ⟨by rw [h]; exact wf.ptrs, by rw [schemaValue_of_columns h]; exact wf.hashed⟩

theorem valueBit_spec (hp : Heap) (idx : IndexWriter) (h : UInt64) (x : UInt32)
    (wf : PtrsOK hp.bitmaps.length (idx.values.map (·.2))) :
    absVals (bitmapAdd (Gen.getValueBitmap hp idx h).1 (Gen.getValueBitmap hp idx h).2.2 x) (Gen.getValueBitmap hp idx h).2.1.values
        = (absVals hp idx.values).addBit h x.toNat ∧
    PtrsOK (bitmapAdd (Gen.getValueBitmap hp idx h).1 (Gen.getValueBitmap hp idx h).2.2 x).bitmaps.length
        ((Gen.getValueBitmap hp idx h).2.1.values.map (·.2)) ∧
    (bitmapAdd (Gen.getValueBitmap hp idx h).1 (Gen.getValueBitmap hp idx h).2.2 x).columns = hp.columns ∧
    (idx.mtx.held = true →
      (Gen.getValueBitmap hp idx h).2.1 = { idx with values := (Gen.getValueBitmap hp idx h).2.1.values }) := by
  rcases map_split idx.values h with hm | ⟨m1, k', p, m2, e, h1, hk⟩
  · have hl := mapLookup_miss idx.values h nilPtr hm
    have hs := mapSet_miss idx.values h (some hp.bitmaps.length) hm
    simp only [Gen.getValueBitmap, hl, roaringNew_eq, hs, Bool.not_false, if_true]
    have hmm : ∀ kb ∈ absVals hp idx.values, (kb.1 == h) = false := by
      intro kb hkb
      obtain ⟨kp, hkp, rfl⟩ := List.mem_map.mp hkb
      exact hm kp hkp
    have hold : ∀ kp ∈ idx.values, bitmapAt (bitmapAdd (allocBm hp) (some hp.bitmaps.length) x) kp.2 = bitmapAt hp kp.2 := by
      intro kp hkp
      obtain ⟨a, ea, ha⟩ := wf.2 kp.2 (List.mem_map_of_mem hkp)
      rw [bitmapAt_bitmapAdd_other _ _ _ _ (by rw [ea]; intro e; injection e with e; omega), bitmapAt_allocBm hp kp.2 a ea ha]
    refine ⟨?_, ?_, by simp, fun hh => by simp [mutexTouch_of_held _ hh]⟩
    · rw [addBit_miss _ _ _ hmm, absVals_append, absVals_congr hp _ idx.values hold]
      simp [absVals, bitmapAt_bitmapAdd_same, bitmapAt_allocBm_new]
    · have := wf.snoc
      simpa [List.map_append] using this
  · have hl : mapLookup idx.values h nilPtr = (p, true) := by rw [e]; exact mapLookup_hit m1 m2 k' h p nilPtr h1 hk
    simp only [Gen.getValueBitmap, hl, Bool.not_true, Bool.false_eq_true, if_false]
    rw [e] at wf ⊢
    obtain ⟨a, ea, ha⟩ := wf.2 p (by simp)
    subst ea
    have hnd : (m1.map (·.2) ++ some a :: m2.map (·.2)).Nodup := by simpa using wf.1
    have hn1 : ∀ kp ∈ m1, kp.2 ≠ some a := by
      intro kp hkp e
      have := (List.nodup_append.mp hnd).2.2 kp.2 (List.mem_map_of_mem hkp) (some a) (by simp)
      exact this e
    have hn2 : ∀ kp ∈ m2, kp.2 ≠ some a := by
      intro kp hkp e
      have := (List.nodup_cons.mp (List.nodup_append.mp hnd).2.1).1
      exact this (e ▸ List.mem_map_of_mem hkp)
    have hmm : ∀ kb ∈ absVals hp m1, (kb.1 == h) = false := by
      intro kb hkb
      obtain ⟨kp, hkp, rfl⟩ := List.mem_map.mp hkb
      exact h1 kp hkp
    refine ⟨?_, by simpa using wf, by simp, fun hh => by simp [mutexTouch_of_held _ hh]⟩
    rw [absVals_append, absVals_append]
    have e1 := absVals_congr hp (bitmapAdd hp (some a) x) m1 (fun kp hkp => bitmapAt_bitmapAdd_other hp a x kp.2 (hn1 kp hkp))
    have e2 := absVals_congr hp (bitmapAdd hp (some a) x) m2 (fun kp hkp => bitmapAt_bitmapAdd_other hp a x kp.2 (hn2 kp hkp))
    rw [e1]
    show _ ++ ((k', bitmapAt (bitmapAdd hp (some a) x) (some a)) :: absVals (bitmapAdd hp (some a) x) m2) = _
    rw [e2, bitmapAt_bitmapAdd_same hp a x ha]
    exact (addBit_hit _ _ k' h _ _ hmm hk).symm

/-! ### the body of the loop of AddRow -/

/-- heap invariant of an `*IndexWriter` -/
structure WriterWF (hp : Heap) (idx : IndexWriter) : Prop where
  sch : SchemaWF H hp idx.schema
  vals : PtrsOK hp.bitmaps.length (idx.values.map (·.2))

theorem SchemaWF.empty (hp : Heap) : SchemaWF H hp {} :=
  ⟨PtrsOK.nil _, by intro cv hcv; simp [schemaValue] at hcv⟩

/-- what `NewIndexWriter` returns is well formed on any heap -/
theorem WriterWF.empty (hp : Heap) (filename : Bytes) : WriterWF H hp { filename := filename } :=
  ⟨SchemaWF.empty H hp, PtrsOK.nil _⟩

/-- the model state an `IndexWriter` stands for -/
def absWriter (hp : Heap) (idx : IndexWriter) : Writer :=
  { schema := schemaValue hp idx.schema, vals := absVals hp idx.values, next := idx.nextRowID.toNat }

/-- one iteration of `for k, v := range values` of `AddRow`, as the translator emits it (with the mutex held the
    recorded accesses are no-ops) -/
theorem addRowStep_eq (values : List (Bytes × Bytes)) (rowID : UInt32) (hp : Heap) (idx : IndexWriter) (kv : Bytes × Bytes)
    (hh : idx.mtx.held = true) :
    Gen.indexWriterAddRow_loop1 H values rowID (hp, idx) kv =
      (let r := Gen.schemaAdd H hp idx.schema kv.1 kv.2
       let g := Gen.getValueBitmap r.1 { idx with schema := r.2.1 } r.2.2
       (bitmapAdd g.1 g.2.2 rowID, g.2.1)) := by
  unfold Gen.indexWriterAddRow_loop1
  simp only [mutexTouch_of_held _ hh]

theorem addRowStep_spec (values : List (Bytes × Bytes)) (rowID : UInt32) (hp : Heap) (idx : IndexWriter) (kv : Bytes × Bytes)
    (wf : WriterWF H hp idx) (hh : idx.mtx.held = true) :
    let st' := Gen.indexWriterAddRow_loop1 H values rowID (hp, idx) kv
    WriterWF H st'.1 st'.2 ∧
    schemaValue st'.1 st'.2.schema = Schema.add (schemaValue hp idx.schema) kv.1 kv.2 (H (encodePair kv.1 kv.2)) ∧
    absVals st'.1 st'.2.values = (absVals hp idx.values).addBit (H (encodePair kv.1 kv.2)) rowID.toNat ∧
    st'.2.nextRowID = idx.nextRowID ∧ st'.2.mtx = idx.mtx ∧ st'.2.filename = idx.filename := by
  intro st'
  obtain ⟨hs1, hs2, hs3, hs4⟩ := schemaAdd_spec H hp idx.schema kv.1 kv.2 wf.sch
  have hst0 : st' = _ := addRowStep_eq H values rowID hp idx kv hh
  generalize hr : Gen.schemaAdd H hp idx.schema kv.1 kv.2 = r at hs1 hs2 hs3 hs4 hst0
  have hv : PtrsOK r.1.bitmaps.length (({ idx with schema := r.2.1 } : IndexWriter).values.map (·.2)) := by
    rw [hs4]; exact wf.vals
  obtain ⟨hg1, hg2, hg3, hg4⟩ := valueBit_spec r.1 { idx with schema := r.2.1 } r.2.2 rowID hv
  have hg4 := hg4 hh
  dsimp only at hst0
  generalize hg : Gen.getValueBitmap r.1 { idx with schema := r.2.1 } r.2.2 = g at hg1 hg2 hg3 hg4 hst0
  have hst : st' = (bitmapAdd g.1 g.2.2 rowID, g.2.1) := hst0
  rw [hst]
  have hsch : g.2.1.schema = r.2.1 := by rw [hg4]
  refine ⟨⟨?_, hg2⟩, ?_, ?_, by rw [hg4], by rw [hg4], by rw [hg4]⟩
  · show SchemaWF H _ g.2.1.schema
    rw [hsch]; exact hs3.of_columns H hg3
  · show schemaValue _ g.2.1.schema = _
    rw [hsch, schemaValue_of_columns hg3, hs1]
  · show absVals _ g.2.1.values = _
    rw [hg1, hs2]
    show ValMap.addBit (absVals r.1 idx.values) _ _ = _
    rw [absVals_of_bitmaps hs4]

theorem addRowStep_abs (values : List (Bytes × Bytes)) (rowID : UInt32) (hp : Heap) (idx : IndexWriter) (kv : Bytes × Bytes)
    (wf : WriterWF H hp idx) (hh : idx.mtx.held = true) :
    absWriter (Gen.indexWriterAddRow_loop1 H values rowID (hp, idx) kv).1 (Gen.indexWriterAddRow_loop1 H values rowID (hp, idx) kv).2
      = Writer.addPair H rowID.toNat (absWriter hp idx) kv := by
  obtain ⟨_, h2, h3, h4, _, _⟩ := addRowStep_spec H values rowID hp idx kv wf hh
  simp only [absWriter, Writer.addPair, h2, h3, h4]

theorem addRowFold_spec (vals0 : List (Bytes × Bytes)) (rowID : UInt32) (values : List (Bytes × Bytes)) (hp : Heap)
    (idx : IndexWriter) (wf : WriterWF H hp idx) (hh : idx.mtx.held = true) :
    let st' := values.foldl (Gen.indexWriterAddRow_loop1 H vals0 rowID) (hp, idx)
    WriterWF H st'.1 st'.2 ∧
    absWriter st'.1 st'.2 = values.foldl (Writer.addPair H rowID.toNat) (absWriter hp idx) ∧
    st'.2.nextRowID = idx.nextRowID ∧ st'.2.mtx = idx.mtx ∧ st'.2.filename = idx.filename := by
  induction values generalizing hp idx with
  | nil => exact ⟨wf, rfl, rfl, rfl, rfl⟩
  | cons kv rest ih =>
    obtain ⟨w1, _, _, w4, w5, w6⟩ := addRowStep_spec H vals0 rowID hp idx kv wf hh
    have habs := addRowStep_abs H vals0 rowID hp idx kv wf hh
    have := ih (Gen.indexWriterAddRow_loop1 H vals0 rowID (hp, idx) kv).1 (Gen.indexWriterAddRow_loop1 H vals0 rowID (hp, idx) kv).2 w1
      (by rw [w5]; exact hh)
    simp only [List.foldl_cons]
    obtain ⟨i1, i2, i3, i4, i5⟩ := this
    refine ⟨i1, ?_, i3.trans w4, i4.trans w5, i5.trans w6⟩
    rw [i2, habs]

end
end Updog.GeneratedEq
