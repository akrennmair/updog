/-
Meaning-preserving normal form `norm` (flatten same-operator nesting, unwrap single-operand AND/OR,
forget the unused value of placeholder leaves), and the facts about it: `norm` produces normal forms
(`NF`), is the identity on them, and `norm (rp e) = norm e` for the parse result `rp e` of formatted text.
-/
import Updog.Proofs.ParseFmt
namespace Updog

/-! ### the normal form -/

/-- the operands of `x` if it is an `o`-node, else `x` itself -/
def spliceOp : Bool → PExpr → List PExpr
  | false, .and xs => xs
  | true, .or xs => xs
  | _, x => [x]

theorem spliceOp_mkOp (o : Bool) (xs : List PExpr) : spliceOp o (mkOp o xs) = xs := by
  cases o <;> rfl

theorem spliceOp_of_not_op {o : Bool} {x : PExpr} (h : isOp o x = false) : spliceOp o x = [x] := by
  cases x <;> cases o <;> simp_all [isOp, isAnd, isOr, spliceOp]

theorem eq_mkOp_of_isOp {o : Bool} {x : PExpr} (h : isOp o x = true) : ∃ xs, x = mkOp o xs := by
  cases x <;> cases o <;> simp_all [isOp, isAnd, isOr, mkOp]

/-- to get through `spliceOp`: the operands of an `o`-node, or the tree itself -/
theorem spliceOp_rec {o : Bool} {C : PExpr → List PExpr → Prop} (op : ∀ xs, C (mkOp o xs) xs)
    (other : ∀ x, isOp o x = false → C x [x]) (x : PExpr) : C x (spliceOp o x) := by
  cases hop : isOp o x with
  | true => obtain ⟨xs, rfl⟩ := eq_mkOp_of_isOp hop; rw [spliceOp_mkOp]; exact op xs
  | false => rw [spliceOp_of_not_op hop]; exact other x hop

mutual
/-- normal form: same-operator nesting flattened, single-operand AND/OR unwrapped, leaves normalised -/
def norm : PExpr → PExpr
  | .eq c v ph => rpLeaf c v ph
  | .not e => .not (norm e)
  | .and es => mk1 false (normCh false es)
  | .or es => mk1 true (normCh true es)
def normCh (o : Bool) : List PExpr → List PExpr
  | [] => []
  | e :: es => spliceOp o (norm e) ++ normCh o es
end

theorem norm_mkOp (o : Bool) (es : List PExpr) : norm (mkOp o es) = mk1 o (normCh o es) := by
  cases o <;> rw [mkOp, norm]

theorem normCh_append (o : Bool) (xs ys : List PExpr) :
    normCh o (xs ++ ys) = normCh o xs ++ normCh o ys := by
  induction xs with
  | nil => rw [normCh]; rfl
  | cons x xs ih => rw [List.cons_append, normCh, normCh, ih, List.append_assoc]

mutual
/-- shape of normal forms: no AND/OR with exactly one operand, no `o`-node directly below an `o`-node,
    placeholder leaves carry no value -/
def NF : PExpr → Prop
  | .eq _ v ph => ph > 0 → v = []
  | .not e => NF e
  | .and es => es.length ≠ 1 ∧ NFL false es
  | .or es => es.length ≠ 1 ∧ NFL true es
def NFL (o : Bool) : List PExpr → Prop
  | [] => True
  | e :: es => (NF e ∧ isOp o e = false) ∧ NFL o es
end

theorem NF_mkOp (o : Bool) (es : List PExpr) : NF (mkOp o es) ↔ es.length ≠ 1 ∧ NFL o es := by
  cases o <;> rw [mkOp, NF]

theorem NFL_append {o : Bool} {xs ys : List PExpr} (hx : NFL o xs) (hy : NFL o ys) : NFL o (xs ++ ys) := by
  induction xs with
  | nil => exact hy
  | cons x xs ih => exact ⟨hx.1, ih hx.2⟩

theorem NFL_spliceOp {o : Bool} {x : PExpr} (h : NF x) : NFL o (spliceOp o x) :=
  spliceOp_rec (C := fun x l => NF x → NFL o l) (fun xs h => ((NF_mkOp o xs).mp h).2)
    (fun _ hop h => ⟨⟨h, hop⟩, trivial⟩) x h

theorem NF_mk1 {o : Bool} {l : List PExpr} (h : NFL o l) : NF (mk1 o l) :=
  mk1_rec (C := fun l e => NFL o l → NF e) (fun _ h => h.1.1)
    (fun l hl h => (NF_mkOp o l).mpr ⟨hl, h⟩) l h

theorem spliceOp_mk1 {o : Bool} {l : List PExpr} (h : NFL o l) : spliceOp o (mk1 o l) = l :=
  mk1_rec (C := fun l e => NFL o l → spliceOp o e = l) (fun _ h => spliceOp_of_not_op h.1.2)
    (fun l _ _ => spliceOp_mkOp o l) l h

theorem mk1_spliceOp {o : Bool} {y : PExpr} (h : NF y) : mk1 o (spliceOp o y) = y :=
  spliceOp_rec (C := fun y l => NF y → mk1 o l = y)
    (fun xs h => mk1_of_length_ne_one ((NF_mkOp o xs).mp h).1) (fun _ _ _ => rfl) y h

theorem norm_NF : (∀ e, NF (norm e)) ∧ (∀ es, ∀ o, NFL o (normCh o es)) := by
  refine PExpr.induction ?_ ?_ ?_ ?_ ?_
  · intro c v ph; rw [norm, rpLeaf]; split <;> simp [NF]
  · exact fun e ih => by rw [norm, NF]; exact ih
  · exact fun o es ih => by rw [norm_mkOp]; exact NF_mk1 (ih o)
  · exact fun o => by rw [normCh]; trivial
  · exact fun e es ihe ihs o => by rw [normCh]; exact NFL_append (NFL_spliceOp ihe) (ihs o)

theorem norm_mk1 (o : Bool) (xs : List PExpr) : norm (mk1 o xs) = mk1 o (normCh o xs) :=
  mk1_rec (C := fun l e => norm e = mk1 o (normCh o l))
    (fun x => by rw [normCh, normCh, List.append_nil, mk1_spliceOp (norm_NF.1 x)])
    (fun l _ => norm_mkOp o l) xs

theorem norm_rpLeaf (c v : Bytes) (ph : Nat) : norm (rpLeaf c v ph) = rpLeaf c v ph := by
  unfold rpLeaf
  split
  · rename_i h; simp [norm, rpLeaf, h]
  · simp [norm, rpLeaf]

theorem norm_rp : (∀ e, norm (rp e) = norm e ∧ ∀ o, normCh o (rpItem o e) = spliceOp o (norm e)) ∧
    (∀ es, ∀ o, normCh o (rpCh o es) = normCh o es) := by
  have item_of_not_op : ∀ {o e}, isOp o e = false → norm (rp e) = norm e →
      normCh o (rpItem o e) = spliceOp o (norm e) := by
    intro o e hop h
    rw [rpItem_of_not_op hop, normCh, normCh, h, List.append_nil]
  refine PExpr.induction ?_ ?_ ?_ ?_ ?_
  · intro c v ph
    have h : norm (rp (.eq c v ph)) = norm (.eq c v ph) := by rw [rp, norm, norm_rpLeaf]
    exact ⟨h, fun o => item_of_not_op (by cases o <;> rfl) h⟩
  · intro e ih
    have h : norm (rp (.not e)) = norm (.not e) := by rw [rp, norm, norm, ih.1]
    exact ⟨h, fun o => item_of_not_op (by cases o <;> rfl) h⟩
  · intro o es ih
    have h : norm (rp (mkOp o es)) = norm (mkOp o es) := by
      rw [rp_mkOp, norm_mk1, ih, norm_mkOp]
    refine ⟨h, fun o' => ?_⟩
    rcases eq_or_eq_not o' o with rfl | rfl
    · rw [rpItem_mkOp, ih, norm_mkOp, spliceOp_mk1 (norm_NF.2 es o')]
    · exact item_of_not_op (isOp_not_mkOp o es) h
  · exact fun o => by rw [rpCh]
  · exact fun e es ihe ihs o => by rw [rpCh, normCh_append, ihe.2, ihs, normCh]

/-! ### what `norm` preserves -/

/-- `norm` preserves every function `F` of trees that sees an AND/OR node through a function `G` of the
    operand list, where `G` takes a single operand for the operand itself and respects concatenation
    (`F` = satisfaction by a row, `G` = conjunction / disjunction; `F` = highest placeholder, `G` = maximum) -/
theorem norm_preserves {α : Type} (F : PExpr → α) (G : Bool → List PExpr → α)
    (leaf : ∀ c v ph, F (rpLeaf c v ph) = F (.eq c v ph))
    (not : ∀ e e', F e = F e' → F (.not e) = F (.not e'))
    (op : ∀ o es, F (mkOp o es) = G o es) (single : ∀ o x, G o [x] = F x)
    (append : ∀ o xs xs' ys ys', G o xs = G o xs' → G o ys = G o ys' → G o (xs ++ ys) = G o (xs' ++ ys')) :
    (∀ e, F (norm e) = F e) ∧ (∀ es, ∀ o, G o (normCh o es) = G o es) := by
  have mk1 : ∀ o l, F (mk1 o l) = G o l := fun o =>
    mk1_rec (C := fun l e => F e = G o l) (fun x => (single o x).symm) (fun l _ => op o l)
  have splice : ∀ o x, G o (spliceOp o x) = G o [x] := fun o =>
    spliceOp_rec (C := fun x l => G o l = G o [x]) (fun xs => ((single o _).trans (op o xs)).symm)
      (fun _ _ => rfl)
  refine PExpr.induction ?_ ?_ ?_ ?_ ?_
  · exact fun c v ph => by rw [norm, leaf]
  · exact fun e ih => by rw [norm]; exact not _ _ ih
  · exact fun o es ih => by rw [norm_mkOp, mk1, ih, op]
  · exact fun o => by rw [normCh]
  · intro e es ihe ihs o
    rw [normCh]
    exact append o _ [e] _ es ((splice o _).trans ((single o _).trans (ihe.trans (single o e).symm))) (ihs o)

/-! ### `norm` is idempotent -/

theorem norm_of_NF : (∀ e, NF e → norm e = e) ∧ (∀ es, ∀ o, NFL o es → normCh o es = es) := by
  refine PExpr.induction ?_ ?_ ?_ ?_ ?_
  · intro c v ph h
    rw [NF] at h
    rw [norm, rpLeaf]
    split
    · rename_i hp; rw [h hp]
    · rename_i hp; rw [Nat.eq_zero_of_not_pos hp]
  · exact fun e ih h => by rw [norm, ih h]
  · intro o es ih h
    rw [NF_mkOp] at h
    rw [norm_mkOp, ih o h.2, mk1_of_length_ne_one h.1]
  · exact fun _ _ => by rw [normCh]
  · intro e es ihe ihs o h
    rw [normCh, ihe h.1.1, ihs o h.2, spliceOp_of_not_op h.1.2]; rfl

end Updog
