/-
Lemmas about the Go prelude (`Updog/Basic/GoPrelude.lean`) that connect its primitives to the forms used by the
hand-written models. Used by the modules under `Updog/Props/Gen/`.
-/
import Updog.Basic.GoPrelude
import Updog.Proofs.GoLoops
import Updog.Model.Parser
import Updog.Model.Formatter
import Updog.Model.OpenFlags
import Updog.Model.CacheKey

namespace Updog.Go

/-! ### len / index / slices -/

theorem len_eq {α : Type} (l : List α) : len l = (l.length : Int) := rfl

theorem index_zero_cons (a : UInt8) (s : Bytes) : index (a :: s) 0 = a := by
  simp [index]

theorem sliceFrom_one_cons (a : UInt8) (s : Bytes) : sliceFrom (a :: s) 1 = s := by
  simp [sliceFrom]

theorem index_last (s : Bytes) (a : UInt8) : index (s ++ [a]) (len (s ++ [a]) - 1) = a := by
  have h : ((s ++ [a]).length : Int) - 1 = (s.length : Int) := by simp
  simp only [index, len, h]
  have h2 : ¬ ((s.length : Int) < 0) := by omega
  simp [h2]

theorem sliceTo_last (s : Bytes) (a : UInt8) : sliceTo (s ++ [a]) (len (s ++ [a]) - 1) = s := by
  simp [sliceTo, len]

/-! ### strings.ReplaceAll -/

theorem replaceAux_zero (old new : Bytes) (c : UInt8) (r : Bytes) :
    replaceAux old new 0 (c :: r) =
      if old.isPrefixOf (c :: r) then new ++ replaceAux old new (old.length - 1) r else c :: replaceAux old new 0 r := rfl

theorem replaceAll_unescape (s : Bytes) : replaceAll s [34, 34] [34] = unescape s := by
  unfold replaceAll
  fun_induction unescape s with
  | case1 r ih =>
    simp [replaceAux, List.isPrefixOf, ih]
  | case2 x r hne ih =>
    have hp : List.isPrefixOf ([34, 34] : Bytes) (x :: r) = false := by
      cases r with
      | nil => simp [List.isPrefixOf]
      | cons y r' =>
        simp only [List.isPrefixOf, Bool.and_true]
        by_cases hx : x = 34
        · by_cases hy : y = 34
          · exact (hne r' hx (by rw [hy])).elim
          · simp [hx, Ne.symm hy]
        · simp [Ne.symm hx]
    simp [replaceAux, hp, ih]
  | case3 => simp [replaceAux]

/-- doubling quotes = the `flatMap` of the model's `quoteValue` -/
theorem replaceAll_quote (v : Bytes) :
    replaceAll v [34] [34, 34] = v.flatMap (fun c => if c == 34 then [34, 34] else [c]) := by
  unfold replaceAll
  induction v with
  | nil => rfl
  | cons c r ih =>
    rw [replaceAux_zero, List.flatMap_cons, ← ih]
    by_cases hc : c = 34
    · subst hc; rfl
    · have h1 : ((34 : UInt8) == c) = false := beq_eq_false_iff_ne.mpr (Ne.symm hc)
      have h2 : (c == (34 : UInt8)) = false := beq_eq_false_iff_ne.mpr hc
      simp only [List.isPrefixOf, h1, h2, Bool.false_and, Bool.false_eq_true, if_false]
      rfl

/-! ### strconv.ParseInt -/

def allDigits (ds : Bytes) : Prop := ∀ d ∈ ds, 48 ≤ d.toNat ∧ d.toNat ≤ 57

instance (ds : Bytes) : Decidable (allDigits ds) := by unfold allDigits; infer_instance

theorem parseDigits_digits (ds : Bytes) (h : allDigits ds) (acc : Nat) :
    parseDigits ds acc = some (ds.foldl (fun a d => a * 10 + (d.toNat - 48)) acc) := by
  induction ds generalizing acc with
  | nil => rfl
  | cons d r ih =>
    have hd := h d (by simp)
    simp only [parseDigits, hd, and_self, if_true, List.foldl_cons]
    exact ih (fun x hx => h x (by simp [hx])) _

theorem parseInt32_digits (d : UInt8) (r : Bytes) (h : allDigits (d :: r)) :
    parseInt32 (d :: r) =
      if digitsVal (d :: r) < 2147483648 then some (digitsVal (d :: r) : Int) else none := by
  have hd := h d (by simp)
  have h43 : d ≠ 43 := by intro e; subst e; simp at hd
  have h45 : d ≠ 45 := by intro e; subst e; simp at hd
  have hm : parseMagnitude (d :: r) = some (digitsVal (d :: r)) := by
    simp only [parseMagnitude, List.isEmpty_cons, Bool.false_eq_true, if_false]
    exact parseDigits_digits _ h 0
  unfold parseInt32 parseIntDec
  split
  · rename_i heq; cases heq
  · rename_i heq; cases heq; exact absurd rfl h43
  · rename_i heq; cases heq; exact absurd rfl h45
  · rename_i c r' _ _ heq
    cases heq
    rw [hm]

/-! ### binary.BigEndian.AppendUint64 -/

/-- byte `a` (a power of 256) of `x` is not changed by reducing `x` modulo a multiple of `a * 256` -/
theorem mod_div_mod (x a b c : Nat) : x % (a * (b * c)) / a % b = x / a % b := by
  rw [Nat.mod_mul_right_div_self, Nat.mod_mul_right_mod]

theorem be32_mod (n : Nat) : be32 (n % 4294967296) = be32 n := by
  have h3 := mod_div_mod n 16777216 256 1
  have h2 := mod_div_mod n 65536 256 256
  have h1 := mod_div_mod n 256 256 65536
  have h0 : n % 4294967296 % 256 = n % 256 := Nat.mod_mod_of_dvd n (by decide)
  simp only [Nat.reduceMul] at h3 h2 h1
  simp only [be32, h3, h2, h1, h0]

theorem be64_eq (n : Nat) : be64 n = be32 (n / 4294967296) ++ be32 n := by
  rw [be64, be32_mod, be32_mod]

theorem beAppendUint64_eq (buf : Bytes) (k : UInt64) : beAppendUint64 buf k = buf ++ be64 k.toNat := by
  simp only [beAppendUint64, be64_eq, be32, Nat.div_div_eq_div_mul, Nat.reduceMul, List.cons_append, List.nil_append]

theorem foldl_beAppend (buf : Bytes) (keys : List UInt64) :
    List.foldl (fun (b : Bytes) (k : UInt64) => beAppendUint64 b k) buf keys
      = buf ++ keys.flatMap (fun k => be64 k.toNat) :=
  foldl_flatMap_of _ _ keys (fun acc k _ => beAppendUint64_eq acc k) buf

theorem foldl_snoc (acc : List UInt64) (xs : List UInt64) :
    List.foldl (fun (ks : List UInt64) (e : UInt64) => ks ++ [e]) acc xs = acc ++ xs :=
  (foldl_map_of _ id xs (fun _ _ _ => rfl) acc).trans (congrArg (acc ++ ·) (List.map_id xs))

theorem andNot_eq (a b : Nat) : andNot a b = a &&& (a ^^^ b) := by
  apply Nat.eq_of_testBit_eq
  intro i
  simp only [andNot, Nat.testBit_and, Nat.testBit_xor]
  rw [Nat.testBit_bitwise (by rfl)]
  cases a.testBit i <;> cases b.testBit i <;> rfl

end Updog.Go
