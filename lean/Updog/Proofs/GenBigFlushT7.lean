/-
The generated `bigIndexWriterFlush` (writer_big.go) against the cursor walk `walk` of Model/BigWriter.lean:
the cursor loop as a pure function on the data bucket (`bigRun`), then `bigRun` against the model's `walkStep`.
At the end `NewBigIndexWriter` and `Close`.
-/
import Updog.GeneratedFns
import Updog.Proofs.GenBigT3
import Updog.Proofs.GenFlushData
import Updog.Proofs.GoPreludeT7
import Updog.Proofs.BigWriter
namespace Updog.GeneratedEq
open Updog.Go.T3 Updog.Go.T7

/-! ### the cursor loop as a pure function -/

/-- what the loop of `Flush` carries: the buckets and the log of the output transaction, the heap, `currentValueIdx`, `bm` -/
structure BigLoopSt where
  bs : Buckets
  lg : List PutRec
  hp : Heap
  cur : UInt64
  bm : Ptr

/-- `dataBucket.Put('V' ‖ be64(currentValueIdx), bm.ToBytes())` -/
def BigLoopSt.emit (X : Ext) (s : BigLoopSt) : BigLoopSt :=
  { s with bs := bucketsSet s.bs dataName (dataPut ((bucketsGet s.bs dataName).getD []) (vKey s.cur) (X.roaringToBytes (bitmapAt s.hp s.bm))),
           lg := s.lg ++ [(dataName, vKey s.cur, X.roaringToBytes (bitmapAt s.hp s.bm))] }

/-- the loop state after the final `if bm != nil { Put }` -/
def BigLoopSt.fin (X : Ext) (s : BigLoopSt) : BigLoopSt := if s.bm.isSome then s.emit X else s

/-- the loop of `Flush` over the remaining keys; `none`: a key whose length is not 12 -/
def bigRun (X : Ext) : List Bytes → BigLoopSt → Option BigLoopSt
  | [], s => some s
  | k :: rest, s =>
    if k.length ≠ 12 then none
    else if s.bm.isNone || s.cur != beUint64 (k.take 8) then
      let s1 := if s.bm.isSome then s.emit X else s
      bigRun X rest { s1 with cur := beUint64 (k.take 8), bm := some s1.hp.bitmaps.length,
                              hp := bitmapAdd (allocBm s1.hp) (some s1.hp.bitmaps.length) (beUint32 (k.drop 8)) }
    else bigRun X rest { s with hp := bitmapAdd s.hp s.bm (beUint32 (k.drop 8)) }

theorem vKey_put (k : UInt64) : Gen.keyPrefixValue ++ bePutUint64 (zeroBytes 8) 0 (Go.len (zeroBytes 8)) k = vKey k := by
  rw [putU64_full]; rfl

theorem vKey_nonempty (k : UInt64) : (vKey k).isEmpty = false := rfl

theorem emit_data (X : Ext) (s : BigLoopSt) : ∃ dd, bucketsGet (s.emit X).bs dataName = some dd :=
  ⟨_, bucketsGet_set_same _ _ _⟩

/-- the state of the generated loop for the abstract state `s` at cursor position `p` -/
abbrev BigGenSt := Bolt × Bolt × Heap × UInt64 × Ptr × Cursor × Option Bytes

/-- **the generated loop = `bigRun`** on the keys from the cursor position on. If `bigRun` succeeds the loop ends
    normally with the output transaction still open; if a key has the wrong length the function returns an error
    after both deferred rollbacks: nothing is committed to the output database. -/
theorem big_flush_loop (X : Ext) (ti tn : Nat) (tc : Buckets) (tcs : List (List PutRec)) (d : BucketData)
    (htd : bucketsGet tc tempName = some d) (oi on' : Nat) (oc : Buckets) (ocs : List (List PutRec))
    (idx : BigIndexWriter) (err : Error) (rest : BucketData) :
    ∀ (p : Nat) (s : BigLoopSt) (fuel : Nat), d.drop p = rest → rest.length < fuel →
      (∃ dd, bucketsGet s.bs dataName = some dd) →
      match bigRun X (rest.map (·.1)) s with
      | some s' => ∃ c' k', forWhile fuel
          ((rwView oi on' oc s.bs ocs s.lg, roView ti tn tc tcs, s.hp, s.cur, s.bm,
            ({ bucket := some (tn, tempName), pos := p } : Cursor), (d[p]?).map (·.1)) : BigGenSt)
          (Gen.bigIndexWriterFlush_loop1_cond X idx (some tn) err (some (tn, tempName)) (some on') (some (on', dataName)))
          (Gen.bigIndexWriterFlush_loop1_body X idx (some tn) err (some (tn, tempName)) (some on') (some (on', dataName)))
            = .next (rwView oi on' oc s'.bs ocs s'.lg, roView ti tn tc tcs, s'.hp, s'.cur, s'.bm, c', k') ∧
          ∃ dd, bucketsGet s'.bs dataName = some dd
      | none => ∃ hp' e, forWhile fuel
          ((rwView oi on' oc s.bs ocs s.lg, roView ti tn tc tcs, s.hp, s.cur, s.bm,
            ({ bucket := some (tn, tempName), pos := p } : Cursor), (d[p]?).map (·.1)) : BigGenSt)
          (Gen.bigIndexWriterFlush_loop1_cond X idx (some tn) err (some (tn, tempName)) (some on') (some (on', dataName)))
          (Gen.bigIndexWriterFlush_loop1_body X idx (some tn) err (some (tn, tempName)) (some on') (some (on', dataName)))
            = .ret ({ id := oi, closed := false, committed := oc, tx := none, nextTx := on' + 1, commits := ocs },
                    { id := ti, closed := false, committed := tc, tx := none, nextTx := tn + 1, commits := tcs },
                    hp', idx, some e) := by
  induction rest with
  | nil =>
    intro p s fuel hdrop hfuel hdd
    have hnone : d[p]? = none := by
      have : d.length ≤ p := by simpa using hdrop
      exact List.getElem?_eq_none this
    obtain ⟨f, rfl⟩ : ∃ f, fuel = f + 1 := ⟨fuel - 1, by omega⟩
    simp only [List.map_nil, bigRun, hnone, Option.map_none, forWhile, Gen.bigIndexWriterFlush_loop1_cond,
      Option.isSome_none, Bool.false_eq_true, if_false]
    exact ⟨_, _, rfl, hdd⟩
  | cons kv rest ih =>
    intro p s fuel hdrop hfuel hdd
    obtain ⟨k, v⟩ := kv
    have hp1 : d[p]? = some (k, v) := by
      have := congrArg (fun l => l[0]?) hdrop
      simpa using this
    have hdrop' : d.drop (p + 1) = rest := by
      have := congrArg List.tail hdrop
      simpa using this
    obtain ⟨f, rfl⟩ : ∃ f, fuel = f + 1 := ⟨fuel - 1, by omega⟩
    have hf : rest.length < f := by simp at hfuel; omega
    obtain ⟨dd, hdd⟩ := hdd
    have hlen : (Go.len k != (12 : Int)) = decide (k.length ≠ 12) := by
      simp only [Go.len]
      by_cases h : k.length = 12
      · simp [h]
      · have : ¬ ((k.length : Int) = 12) := by omega
        simp [h, this]
    have hnext := cursorNext_ro ti tn tc tcs tempName d htd p
    have h8 : (8 : Int).toNat = 8 := rfl
    -- every case evaluates one iteration along its own path (`↓reduceIte`: a test is decided before its branches are visited)
    by_cases hl : k.length = 12
    · cases hc : (s.bm.isNone || s.cur != beUint64 (k.take 8)) with
      | true =>
        cases hbm : s.bm with
        | none =>
          simp only [List.map_cons, bigRun, hp1, Option.map_some, forWhile, Gen.bigIndexWriterFlush_loop1_cond,
            Option.isSome_some, Gen.bigIndexWriterFlush_loop1_body, hlen, hl, ne_eq, not_true_eq_false, decide_false,
            Bool.false_eq_true, ↓reduceIte, bytesOf, Option.getD_some, Go.sliceTo, Go.sliceFrom, h8, hbm ▸ hc, hbm,
            Option.isSome_none, roaringNew_eq, hnext]
          exact ih (p + 1) { s with cur := beUint64 (k.take 8), bm := some s.hp.bitmaps.length,
                                     hp := bitmapAdd (allocBm s.hp) (some s.hp.bitmaps.length) (beUint32 (k.drop 8)) } f hdrop' hf ⟨dd, hdd⟩
        | some a =>
          simp only [List.map_cons, bigRun, hp1, Option.map_some, forWhile, Gen.bigIndexWriterFlush_loop1_cond,
            Option.isSome_some, Gen.bigIndexWriterFlush_loop1_body, hlen, hl, ne_eq, not_true_eq_false, decide_false,
            Bool.false_eq_true, ↓reduceIte, bytesOf, Option.getD_some, Go.sliceTo, Go.sliceFrom, h8, hbm ▸ hc, hbm,
            vKey_put, bitmapRunOptimize, bitmapToBytes, isErr_none, rwView,
            bucketPut_mk _ _ _ _ _ _ _ _ _ _ dd hdd (vKey_nonempty _), roaringNew_eq, hnext]
          have := ih (p + 1) (⟨(s.emit X).bs, (s.emit X).lg,
              bitmapAdd (allocBm (s.emit X).hp) (some (s.emit X).hp.bitmaps.length) (beUint32 (k.drop 8)),
              beUint64 (k.take 8), some (s.emit X).hp.bitmaps.length⟩ : BigLoopSt) f hdrop' hf (emit_data X s)
          simp only [BigLoopSt.emit, hdd, Option.getD_some, hbm, rwView] at this ⊢
          exact this
      | false =>
        simp only [List.map_cons, bigRun, hp1, Option.map_some, forWhile, Gen.bigIndexWriterFlush_loop1_cond,
          Option.isSome_some, Gen.bigIndexWriterFlush_loop1_body, hlen, hl, ne_eq, not_true_eq_false, decide_false,
          Bool.false_eq_true, ↓reduceIte, bytesOf, Option.getD_some, Go.sliceTo, Go.sliceFrom, h8, hc, hnext]
        exact ih (p + 1) { s with hp := bitmapAdd s.hp s.bm (beUint32 (k.drop 8)) } f hdrop' hf ⟨dd, hdd⟩
    · simp only [List.map_cons, bigRun, hp1, Option.map_some, forWhile, Gen.bigIndexWriterFlush_loop1_cond,
        Option.isSome_some, Gen.bigIndexWriterFlush_loop1_body, bytesOf, Option.getD_some, hlen, hl, ne_eq,
        not_false_eq_true, decide_true, ↓reduceIte, rwView, roView, txRollback_mk]
      exact ⟨_, _, rfl⟩

/-! ### `bigRun` against the model's `walkStep` -/

theorem beUint64_take8 (k : Bytes) (h : k.length = 12) : (beUint64 (k.take 8)).toNat = beDecode (k.take 8) :=
  beUint64_toNat _ (by simp [h])

theorem beUint32_drop8 (k : Bytes) (h : k.length = 12) : (beUint32 (k.drop 8)).toNat = beDecode (k.drop 8) :=
  beUint32_toNat _ (by simp [h])

theorem put_absent (m : ValMap) (h : UInt64) (b : Nat) (hn : ∀ kb ∈ m, kb.1 ≠ h) : m.put h b = m ++ [(h, b)] := by
  induction m with
  | nil => rfl
  | cons kb rest ih =>
    obtain ⟨k, v⟩ := kb
    have hk : (k == h) = false := by simpa using hn (k, v) (by simp)
    simp only [ValMap.put, hk, Bool.false_eq_true, if_false, List.cons_append, List.cons.injEq, true_and]
    exact ih (fun kb hkb => hn kb (List.mem_cons_of_mem _ hkb))

/-- the `PutRec` of one bitmap -/
def valRec (X : Ext) (kb : UInt64 × Nat) : PutRec := (dataName, vKey kb.1, X.roaringToBytes kb.2)

/-- the generated loop state `s` stands for the model's `WalkState` `ws`: same current value index and bitmap, and the
    data bucket / the log hold exactly the bitmaps emitted so far, `Put` in this order on top of `d0` / `lg0` -/
structure WalkRel (X : Ext) (d0 : BucketData) (lg0 : List PutRec) (s : BigLoopSt) (ws : WalkState) : Prop where
  cur : ws.cur = s.cur.toNat
  bm : ws.bm = s.bm.map (fun a => bitmapAt s.hp (some a))
  valid : ∀ a, s.bm = some a → a < s.hp.bitmaps.length
  data : bucketsGet s.bs dataName = some (valFold X d0 ws.out)
  log : s.lg = lg0 ++ ws.out.map (valRec X)
  lt : ∀ kb ∈ ws.out, kb.1.toNat < ws.cur
  fresh : s.bm = none → ws.out = []

/-- `if bm != nil { Put }` on both sides: the model appends the current bitmap (its value index is larger than all
    emitted ones), and the data bucket and the log of the generated state follow -/
theorem WalkRel.emit_some {X : Ext} {d0 : BucketData} {lg0 : List PutRec} {s : BigLoopSt} {ws : WalkState}
    (rel : WalkRel X d0 lg0 s ws) (a : Nat) (hbm : s.bm = some a) :
    ws.emit = ws.out ++ [(s.cur, bitmapAt s.hp (some a))] ∧
    bucketsGet (s.emit X).bs dataName = some (valFold X d0 ws.emit) ∧ (s.emit X).lg = lg0 ++ ws.emit.map (valRec X) := by
  have hwbm : ws.bm = some (bitmapAt s.hp (some a)) := by rw [rel.bm, hbm]; rfl
  have hcur64 : ws.cur.toUInt64 = s.cur := by rw [rel.cur]; simp
  have hput : ws.emit = ws.out ++ [(s.cur, bitmapAt s.hp (some a))] := by
    simp only [WalkState.emit, hwbm, hcur64]
    apply put_absent
    intro kb hkb e
    have := rel.lt kb hkb
    rw [e, rel.cur] at this
    omega
  refine ⟨hput, ?_, ?_⟩
  · simp only [hput, BigLoopSt.emit, rel.data, Option.getD_some, hbm, bucketsGet_set_same, valFold_append]
    rfl
  · simp only [hput, BigLoopSt.emit, hbm, rel.log, List.map_append, List.append_assoc]
    rfl

theorem walkRel_step (X : Ext) (d0 : BucketData) (lg0 : List PutRec) (s : BigLoopSt) (ws : WalkState) (k : Bytes)
    (hl : k.length = 12) (hge : s.bm.isSome → ws.cur ≤ (decKey k).1) (rel : WalkRel X d0 lg0 s ws) :
    ∃ s', (∀ rest, bigRun X (k :: rest) s = bigRun X rest s') ∧ WalkRel X d0 lg0 s' (walkStep ws k) ∧
      s'.bm.isSome ∧ (walkStep ws k).cur = (decKey k).1 := by
  have h64 := beUint64_take8 k hl
  have h32 := beUint32_drop8 k hl
  have hne : (s.cur != beUint64 (k.take 8)) = (ws.cur != beDecode (k.take 8)) := by
    rw [rel.cur, ← h64, Bool.eq_iff_iff, bne_iff_ne, bne_iff_ne]
    exact not_congr UInt64.toNat_inj.symm
  have hnone : s.bm.isNone = ws.bm.isNone := by rw [rel.bm]; cases s.bm <;> rfl
  cases hbm : s.bm with
  | none =>
    -- the first key: nothing to emit
    have hout := rel.fresh hbm
    have hwbm : ws.bm = none := by rw [rel.bm, hbm]; rfl
    refine ⟨{ s with cur := beUint64 (k.take 8), bm := some s.hp.bitmaps.length,
                     hp := bitmapAdd (allocBm s.hp) (some s.hp.bitmaps.length) (beUint32 (k.drop 8)) }, ?_, ?_, rfl, ?_⟩
    · intro rest
      simp [bigRun, hl, hbm]
    · have hws : walkStep ws k = { cur := beDecode (k.take 8), bm := some (setBit 0 (beDecode (k.drop 8))), out := [] } := by
        simp [walkStep, hwbm, WalkState.emit, hout]
      rw [hws]
      refine ⟨h64.symm, ?_, ?_, ?_, ?_, ?_, ?_⟩
      · simp only [Option.map_some]
        rw [bitmapAt_bitmapAdd_same _ _ _ (by simp), bitmapAt_allocBm_new, h32]
      · intro a ha
        simp only [Option.some.injEq] at ha
        subst ha
        simp
      · have := rel.data; rw [hout] at this; exact this
      · have := rel.log; rw [hout] at this; exact this
      · intro kb hkb; cases hkb
      · intro h; cases h
    · simp [walkStep, hwbm, decKey]
  | some a =>
    have hva := rel.valid a hbm
    have hwbm : ws.bm = some (bitmapAt s.hp (some a)) := by rw [rel.bm, hbm]; rfl
    have hge' := hge (by rw [hbm]; rfl)
    by_cases hc : ws.cur = beDecode (k.take 8)
    · -- same value index: one more bit
      refine ⟨{ s with hp := bitmapAdd s.hp s.bm (beUint32 (k.drop 8)) }, ?_, ?_, by simp [hbm], ?_⟩
      · intro rest
        have : (s.cur != beUint64 (k.take 8)) = false := by rw [hne]; simp [hc]
        simp [bigRun, hl, hbm, this]
      · have hws : walkStep ws k = { ws with bm := some (setBit (bitmapAt s.hp (some a)) (beDecode (k.drop 8))) } := by
          simp [walkStep, hwbm, hc]
        rw [hws]
        refine ⟨rel.cur, ?_, ?_, rel.data, rel.log, rel.lt, ?_⟩
        · simp only [hbm, Option.map_some]
          rw [bitmapAt_bitmapAdd_same _ _ _ hva, h32]
        · intro b hb
          simp only [bitmapAdd_length]
          exact rel.valid b hb
        · intro h; rw [hbm] at h; cases h
      · simp [walkStep, hwbm, hc, decKey]
    · -- a new value index: emit the finished bitmap
      have hlt : ws.cur < beDecode (k.take 8) := by
        have : ws.cur ≤ beDecode (k.take 8) := hge'
        omega
      obtain ⟨hput, hdata, hlog⟩ := rel.emit_some a hbm
      refine ⟨⟨(s.emit X).bs, (s.emit X).lg,
          bitmapAdd (allocBm (s.emit X).hp) (some (s.emit X).hp.bitmaps.length) (beUint32 (k.drop 8)),
          beUint64 (k.take 8), some (s.emit X).hp.bitmaps.length⟩, ?_, ?_, rfl, ?_⟩
      · intro rest
        have : (s.cur != beUint64 (k.take 8)) = true := by rw [hne]; simp [hc]
        simp [bigRun, hl, hbm, this]
      · have hws : walkStep ws k = { cur := beDecode (k.take 8), bm := some (setBit 0 (beDecode (k.drop 8))),
                                     out := ws.emit } := by
          simp [walkStep, hwbm, hc]
        rw [hws]
        refine ⟨h64.symm, ?_, ?_, hdata, hlog, ?_, ?_⟩
        · simp only [Option.map_some, BigLoopSt.emit]
          rw [bitmapAt_bitmapAdd_same _ _ _ (by simp), bitmapAt_allocBm_new, h32]
        · intro b hb
          simp only [Option.some.injEq] at hb
          subst hb
          simp [BigLoopSt.emit]
        · intro kb hkb
          rw [show ({ cur := beDecode (k.take 8), bm := some (setBit 0 (beDecode (k.drop 8))), out := ws.emit } : WalkState).out
            = ws.out ++ [(s.cur, bitmapAt s.hp (some a))] from hput] at hkb
          rcases List.mem_append.mp hkb with h | h
          · have := rel.lt kb h
            show kb.1.toNat < beDecode (k.take 8)
            omega
          · simp only [List.mem_singleton] at h
            subst h
            show s.cur.toNat < beDecode (k.take 8)
            rw [← rel.cur]; exact hlt
        · intro h; cases h
      · simp [walkStep, hwbm, hc, decKey]

/-- **`bigRun` = the model's cursor walk** on 12-byte keys whose value indexes do not decrease (bbolt's key order):
    it never fails, and the final state stands for `ks.foldl walkStep ws` -/
theorem bigRun_walk (X : Ext) (d0 : BucketData) (lg0 : List PutRec) :
    ∀ (ks : List Bytes) (s : BigLoopSt) (ws : WalkState),
      (∀ k ∈ ks, k.length = 12) → (ks.map decKey).Pairwise (fun p q => p.1 ≤ q.1) →
      (∀ k ∈ ks, s.bm.isSome → ws.cur ≤ (decKey k).1) → WalkRel X d0 lg0 s ws →
      ∃ s', bigRun X ks s = some s' ∧ WalkRel X d0 lg0 s' (ks.foldl walkStep ws) := by
  intro ks
  induction ks with
  | nil => intro s ws _ _ _ rel; exact ⟨s, rfl, rel⟩
  | cons k rest ih =>
    intro s ws hlen hs hge rel
    obtain ⟨s1, e1, rel1, _, hcur⟩ := walkRel_step X d0 lg0 s ws k (hlen k (by simp)) (hge k (by simp)) rel
    have hs' := List.pairwise_cons.mp (show ((decKey k) :: rest.map decKey).Pairwise (fun p q => p.1 ≤ q.1) from hs)
    obtain ⟨s', e2, rel2⟩ := ih s1 (walkStep ws k) (fun k' hk' => hlen k' (List.mem_cons_of_mem _ hk')) hs'.2
      (fun k' hk' _ => by rw [hcur]; exact hs'.1 (decKey k') (List.mem_map.mpr ⟨k', hk', rfl⟩)) rel1
    exact ⟨s', by rw [e1 rest, e2], by simpa using rel2⟩

theorem walkRel_final (X : Ext) (d0 : BucketData) (lg0 : List PutRec) (s : BigLoopSt) (ws : WalkState)
    (rel : WalkRel X d0 lg0 s ws) :
    bucketsGet (s.fin X).bs dataName = some (valFold X d0 ws.emit) ∧ (s.fin X).lg = lg0 ++ ws.emit.map (valRec X) ∧
    (s.fin X).hp = s.hp := by
  unfold BigLoopSt.fin
  cases hbm : s.bm with
  | none =>
    have hwbm : ws.bm = none := by rw [rel.bm, hbm]; rfl
    refine ⟨?_, ?_, ?_⟩
    · simp only [Option.isSome_none, Bool.false_eq_true, if_false, WalkState.emit, hwbm]; exact rel.data
    · simp only [Option.isSome_none, Bool.false_eq_true, if_false, WalkState.emit, hwbm]; exact rel.log
    · simp
  | some a =>
    obtain ⟨_, hdata, hlog⟩ := rel.emit_some a hbm
    simp only [Option.isSome_some, if_true]
    exact ⟨hdata, hlog, rfl⟩

/-! ### the whole function -/

theorem bigRun_columns (X : Ext) : ∀ (ks : List Bytes) (s s' : BigLoopSt), bigRun X ks s = some s' → s'.hp.columns = s.hp.columns := by
  intro ks
  induction ks with
  | nil => intro s s' h; simp only [bigRun, Option.some.injEq] at h; rw [← h]
  | cons k rest ih =>
    intro s s' h
    unfold bigRun at h
    split at h
    · cases h
    · split at h
      · have := ih _ _ h
        rw [this]
        cases s.bm <;> simp [BigLoopSt.emit]
      · have := ih _ _ h
        rw [this]
        simp

/-- the data bucket of a complete file written by `Flush`: the bitmaps, then `'I'`, then `'S'` -/
def bigFileData (X : Ext) (d0 : BucketData) (vs : ValMap) (s : SchemaVal) (n : UInt32) : BucketData :=
  dataPut (dataPut (valFold X d0 vs) [73] (be32 n.toNat)) [83] (X.gobEncode s)

theorem bigRun_isSome (X : Ext) : ∀ (ks : List Bytes) (s : BigLoopSt), (bigRun X ks s).isSome = ks.all (fun k => k.length == 12) := by
  intro ks
  induction ks with
  | nil => intro s; rfl
  | cons k rest ih =>
    intro s
    unfold bigRun
    by_cases hl : k.length = 12
    · simp only [hl, ne_eq, not_true_eq_false, if_false, List.all_cons, beq_self_eq_true, Bool.true_and]
      split <;> exact ih _
    · simp [hl]

/-- **`(*BigIndexWriter).Flush` on explicit records**, by what the cursor loop (`bigRun`) does. The temporary database has
    the writer's transaction `tt` open with bucket `temp` = `d`; the output database is open and idle. The temp transaction
    is committed first. If a key has the wrong length the call returns an error after both deferred rollbacks: nothing is
    committed to the output database. Otherwise ONE transaction is committed on it: the `Put`s of the loop, the last
    bitmap, the counter `'I'`, the schema `'S'`; the call returns nil. No transaction is left open; `idx.tempTx` is nil. -/
theorem bigIndexWriterFlush_run (X : Ext) (oi on' : Nat) (oc : Buckets) (ocs : List (List PutRec))
    (ti tt tn : Nat) (tc0 tbs : Buckets) (tcs : List (List PutRec)) (tlog : List PutRec) (hp : Heap) (idx : BigIndexWriter)
    (d : BucketData) (htd : bucketsGet tbs tempName = some d)
    (hdb : idx.db = some oi) (htdb : idx.tempDB = some ti) (httx : idx.tempTx = some tt) :
    match bigRun X (d.map (·.1))
        { bs := bucketsSet oc dataName ((bucketsGet oc dataName).getD []), lg := [], hp := hp, cur := 0, bm := none } with
    | none => ∃ hp' e,
      Gen.bigIndexWriterFlush X
        { id := oi, closed := false, committed := oc, tx := none, nextTx := on', commits := ocs }
        { id := ti, closed := false, committed := tc0, tx := some { id := tt, writable := true, buckets := tbs, log := tlog },
          nextTx := tn, commits := tcs } hp idx
      = ({ id := oi, closed := false, committed := oc, tx := none, nextTx := on' + 1, commits := ocs },
         { id := ti, closed := false, committed := tbs, tx := none, nextTx := tn + 1, commits := tcs ++ [tlog] },
         hp', { idx with tempTx := none, mtx := mutexTouch idx.mtx }, some e)
    | some s' => ∀ dF, bucketsGet (s'.fin X).bs dataName = some dF → ∃ bsF,
      Gen.bigIndexWriterFlush X
        { id := oi, closed := false, committed := oc, tx := none, nextTx := on', commits := ocs }
        { id := ti, closed := false, committed := tc0, tx := some { id := tt, writable := true, buckets := tbs, log := tlog },
          nextTx := tn, commits := tcs } hp idx
      = ({ id := oi, closed := false, committed := bsF, tx := none, nextTx := on' + 1,
           commits := ocs ++ [(s'.fin X).lg ++
              [(dataName, [73], be32 idx.nextRowID.toNat), (dataName, [83], X.gobEncode (schemaValue (s'.fin X).hp idx.schema))]] },
         { id := ti, closed := false, committed := tbs, tx := none, nextTx := tn + 1, commits := tcs ++ [tlog] },
         (s'.fin X).hp, { idx with tempTx := none, mtx := mutexTouch idx.mtx }, none) ∧
      bucketsGet bsF dataName
        = some (dataPut (dataPut dF [73] (be32 idx.nextRowID.toNat)) [83] (X.gobEncode (schemaValue (s'.fin X).hp idx.schema))) := by
  have hloop := big_flush_loop X ti tn tbs (tcs ++ [tlog]) d htd oi on' oc ocs
    { mtx := mutexTouch idx.mtx, schema := idx.schema, db := some oi, tempDB := some ti, tempTx := none, nextRowID := idx.nextRowID }
    none d 0 { bs := bucketsSet oc dataName ((bucketsGet oc dataName).getD []), lg := [], hp := hp, cur := 0, bm := none }
    (d.length + 1) rfl (by omega) ⟨_, bucketsGet_set_same _ _ _⟩
  dsimp only at hloop
  have hd : ([100, 97, 116, 97] : Bytes) = dataName := rfl
  have ht : ([116, 101, 109, 112] : Bytes) = tempName := rfl
  have hk1 : Gen.keySchema = [83] := rfl
  have hk2 : Gen.keyNextRowID = [73] := rfl
  -- up to the loop
  have hro : ({ id := ti, closed := false, committed := tbs, tx := some { id := tn, writable := false, buckets := tbs, log := [] }, nextTx := tn + 1, commits := tcs ++ [tlog] } : Bolt) = roView ti tn tbs (tcs ++ [tlog]) := rfl
  have hrw : ({ id := oi, closed := false, committed := oc, tx := some { id := on', writable := true, buckets := bucketsSet oc dataName ((bucketsGet oc dataName).getD []), log := [] }, nextTx := on' + 1, commits := ocs } : Bolt)
      = rwView oi on' oc (bucketsSet oc dataName ((bucketsGet oc dataName).getD [])) ocs [] := rfl
  unfold Gen.bigIndexWriterFlush
  simp only [httx, htdb, hdb, txCommit_mk, isErr_none, Bool.false_eq_true, ↓reduceIte, verifPoint, dbBegin_mk, ht, hd,
    txBucket_ro, htd, Option.isSome_some, txCreateBucket_mk _ _ _ _ _ _ _ dataName rfl, mutexTouch_idem, hro, hrw,
    cursorFirst_ro ti tn tbs _ tempName d htd, cursorFuel_ro ti tn tbs _ tempName d htd, nilPtr]
  cases hrun : bigRun X (d.map (·.1))
      { bs := bucketsSet oc dataName ((bucketsGet oc dataName).getD []), lg := [], hp := hp, cur := 0, bm := none } with
  | none =>
    rw [hrun] at hloop
    obtain ⟨hp', e, hfw⟩ := hloop
    exact ⟨hp', e, by rw [hfw]⟩
  | some s' =>
    rw [hrun] at hloop
    obtain ⟨c', k', hfw, dd, hdd⟩ := hloop
    intro dF hdF
    rw [hfw]
    unfold BigLoopSt.fin at hdF ⊢
    cases hbm : s'.bm with
    | none =>
      rw [hbm] at hdF
      simp only [Option.isSome_none, Bool.false_eq_true, if_false] at hdF
      simp only [Option.isSome_none, Bool.false_eq_true, ↓reduceIte, putU32_full, hk1, hk2, rwView, roView,
        bucketPut_mk _ _ _ _ _ _ _ _ _ _ _ hdF (by rfl : ([73] : Bytes).isEmpty = false), isErr_none, gobEncode, List.nil_append,
        bucketPut_set _ _ _ _ _ _ _ _ _ _ _ (by rfl : ([83] : Bytes).isEmpty = false),
        txCommit_mk, txRollback_mk, nilError]
      refine ⟨bucketsSet s'.bs dataName _, ?_, bucketsGet_set_same _ _ _⟩
      simp [txRollback, txOf]
    | some a =>
      rw [hbm] at hdF
      simp only [Option.isSome_some, if_true] at hdF
      have e1 : bucketsSet s'.bs dataName (dataPut dd (vKey s'.cur) (X.roaringToBytes (bitmapAt s'.hp (some a)))) = (s'.emit X).bs := by
        simp [BigLoopSt.emit, hdd, hbm]
      have e2 : s'.lg ++ [(dataName, vKey s'.cur, X.roaringToBytes (bitmapAt s'.hp (some a)))] = (s'.emit X).lg := by
        simp [BigLoopSt.emit, hbm]
      simp only [Option.isSome_some, ↓reduceIte, vKey_put, bitmapRunOptimize, bitmapToBytes, isErr_none, Bool.false_eq_true,
        rwView, roView, bucketPut_mk _ _ _ _ _ _ _ _ _ _ dd hdd (vKey_nonempty _), e1, e2]
      simp only [putU32_full, hk1, hk2,
        bucketPut_mk _ _ _ _ _ _ _ _ _ _ _ hdF (by rfl : ([73] : Bytes).isEmpty = false), isErr_none, gobEncode, List.nil_append,
        bucketPut_set _ _ _ _ _ _ _ _ _ _ _ (by rfl : ([83] : Bytes).isEmpty = false),
        txCommit_mk, txRollback_mk, nilError, Bool.false_eq_true, ↓reduceIte]
      refine ⟨bucketsSet (s'.emit X).bs dataName _, ?_, bucketsGet_set_same _ _ _⟩
      simp [txRollback, txOf, BigLoopSt.emit]

/-- **`Flush` with all temp keys of length 12, value indexes not decreasing in cursor order**: the committed transaction
    holds, in program order, the bitmaps of the model's `walk` over the keys, then the counter, then the schema -/
theorem bigIndexWriterFlush_spec (X : Ext) (oi on' : Nat) (oc : Buckets) (ocs : List (List PutRec))
    (ti tt tn : Nat) (tc0 tbs : Buckets) (tcs : List (List PutRec)) (tlog : List PutRec) (hp : Heap) (idx : BigIndexWriter)
    (d : BucketData) (htd : bucketsGet tbs tempName = some d)
    (hdb : idx.db = some oi) (htdb : idx.tempDB = some ti) (httx : idx.tempTx = some tt)
    (hlen : ∀ k ∈ d.map (·.1), k.length = 12)
    (hsorted : ((d.map (·.1)).map decKey).Pairwise (fun p q => p.1 ≤ q.1)) :
    ∃ bsF hp',
      Gen.bigIndexWriterFlush X
        { id := oi, closed := false, committed := oc, tx := none, nextTx := on', commits := ocs }
        { id := ti, closed := false, committed := tc0, tx := some { id := tt, writable := true, buckets := tbs, log := tlog },
          nextTx := tn, commits := tcs } hp idx
      = ({ id := oi, closed := false, committed := bsF, tx := none, nextTx := on' + 1,
           commits := ocs ++ [(walk (d.map (·.1))).map (valRec X) ++
              [(dataName, [73], be32 idx.nextRowID.toNat), (dataName, [83], X.gobEncode (schemaValue hp idx.schema))]] },
         { id := ti, closed := false, committed := tbs, tx := none, nextTx := tn + 1, commits := tcs ++ [tlog] },
         hp', { idx with tempTx := none, mtx := mutexTouch idx.mtx }, none) ∧
      bucketsGet bsF dataName = some (bigFileData X ((bucketsGet oc dataName).getD []) (walk (d.map (·.1)))
        (schemaValue hp idx.schema) idx.nextRowID) ∧
      hp'.columns = hp.columns := by
  have rel0 : WalkRel X ((bucketsGet oc dataName).getD []) []
      { bs := bucketsSet oc dataName ((bucketsGet oc dataName).getD []), lg := [], hp := hp, cur := 0, bm := none } {} :=
    ⟨rfl, rfl, (fun a h => by cases h), bucketsGet_set_same _ _ _, rfl, (fun kb h => by cases h), fun _ => rfl⟩
  obtain ⟨s', hrun, rel⟩ := bigRun_walk X _ [] (d.map (·.1)) _ {} hlen hsorted (fun k _ h => by cases h) rel0
  obtain ⟨f1, f2, f3⟩ := walkRel_final X _ [] s' _ rel
  have hrun' := bigIndexWriterFlush_run X oi on' oc ocs ti tt tn tc0 tbs tcs tlog hp idx d htd hdb htdb httx
  rw [hrun] at hrun'
  obtain ⟨bsF, e, g⟩ := hrun' _ f1
  have hcols : (s'.fin X).hp.columns = hp.columns := (congrArg Heap.columns f3).trans (bigRun_columns X _ _ _ hrun)
  rw [schemaValue_of_columns hcols] at e g
  exact ⟨bsF, _, by rw [e, show (s'.fin X).lg = _ from f2]; rfl, g, hcols⟩

/-- **`Flush` with a temp key of the wrong length**: `(… , err)` with `err != nil`; the temp transaction was committed, but
    the output database is exactly as before (the deferred `tx.Rollback()`): nothing committed, no transaction open. -/
theorem bigIndexWriterFlush_badkey_spec (X : Ext) (oi on' : Nat) (oc : Buckets) (ocs : List (List PutRec))
    (ti tt tn : Nat) (tc0 tbs : Buckets) (tcs : List (List PutRec)) (tlog : List PutRec) (hp : Heap) (idx : BigIndexWriter)
    (d : BucketData) (htd : bucketsGet tbs tempName = some d)
    (hdb : idx.db = some oi) (htdb : idx.tempDB = some ti) (httx : idx.tempTx = some tt)
    (hbad : (d.map (·.1)).all (fun k => k.length == 12) = false) :
    ∃ hp' e,
      Gen.bigIndexWriterFlush X
        { id := oi, closed := false, committed := oc, tx := none, nextTx := on', commits := ocs }
        { id := ti, closed := false, committed := tc0, tx := some { id := tt, writable := true, buckets := tbs, log := tlog },
          nextTx := tn, commits := tcs } hp idx
      = ({ id := oi, closed := false, committed := oc, tx := none, nextTx := on' + 1, commits := ocs },
         { id := ti, closed := false, committed := tbs, tx := none, nextTx := tn + 1, commits := tcs ++ [tlog] },
         hp', { idx with tempTx := none, mtx := mutexTouch idx.mtx }, some e) := by
  have hrun := bigIndexWriterFlush_run X oi on' oc ocs ti tt tn tc0 tbs tcs tlog hp idx d htd hdb htdb httx
  have hnone := bigRun_isSome X (d.map (·.1))
    { bs := bucketsSet oc dataName ((bucketsGet oc dataName).getD []), lg := [], hp := hp, cur := 0, bm := none }
  rw [hbad] at hnone
  cases h : bigRun X (d.map (·.1))
      { bs := bucketsSet oc dataName ((bucketsGet oc dataName).getD []), lg := [], hp := hp, cur := 0, bm := none } with
  | none => rw [h] at hrun; exact hrun
  | some x => rw [h] at hnone; cases hnone

/-! ### bbolt's key order gives the walk its groups -/

theorem decKey_sorted (d : BucketData) (hs : SortedData d) (hl : ∀ k ∈ d.map (·.1), k.length = 12) :
    ((d.map (·.1)).map decKey).Pairwise (fun p q => p.1 ≤ q.1) := by
  rw [List.pairwise_map, List.pairwise_map]
  refine List.Pairwise.imp_of_mem ?_ hs
  intro a b ha hb hlt
  have la : a.1.length = 12 := hl a.1 (List.mem_map.mpr ⟨a, ha, rfl⟩)
  have lb : b.1.length = 12 := hl b.1 (List.mem_map.mpr ⟨b, hb, rfl⟩)
  rw [bytesLt_eq_decode_lt a.1 b.1 (by rw [la, lb])] at hlt
  have hlt' : beDecode a.1 < beDecode b.1 := by simpa using hlt
  have split : ∀ k : Bytes, k.length = 12 → beDecode k = beDecode (k.take 8) * 4294967296 + beDecode (k.drop 8) ∧ beDecode (k.drop 8) < 4294967296 := by
    intro k hk
    have h1 : beDecode k = beDecode (k.take 8 ++ k.drop 8) := by rw [List.take_append_drop]
    have h2 : (k.drop 8).length = 4 := by simp [hk]
    have h3 := beDecode_lt (k.drop 8)
    rw [h2] at h3
    rw [h1, beDecode_append, h2]
    exact ⟨rfl, h3⟩
  obtain ⟨ea, ra⟩ := split a.1 la
  obtain ⟨eb, rb⟩ := split b.1 lb
  show beDecode (a.1.take 8) ≤ beDecode (b.1.take 8)
  omega

/-! ### NewBigIndexWriter, Close -/

/-- **`NewBigIndexWriter(db, tempDB)` on an open, idle temporary database**: one committed transaction that creates the
    bucket `temp` if it is absent (an existing bucket keeps its keys), then the writer's first write transaction is
    opened and stored in `tempTx`. The output database is not touched. -/
theorem newBigIndexWriter_spec (ti tn : Nat) (tc : Buckets) (tcs : List (List PutRec)) (db : DBRef) :
    Gen.newBigIndexWriter { id := ti, closed := false, committed := tc, tx := none, nextTx := tn, commits := tcs } db (some ti)
      = ({ id := ti, closed := false,
           committed := bucketsSet tc tempName ((bucketsGet tc tempName).getD []),
           tx := some { id := tn + 1, writable := true,
                        buckets := bucketsSet tc tempName ((bucketsGet tc tempName).getD []), log := [] },
           nextTx := tn + 2, commits := tcs ++ [[]] },
         some { db := db, tempDB := some ti, tempTx := some (tn + 1) }, none) := by
  have ht : ([116, 101, 109, 112] : Bytes) = tempName := rfl
  unfold Gen.newBigIndexWriter
  simp only [dbUpdate, dbBegin_mk, ht, txCreateBucket_mk _ _ _ _ _ _ _ tempName rfl, txCommit_mk, isErr_none,
    Bool.false_eq_true, if_false, nilError]
  rfl

/-- `NewBigIndexWriter` on a temporary database that is closed (or another handle): `(nil, err)`, nothing changed -/
theorem newBigIndexWriter_closed (tb : Bolt) (db tempDB : DBRef) (h : dbIs tb tempDB = false) :
    Gen.newBigIndexWriter tb db tempDB = (tb, none, errClosed) := by
  unfold Gen.newBigIndexWriter
  simp [dbUpdate, dbBegin, h, errClosed, isErr]

/-- **`Close` with the temp transaction open**: `tempTx.Rollback()` — the pending `Put`s are dropped, what was committed
    stays — `tempTx = nil`, the mutex is released, the result is nil -/
theorem bigIndexWriterClose_spec (ti tt tn : Nat) (tc tbs : Buckets) (tcs : List (List PutRec)) (tlog : List PutRec)
    (w : Bool) (idx : BigIndexWriter) (htx : idx.tempTx = some tt) :
    Gen.bigIndexWriterClose
      { id := ti, closed := false, committed := tc, tx := some { id := tt, writable := w, buckets := tbs, log := tlog }, nextTx := tn, commits := tcs } idx
      = ({ id := ti, closed := false, committed := tc, tx := none, nextTx := tn, commits := tcs },
         { idx with tempTx := none, mtx := mutexUnlock (mutexLock idx.mtx) }, none) := by
  unfold Gen.bigIndexWriterClose
  simp [htx, txRollback_mk, mutexTouch_mutexLock]

/-- **`Close` after `Close` or after `Flush`** (`tempTx == nil`): nil, nothing happens to the database -/
theorem bigIndexWriterClose_nil (tb : Bolt) (idx : BigIndexWriter) (htx : idx.tempTx = none) :
    Gen.bigIndexWriterClose tb idx = (tb, { idx with mtx := mutexUnlock (mutexLock idx.mtx) }, nilError) := by
  unfold Gen.bigIndexWriterClose
  simp [htx, mutexTouch_mutexLock]

/-! ### in terms of `BigReady` -/

theorem sortKeys_sorted (d : BucketData) (hs : SortedData d) : sortKeys (d.map (·.1)) = d.map (·.1) := by
  unfold sortKeys
  apply List.mergeSort_of_pairwise
  rw [List.pairwise_map]
  refine List.Pairwise.imp ?_ hs
  intro a b h
  unfold bytesLe
  have := Updog.bytesLt_asymm h
  rw [this]
  rfl

theorem keys_nodup (d : BucketData) (hs : SortedData d) : (d.map (·.1)).Nodup := by
  unfold List.Nodup
  rw [List.pairwise_map]
  refine List.Pairwise.imp ?_ hs
  intro a b h
  exact bytesLt_ne h

/-- what the reader finds in a complete file `Flush` wrote into an empty bucket -/
theorem bigFileData_spec (X : Ext) (vs : ValMap) (hn : KeysNodup vs) (s : SchemaVal) (n : UInt32) :
    SortedData (bigFileData X [] vs s n) ∧ WellKeyed (bigFileData X [] vs s n) ∧
    dataGet (bigFileData X [] vs s n) [83] = some (X.gobEncode s) ∧
    dataGet (bigFileData X [] vs s n) [73] = some (be32 n.toNat) ∧
    ∀ h, dataGet (bigFileData X [] vs s n) (86 :: be64 h.toNat) = (vs.get h).map X.roaringToBytes :=
  have h := headerData_spec X vs hn [73] [83] (be32 n.toNat) (X.gobEncode s) rfl rfl (by decide)
  ⟨h.1, h.2.1, h.2.2.2.1, h.2.2.1, h.2.2.2.2⟩

/-- `bigIndexWriterFlush_spec` for any temporary database in the state `BigReady` and any open, idle output database -/
theorem bigIndexWriterFlush_ready (X : Ext) (bolt tbolt : Bolt) (hp : Heap) (idx : BigIndexWriter) (d : BucketData)
    (hr : BigReady tbolt idx d) (ho : bolt.closed = false) (hnotx : bolt.tx = none) (hdb : idx.db = some bolt.id)
    (hl : ∀ k ∈ d.map (·.1), k.length = 12) (hs : SortedData d) :
    let r := Gen.bigIndexWriterFlush X bolt tbolt hp idx
    r.2.2.2.2 = none ∧
    r.1.commits = bolt.commits ++ [(walk (d.map (·.1))).map (valRec X) ++
        [(dataName, [73], be32 idx.nextRowID.toNat), (dataName, [83], X.gobEncode (schemaValue hp idx.schema))]] ∧
    r.1.tx = none ∧ r.1.closed = false ∧ r.1.id = bolt.id ∧
    bucketsGet r.1.committed dataName = some (bigFileData X ((bucketsGet bolt.committed dataName).getD []) (walk (d.map (·.1)))
        (schemaValue hp idx.schema) idx.nextRowID) ∧
    r.2.1.tx = none ∧ r.2.1.closed = false ∧ r.2.1.id = tbolt.id ∧ bucketsGet r.2.1.committed tempName = some d ∧
    r.2.1.commits.length = tbolt.commits.length + 1 ∧
    r.2.2.2.1 = { idx with tempTx := none, mtx := mutexTouch idx.mtx } ∧ r.2.2.1.columns = hp.columns := by
  obtain ⟨h1, h2, t, h3, h4, h5, h6⟩ := hr
  obtain ⟨ti, tclosed, tc0, ttx, tn, tcs⟩ := tbolt
  obtain ⟨tt, twr, tbs, tlog⟩ := t
  obtain ⟨oi, oclosed, oc, otx, on', ocs⟩ := bolt
  simp only at h1 h2 h3 h4 h5 h6 ho hnotx hdb
  subst h1 h3 h5 ho hnotx
  obtain ⟨bsF, hp', e, g, hc⟩ := bigIndexWriterFlush_spec X oi on' oc ocs ti tt tn tc0 tbs tcs tlog hp idx d h6 hdb h2 h4 hl
    (decKey_sorted d hs hl)
  intro r
  have hr : r = _ := e
  rw [hr]
  refine ⟨rfl, rfl, rfl, rfl, rfl, g, rfl, rfl, rfl, h6, ?_, rfl, hc⟩
  simp

/-- … and with a key of the wrong length in the temp bucket -/
theorem bigIndexWriterFlush_ready_badkey (X : Ext) (bolt tbolt : Bolt) (hp : Heap) (idx : BigIndexWriter) (d : BucketData)
    (hr : BigReady tbolt idx d) (ho : bolt.closed = false) (hnotx : bolt.tx = none) (hdb : idx.db = some bolt.id)
    (hbad : (d.map (·.1)).all (fun k => k.length == 12) = false) :
    let r := Gen.bigIndexWriterFlush X bolt tbolt hp idx
    isErr r.2.2.2.2 = true ∧ r.1.commits = bolt.commits ∧ r.1.committed = bolt.committed ∧ r.1.tx = none ∧ r.1.closed = false ∧
    r.2.1.tx = none ∧ bucketsGet r.2.1.committed tempName = some d := by
  obtain ⟨h1, h2, t, h3, h4, h5, h6⟩ := hr
  obtain ⟨ti, tclosed, tc0, ttx, tn, tcs⟩ := tbolt
  obtain ⟨tt, twr, tbs, tlog⟩ := t
  obtain ⟨oi, oclosed, oc, otx, on', ocs⟩ := bolt
  simp only at h1 h2 h3 h4 h5 h6 ho hnotx hdb
  subst h1 h3 h5 ho hnotx
  obtain ⟨hp', e, he⟩ := bigIndexWriterFlush_badkey_spec X oi on' oc ocs ti tt tn tc0 tbs tcs tlog hp idx d h6 hdb h2 h4 hbad
  intro r
  have hr : r = _ := he
  rw [hr]
  exact ⟨rfl, rfl, rfl, rfl, rfl, rfl, h6⟩

end Updog.GeneratedEq
