/-
Lemmas about the primitives of Updog/Basic/GoPreludeT3.lean: Go maps as association lists, the heap of bitmaps and
columns and how they relate to the association lists of the hand-written model (`Schema`, `ValMap`); loops with early
return; the bbolt store on explicit records; the big-endian coders.
-/
import Updog.Basic.GoPreludeT3
import Updog.Model.Index
import Updog.Proofs.BigWriter
namespace Updog.Go.T3

/-! ### mutexes -/

theorem mutexLock_held (m : Mutex) : (mutexLock m).held = true := by
  unfold mutexLock; cases m.held <;> simp

theorem mutexTouch_of_held (m : Mutex) (h : m.held = true) : mutexTouch m = m := by
  simp [mutexTouch, h]

@[simp] theorem mutexTouch_mutexLock (m : Mutex) : mutexTouch (mutexLock m) = mutexLock m :=
  mutexTouch_of_held _ (mutexLock_held m)

theorem mutexTouch_held (m : Mutex) : (mutexTouch m).held = m.held := by
  unfold mutexTouch; cases h : m.held <;> simp [h]

theorem mutexTouch_idem (m : Mutex) : mutexTouch (mutexTouch m) = mutexTouch m := by
  unfold mutexTouch
  cases h : m.held <;> simp [h]

theorem mutex_lock_unlock_free : mutexUnlock (mutexLock ({} : Mutex)) = {} := rfl

/-! ### Go maps -/

section maps
variable {κ ν : Type} [BEq κ]

theorem mapLookup_miss (m : GoMap κ ν) (k : κ) (z : ν) (h : ∀ kp ∈ m, (kp.1 == k) = false) :
    mapLookup m k z = (z, false) := by
  induction m with
  | nil => rfl
  | cons kp rest ih =>
    obtain ⟨k', v⟩ := kp
    have h1 : (k' == k) = false := h (k', v) (by simp)
    simp only [mapLookup, h1, Bool.false_eq_true, if_false]
    exact ih (fun q hq => h q (List.mem_cons_of_mem _ hq))

theorem mapSet_miss (m : GoMap κ ν) (k : κ) (v : ν) (h : ∀ kp ∈ m, (kp.1 == k) = false) :
    mapSet m k v = m ++ [(k, v)] := by
  induction m with
  | nil => rfl
  | cons kp rest ih =>
    obtain ⟨k', v'⟩ := kp
    have h1 : (k' == k) = false := h (k', v') (by simp)
    simp only [mapSet, h1, Bool.false_eq_true, if_false, List.cons_append]
    rw [ih (fun q hq => h q (List.mem_cons_of_mem _ hq))]

theorem mapLookup_hit (m1 m2 : GoMap κ ν) (k' k : κ) (p z : ν) (h1 : ∀ kp ∈ m1, (kp.1 == k) = false)
    (hk : (k' == k) = true) : mapLookup (m1 ++ (k', p) :: m2) k z = (p, true) := by
  induction m1 with
  | nil => simp [mapLookup, hk]
  | cons kp rest ih =>
    obtain ⟨k'', v⟩ := kp
    have h2 : (k'' == k) = false := h1 (k'', v) (by simp)
    simp only [List.cons_append, mapLookup, h2, Bool.false_eq_true, if_false]
    exact ih (fun q hq => h1 q (List.mem_cons_of_mem _ hq))

theorem map_split (m : GoMap κ ν) (k : κ) :
    (∀ kp ∈ m, (kp.1 == k) = false) ∨
    ∃ m1 k' p m2, m = m1 ++ (k', p) :: m2 ∧ (∀ kp ∈ m1, (kp.1 == k) = false) ∧ (k' == k) = true := by
  induction m with
  | nil => left; simp
  | cons kp rest ih =>
    obtain ⟨k', v⟩ := kp
    by_cases hk : (k' == k) = true
    · right; exact ⟨[], k', v, rest, rfl, by simp, hk⟩
    · have hk' : (k' == k) = false := by simpa using hk
      rcases ih with h | ⟨m1, k'', p, m2, e, h1, h2⟩
      · left
        intro q hq
        rcases List.mem_cons.mp hq with rfl | hq
        · exact hk'
        · exact h q hq
      · right
        refine ⟨(k', v) :: m1, k'', p, m2, by rw [e]; rfl, ?_, h2⟩
        intro q hq
        rcases List.mem_cons.mp hq with rfl | hq
        · exact hk'
        · exact h1 q hq

theorem mapLookup_snd (m : GoMap κ ν) (k : κ) (z : ν) : (mapLookup m k z).2 = m.any (fun kp => kp.1 == k) := by
  induction m with
  | nil => rfl
  | cons kp rest ih =>
    obtain ⟨k', v⟩ := kp
    by_cases hk : (k' == k) = true
    · simp [mapLookup, hk]
    · have hk' : (k' == k) = false := by simpa using hk
      simp [mapLookup, hk', ih]

theorem mapLookup_mem (m : GoMap κ ν) (k : κ) (z : ν) (h : (mapLookup m k z).2 = true) :
    ∃ k', (k', (mapLookup m k z).1) ∈ m ∧ (k' == k) = true := by
  induction m with
  | nil => simp [mapLookup] at h
  | cons kp rest ih =>
    obtain ⟨k', v⟩ := kp
    by_cases hk : (k' == k) = true
    · exact ⟨k', by simp [mapLookup, hk], hk⟩
    · have hk' : (k' == k) = false := by simpa using hk
      simp only [mapLookup, hk', Bool.false_eq_true, if_false] at h ⊢
      obtain ⟨k'', hm, hk''⟩ := ih h
      exact ⟨k'', List.mem_cons_of_mem _ hm, hk''⟩

theorem mem_mapSet (m : GoMap κ ν) (k : κ) (v : ν) (kp : κ × ν) (h : kp ∈ mapSet m k v) : kp.2 = v ∨ kp ∈ m := by
  induction m with
  | nil => exact .inl (by simpa [mapSet] using congrArg Prod.snd (List.mem_singleton.mp h))
  | cons q rest ih =>
    obtain ⟨k', v'⟩ := q
    unfold mapSet at h
    split at h
    · rcases List.mem_cons.mp h with rfl | h
      · exact .inl rfl
      · exact .inr (List.mem_cons_of_mem _ h)
    · rcases List.mem_cons.mp h with rfl | h
      · exact .inr List.mem_cons_self
      · exact (ih h).imp_right (List.mem_cons_of_mem _)

theorem mapGet_mapSet [LawfulBEq κ] (m : GoMap κ ν) (k h : κ) (v z : ν) :
    mapGet (mapSet m k v) h z = if h == k then v else mapGet m h z := by
  unfold mapGet
  induction m with
  | nil =>
    cases hk : (h == k) with
    | true => rw [eq_of_beq hk]; simp [mapSet, mapLookup]
    | false => simp [mapSet, mapLookup, show (k == h) = false by rw [Bool.eq_false_iff, Ne, beq_iff_eq] at hk ⊢; exact fun e => hk e.symm]
  | cons q rest ih =>
    obtain ⟨k', v'⟩ := q
    cases hk' : (k' == k) with
    | true =>
      rw [eq_of_beq hk']
      cases hh : (k == h) with
      | true => simp [mapSet, mapLookup, hh, show (h == k) = true by rw [eq_of_beq hh]; exact beq_self_eq_true _]
      | false => simp [mapSet, mapLookup, hh, show (h == k) = false by rw [Bool.eq_false_iff, Ne, beq_iff_eq] at hh ⊢; exact fun e => hh e.symm]
    | false =>
      simp only [mapSet, hk', Bool.false_eq_true, if_false, mapLookup]
      cases hh : (k' == h) with
      | true =>
        have : (h == k) = false := by rw [← eq_of_beq hh]; exact hk'
        simp [this]
      | false => simpa using ih

theorem mapGet_mem_or (m : GoMap κ (Option Nat)) (h : κ) (z : Option Nat) :
    mapGet m h z = z ∨ ∃ kp ∈ m, kp.2 = mapGet m h z := by
  unfold mapGet
  induction m with
  | nil => exact .inl rfl
  | cons q rest ih =>
    obtain ⟨k', v'⟩ := q
    cases hk : (k' == h) with
    | true => exact .inr ⟨(k', v'), List.mem_cons_self, by simp [mapLookup, hk]⟩
    | false =>
      simp only [mapLookup, hk, Bool.false_eq_true, if_false]
      exact ih.imp_right fun ⟨kp, hkp, e⟩ => ⟨kp, List.mem_cons_of_mem _ hkp, e⟩

end maps

/-! ### the model's association lists -/

theorem schemaAdd_miss (s : Schema) (k v : Bytes) (h : UInt64) (hm : ∀ cv ∈ s, (cv.1 == k) = false) :
    s.add k v h = s ++ [(k, [(v, h)])] := by
  induction s with
  | nil => rfl
  | cons cv rest ih =>
    obtain ⟨k', vs⟩ := cv
    have h1 : (k' == k) = false := hm (k', vs) (by simp)
    simp only [Schema.add, h1, Bool.false_eq_true, if_false, List.cons_append]
    rw [ih (fun q hq => hm q (List.mem_cons_of_mem _ hq))]

theorem schemaAdd_hit (s1 s2 : Schema) (k' k v : Bytes) (vs : List (Bytes × UInt64)) (h : UInt64)
    (h1 : ∀ cv ∈ s1, (cv.1 == k) = false) (hk : (k' == k) = true) :
    Schema.add (s1 ++ (k', vs) :: s2) k v h = s1 ++ (k', addVal vs v h) :: s2 := by
  induction s1 with
  | nil => simp [Schema.add, hk]
  | cons cv rest ih =>
    obtain ⟨k'', vs'⟩ := cv
    have h2 : (k'' == k) = false := h1 (k'', vs') (by simp)
    simp only [List.cons_append, Schema.add, h2, Bool.false_eq_true, if_false]
    rw [ih (fun q hq => h1 q (List.mem_cons_of_mem _ hq))]

theorem addBit_miss (m : ValMap) (h : UInt64) (i : Nat) (hm : ∀ kb ∈ m, (kb.1 == h) = false) :
    m.addBit h i = m ++ [(h, setBit 0 i)] := by
  induction m with
  | nil => rfl
  | cons kb rest ih =>
    obtain ⟨k', b⟩ := kb
    have h1 : (k' == h) = false := hm (k', b) (by simp)
    simp only [ValMap.addBit, h1, Bool.false_eq_true, if_false, List.cons_append]
    rw [ih (fun q hq => hm q (List.mem_cons_of_mem _ hq))]

theorem addBit_hit (m1 m2 : ValMap) (k' h : UInt64) (b i : Nat)
    (h1 : ∀ kb ∈ m1, (kb.1 == h) = false) (hk : (k' == h) = true) :
    ValMap.addBit (m1 ++ (k', b) :: m2) h i = m1 ++ (k', setBit b i) :: m2 := by
  induction m1 with
  | nil => simp [ValMap.addBit, hk]
  | cons kb rest ih =>
    obtain ⟨k'', b'⟩ := kb
    have h2 : (k'' == h) = false := h1 (k'', b') (by simp)
    simp only [List.cons_append, ValMap.addBit, h2, Bool.false_eq_true, if_false]
    rw [ih (fun q hq => h1 q (List.mem_cons_of_mem _ hq))]

theorem addVal_eq (vs : List (Bytes × UInt64)) (v : Bytes) (h : UInt64) :
    addVal vs v h = if (mapLookup vs v (0 : UInt64)).2 then vs else mapSet vs v h := by
  rw [mapLookup_snd]
  unfold addVal
  by_cases ha : (vs.any fun x => x.1 == v) = true
  · simp [ha]
  · have hm : ∀ kp ∈ vs, (kp.1 == v) = false := by
      intro kp hkp
      by_cases hk : (kp.1 == v) = true
      · exact absurd (List.any_eq_true.mpr ⟨kp, hkp, hk⟩) ha
      · simpa using hk
    rw [if_neg ha, if_neg ha, mapSet_miss _ _ _ hm]

theorem bitSet_eq (b i : Nat) : bitSet b i = setBit b i := rfl

/-! ### pointers -/

/-- a list of pointers into an arena of size `n`: all valid, no two equal -/
def PtrsOK (n : Nat) (ps : List Ptr) : Prop := ps.Nodup ∧ ∀ p ∈ ps, ∃ a, p = some a ∧ a < n

theorem PtrsOK.nil (n : Nat) : PtrsOK n [] := ⟨List.nodup_nil, by simp⟩

theorem PtrsOK.mono {n m : Nat} {ps : List Ptr} (h : PtrsOK n ps) (hnm : n ≤ m) : PtrsOK m ps :=
  ⟨h.1, fun p hp => by obtain ⟨a, e, ha⟩ := h.2 p hp; exact ⟨a, e, by omega⟩⟩

theorem PtrsOK.snoc {n : Nat} {ps : List Ptr} (h : PtrsOK n ps) : PtrsOK (n + 1) (ps ++ [some n]) := by
  refine ⟨?_, ?_⟩
  · rw [List.nodup_append]
    refine ⟨h.1, by simp, ?_⟩
    intro a ha b hb
    simp only [List.mem_singleton] at hb
    subst hb
    obtain ⟨x, e, hx⟩ := h.2 a ha
    intro e'; rw [e] at e'; injection e' with e'; omega
  · intro p hp
    rcases List.mem_append.mp hp with hp | hp
    · obtain ⟨a, e, ha⟩ := h.2 p hp; exact ⟨a, e, by omega⟩
    · simp only [List.mem_singleton] at hp; exact ⟨n, hp, by omega⟩

/-- the bitmaps of a value map -/
def absVals (hp : Heap) (m : GoMap UInt64 Ptr) : ValMap := m.map fun kp => (kp.1, bitmapAt hp kp.2)

theorem schemaValue_eq (hp : Heap) (s : SchemaObj) :
    schemaValue hp s = s.Columns.map fun kp => (kp.1, (columnAt hp kp.2).Values) := rfl

theorem absVals_append (hp : Heap) (a b : GoMap UInt64 Ptr) : absVals hp (a ++ b) = absVals hp a ++ absVals hp b := by
  simp [absVals]

theorem absVals_congr (hp hp' : Heap) (m : GoMap UInt64 Ptr)
    (h : ∀ kp ∈ m, bitmapAt hp' kp.2 = bitmapAt hp kp.2) : absVals hp' m = absVals hp m := by
  unfold absVals
  apply List.map_congr_left
  intro kp hkp
  rw [h kp hkp]

theorem cols_congr (hp hp' : Heap) (m : GoMap Bytes Ptr)
    (h : ∀ kp ∈ m, columnAt hp' kp.2 = columnAt hp kp.2) :
    (m.map fun kp => (kp.1, (columnAt hp' kp.2).Values)) = m.map fun kp => (kp.1, (columnAt hp kp.2).Values) := by
  apply List.map_congr_left
  intro kp hkp
  rw [h kp hkp]

/-- the heap after `&column{…}` -/
def allocCol (hp : Heap) (c : Column) : Heap := { hp with columns := hp.columns ++ [c] }
/-- the heap after `roaring.New()` -/
def allocBm (hp : Heap) : Heap := { hp with bitmaps := hp.bitmaps ++ [0] }

theorem newColumn_eq (hp : Heap) (c : Column) : newColumn hp c = (allocCol hp c, some hp.columns.length) := rfl
theorem roaringNew_eq (hp : Heap) : roaringNew hp = (allocBm hp, some hp.bitmaps.length) := rfl

@[simp] theorem allocCol_bitmaps (hp : Heap) (c : Column) : (allocCol hp c).bitmaps = hp.bitmaps := rfl
@[simp] theorem allocCol_length (hp : Heap) (c : Column) : (allocCol hp c).columns.length = hp.columns.length + 1 := by
  simp [allocCol]
@[simp] theorem allocBm_columns (hp : Heap) : (allocBm hp).columns = hp.columns := rfl
@[simp] theorem allocBm_length (hp : Heap) : (allocBm hp).bitmaps.length = hp.bitmaps.length + 1 := by
  simp [allocBm]
@[simp] theorem columnSet_bitmaps (hp : Heap) (p : Ptr) (c : Column) : (columnSet hp p c).bitmaps = hp.bitmaps := by
  cases p <;> rfl
@[simp] theorem columnSet_length (hp : Heap) (p : Ptr) (c : Column) : (columnSet hp p c).columns.length = hp.columns.length := by
  cases p <;> simp [columnSet]
@[simp] theorem bitmapAdd_columns (hp : Heap) (p : Ptr) (x : UInt32) : (bitmapAdd hp p x).columns = hp.columns := by
  cases p <;> rfl
@[simp] theorem bitmapAdd_length (hp : Heap) (p : Ptr) (x : UInt32) : (bitmapAdd hp p x).bitmaps.length = hp.bitmaps.length := by
  cases p <;> simp [bitmapAdd]

theorem columnAt_allocCol (hp : Heap) (x : Column) (p : Ptr) (c : Nat) (hp' : p = some c) (hc : c < hp.columns.length) :
    columnAt (allocCol hp x) p = columnAt hp p := by
  subst hp'
  simp [columnAt, allocCol, List.getD_eq_getElem?_getD, List.getElem?_append_left hc]

theorem columnAt_allocCol_new (hp : Heap) (x : Column) : columnAt (allocCol hp x) (some hp.columns.length) = x := by
  simp [columnAt, allocCol, List.getD_eq_getElem?_getD]

theorem columnAt_columnSet_same (hp : Heap) (a : Nat) (c : Column) (h : a < hp.columns.length) :
    columnAt (columnSet hp (some a) c) (some a) = c := by
  simp [columnAt, columnSet, List.getD_eq_getElem?_getD, h]

theorem columnAt_columnSet_other (hp : Heap) (a : Nat) (c : Column) (p : Ptr) (h : p ≠ some a) :
    columnAt (columnSet hp (some a) c) p = columnAt hp p := by
  cases p with
  | none => rfl
  | some d =>
    have : a ≠ d := fun e => h (by rw [e])
    simp [columnAt, columnSet, List.getD_eq_getElem?_getD, List.getElem?_set_ne this]

theorem bitmapAt_allocBm (hp : Heap) (p : Ptr) (c : Nat) (hp' : p = some c) (hc : c < hp.bitmaps.length) :
    bitmapAt (allocBm hp) p = bitmapAt hp p := by
  subst hp'
  simp [bitmapAt, allocBm, List.getD_eq_getElem?_getD, List.getElem?_append_left hc]

theorem bitmapAt_allocBm_new (hp : Heap) : bitmapAt (allocBm hp) (some hp.bitmaps.length) = 0 := by
  simp [bitmapAt, allocBm, List.getD_eq_getElem?_getD]

theorem bitmapAt_bitmapAdd_same (hp : Heap) (a : Nat) (x : UInt32) (h : a < hp.bitmaps.length) :
    bitmapAt (bitmapAdd hp (some a) x) (some a) = setBit (bitmapAt hp (some a)) x.toNat := by
  simp [bitmapAt, bitmapAdd, List.getD_eq_getElem?_getD, h, bitSet_eq]

theorem bitmapAt_bitmapAdd_other (hp : Heap) (a : Nat) (x : UInt32) (p : Ptr) (h : p ≠ some a) :
    bitmapAt (bitmapAdd hp (some a) x) p = bitmapAt hp p := by
  cases p with
  | none => rfl
  | some d =>
    have : a ≠ d := fun e => h (by rw [e])
    simp [bitmapAt, bitmapAdd, List.getD_eq_getElem?_getD, List.getElem?_set_ne this]

theorem columnAt_allocBm (hp : Heap) (p : Ptr) : columnAt (allocBm hp) p = columnAt hp p := rfl
theorem columnAt_bitmapAdd (hp : Heap) (q : Ptr) (x : UInt32) (p : Ptr) : columnAt (bitmapAdd hp q x) p = columnAt hp p := by
  cases q <;> rfl
theorem bitmapAt_allocCol (hp : Heap) (c : Column) (p : Ptr) : bitmapAt (allocCol hp c) p = bitmapAt hp p := rfl
theorem bitmapAt_columnSet (hp : Heap) (q : Ptr) (c : Column) (p : Ptr) : bitmapAt (columnSet hp q c) p = bitmapAt hp p := by
  cases q <;> rfl

/-! ### loops -/

theorem forRange_next {ρ α ε : Type} (Inv : List ε → α → Prop) (body : α → ε → Ctl ρ α) (xs : List ε) (init : α)
    (h0 : Inv [] init)
    (hstep : ∀ done x a, Inv done a → ∃ a', body a x = .next a' ∧ Inv (done ++ [x]) a') :
    ∃ a', forRange xs init body = .next a' ∧ Inv xs a' := by
  suffices h : ∀ (done : List ε) (a : α), Inv done a → ∃ a', forRange xs a body = .next a' ∧ Inv (done ++ xs) a' by
    simpa using h [] init h0
  induction xs with
  | nil => intro done a ha; exact ⟨a, rfl, by simpa using ha⟩
  | cons x rest ih =>
    intro done a ha
    obtain ⟨a1, e1, h1⟩ := hstep done x a ha
    obtain ⟨a2, e2, h2⟩ := ih (done ++ [x]) a1 h1
    refine ⟨a2, ?_, by simpa using h2⟩
    simp only [forRange, e1, e2]

/-- a list loop whose condition may end it and whose body may return: what a cursor loop does on the pairs that are
    left in the bucket -/
def forList {ρ σ ε : Type} (cond : σ → ε → Bool) (body : σ → ε → Ctl ρ σ) : List ε → σ → Ctl ρ σ
  | [], s => .next s
  | x :: xs, s =>
    if cond s x then
      match body s x with
      | .ret r => .ret r
      | .next s' => forList cond body xs s'
    else .next s

def Ctl.map {ρ ρ' α α' : Type} (f : ρ → ρ') (g : α → α') : Ctl ρ α → Ctl ρ' α'
  | .ret r => .ret (f r)
  | .next a => .next (g a)

/-- **a `forWhile` that walks a list by position is `forList`.** The loop state is `enc p s`: a position `p` in `d` (the
    cursor) and the rest `s`. If the condition fails past the end, is `cond` on the element at `p`, and the body is `body`
    on that element followed by a step to `p + 1`, then with more fuel than elements left the loop does what `forList` does
    on `d.drop p`. -/
theorem forWhile_cursor {ρ ρ' α σ ε : Type} (d : List ε) (enc : Nat → σ → α) (f : ρ' → ρ)
    (gcond : α → Bool) (gbody : α → Ctl ρ α) (cond : σ → ε → Bool) (body : σ → ε → Ctl ρ' σ)
    (hend : ∀ p s, d[p]? = none → gcond (enc p s) = false)
    (hcond : ∀ p s x, d[p]? = some x → gcond (enc p s) = cond s x)
    (hbody : ∀ p s x, d[p]? = some x → gbody (enc p s) = (body s x).map f (enc (p + 1))) :
    ∀ (rest : List ε) (p : Nat) (s : σ) (fuel : Nat), d.drop p = rest → rest.length < fuel →
      ∃ p', forWhile fuel (enc p s) gcond gbody = (forList cond body rest s).map f (enc p') := by
  intro rest
  induction rest with
  | nil =>
    intro p s fuel hdrop hfuel
    obtain ⟨fuel, rfl⟩ : ∃ k, fuel = k + 1 := ⟨fuel - 1, by omega⟩
    have hnone : d[p]? = none := List.getElem?_eq_none (by simpa using hdrop)
    exact ⟨p, by simp only [forWhile, hend p s hnone, Bool.false_eq_true, if_false, forList, Ctl.map]⟩
  | cons x rest ih =>
    intro p s fuel hdrop hfuel
    obtain ⟨fuel, rfl⟩ : ∃ k, fuel = k + 1 := ⟨fuel - 1, by omega⟩
    have hx : d[p]? = some x := by
      have := congrArg (fun l => l[0]?) hdrop
      simpa using this
    have hdrop' : d.drop (p + 1) = rest := by
      have := congrArg List.tail hdrop
      simpa using this
    simp only [forWhile, hcond p s x hx, forList]
    cases hc : cond s x with
    | false => exact ⟨p, rfl⟩
    | true =>
      simp only [if_true, hbody p s x hx]
      cases body s x with
      | ret r => exact ⟨p, rfl⟩
      | next s' => exact ih (p + 1) s' fuel hdrop' (by simp at hfuel; omega)

/-! ### bbolt -/

theorem isErr_none : isErr (none : Error) = false := rfl
theorem isErr_nilError : isErr nilError = false := rfl
theorem isErr_some (m : Bytes) : isErr (some m : Error) = true := rfl

theorem bucketsGet_set_same (bs : Buckets) (name : Bytes) (d : BucketData) : bucketsGet (bucketsSet bs name d) name = some d := by
  induction bs with
  | nil => simp [bucketsSet, bucketsGet]
  | cons nd rest ih =>
    obtain ⟨n, d'⟩ := nd
    by_cases h : (n == name) = true
    · simp [bucketsSet, bucketsGet, h]
    · have h' : (n == name) = false := by simpa using h
      simp [bucketsSet, bucketsGet, h', ih]

theorem bucketsSet_bucketsSet (bs : Buckets) (name : Bytes) (d d' : BucketData) :
    bucketsSet (bucketsSet bs name d) name d' = bucketsSet bs name d' := by
  induction bs with
  | nil => simp [bucketsSet]
  | cons nd rest ih =>
    obtain ⟨n, d0⟩ := nd
    by_cases h : (n == name) = true
    · simp [bucketsSet, h]
    · have h' : (n == name) = false := by simpa using h
      simp [bucketsSet, h', ih]

theorem bucketsSet_get (bs : Buckets) (name : Bytes) (d : BucketData) (h : bucketsGet bs name = some d) :
    bucketsSet bs name d = bs := by
  induction bs with
  | nil => cases h
  | cons nd rest ih =>
    obtain ⟨n, d0⟩ := nd
    by_cases hn : (n == name) = true
    · simp only [bucketsGet, hn, if_true, Option.some.injEq] at h
      simp [bucketsSet, hn, h]
    · have hn' : (n == name) = false := by simpa using hn
      simp only [bucketsGet, hn', Bool.false_eq_true, if_false] at h
      simp [bucketsSet, hn', ih h]

theorem txOf_open (b : Bolt) (t : TxState) (h1 : b.tx = some t) (h2 : b.closed = false) : txOf b (some t.id) = some t := by
  simp [txOf, h1, h2]

theorem dbBegin_ok (b : Bolt) (db : DBRef) (w : Bool) (h1 : db = some b.id) (h2 : b.closed = false) (h3 : b.tx = none) :
    dbBegin b db w = ({ b with tx := some { id := b.nextTx, writable := w, buckets := b.committed }, nextTx := b.nextTx + 1 },
      some b.nextTx, none) := by
  simp [dbBegin, dbIs, h1, h2, h3]

theorem txBucket_ok (b : Bolt) (t : TxState) (name : Bytes) (d : BucketData) (h1 : b.tx = some t) (h2 : b.closed = false)
    (h4 : bucketsGet t.buckets name = some d) : txBucket b (some t.id) name = some (t.id, name) := by
  simp [txBucket, txOf_open b t h1 h2, h4]

theorem txBucket_none (b : Bolt) (t : TxState) (name : Bytes) (h1 : b.tx = some t) (h2 : b.closed = false)
    (h4 : bucketsGet t.buckets name = none) : txBucket b (some t.id) name = none := by
  simp [txBucket, txOf_open b t h1 h2, h4]

theorem txCreateBucket_new (b : Bolt) (t : TxState) (name : Bytes) (h1 : b.tx = some t) (h2 : b.closed = false)
    (h3 : t.writable = true) (h4 : name.isEmpty = false) (h5 : bucketsGet t.buckets name = none) :
    txCreateBucketIfNotExists b (some t.id) name
      = ({ b with tx := some { t with buckets := bucketsSet t.buckets name [] } }, some (t.id, name), none) := by
  simp [txCreateBucketIfNotExists, txOf_open b t h1 h2, h3, h4, h5]

theorem txCreateBucket_old (b : Bolt) (t : TxState) (name : Bytes) (d : BucketData) (h1 : b.tx = some t) (h2 : b.closed = false)
    (h3 : t.writable = true) (h4 : name.isEmpty = false) (h5 : bucketsGet t.buckets name = some d) :
    txCreateBucketIfNotExists b (some t.id) name = (b, some (t.id, name), none) := by
  simp [txCreateBucketIfNotExists, txOf_open b t h1 h2, h3, h4, h5]

theorem bucketPut_ok (b : Bolt) (t : TxState) (name key val : Bytes) (d : BucketData) (h1 : b.tx = some t) (h2 : b.closed = false)
    (h3 : t.writable = true) (h4 : bucketsGet t.buckets name = some d) (h5 : key.isEmpty = false) :
    bucketPut b (some (t.id, name)) key val
      = ({ b with tx := some { t with buckets := bucketsSet t.buckets name (dataPut d key val),
                                       log := t.log ++ [(name, key, val)] } }, none) := by
  simp [bucketPut, txOf_open b t h1 h2, h3, h4, h5]

theorem txCommit_ok (b : Bolt) (t : TxState) (h1 : b.tx = some t) (h2 : b.closed = false) (h3 : t.writable = true) :
    txCommit b (some t.id) = ({ b with committed := t.buckets, tx := none, commits := b.commits ++ [t.log] }, none) := by
  simp [txCommit, txOf_open b t h1 h2, h3]

/-! The same on explicit records: unconditional rewrite rules, by which the specs of the generated functions evaluate
them. `i` is the handle, `c` the committed buckets, `n` the transaction counter, `cs` the commit log; inside a
transaction `ti`, `bs` are the buckets it sees and `log` its `Put`s so far. -/

theorem txOf_mk (i n ti : Nat) (c : Buckets) (cs : List (List PutRec)) (t : TxState) (h : t.id = ti) :
    txOf { id := i, closed := false, committed := c, tx := some t, nextTx := n, commits := cs } (some ti) = some t := by
  simp [txOf, h]

theorem dbBegin_mk (i n : Nat) (c : Buckets) (cs : List (List PutRec)) (w : Bool) :
    dbBegin { id := i, closed := false, committed := c, tx := none, nextTx := n, commits := cs } (some i) w
      = ({ id := i, closed := false, committed := c, tx := some { id := n, writable := w, buckets := c, log := [] },
           nextTx := n + 1, commits := cs }, some n, none) :=
  dbBegin_ok _ _ w rfl rfl rfl

theorem txBucket_mk (i n ti : Nat) (c bs : Buckets) (cs : List (List PutRec)) (w : Bool) (log : List PutRec) (name : Bytes) :
    txBucket { id := i, closed := false, committed := c, tx := some { id := ti, writable := w, buckets := bs, log := log },
               nextTx := n, commits := cs } (some ti) name
      = if (bucketsGet bs name).isSome then some (ti, name) else none := by
  simp [txBucket, txOf]

theorem txCreateBucket_mk (i n ti : Nat) (c bs : Buckets) (cs : List (List PutRec)) (log : List PutRec) (name : Bytes)
    (hn : name.isEmpty = false) :
    txCreateBucketIfNotExists { id := i, closed := false, committed := c, tx := some { id := ti, writable := true, buckets := bs, log := log }, nextTx := n, commits := cs } (some ti) name
      = ({ id := i, closed := false, committed := c,
           tx := some { id := ti, writable := true, buckets := bucketsSet bs name ((bucketsGet bs name).getD []), log := log },
           nextTx := n, commits := cs }, some (ti, name), none) := by
  cases h : bucketsGet bs name with
  | none => exact txCreateBucket_new _ ⟨ti, true, bs, log⟩ name rfl rfl rfl hn h
  | some d => rw [Option.getD_some, bucketsSet_get bs name d h]; exact txCreateBucket_old _ ⟨ti, true, bs, log⟩ name d rfl rfl rfl hn h

theorem bucketPut_mk (i n ti : Nat) (c bs : Buckets) (cs : List (List PutRec)) (log : List PutRec) (name key val : Bytes)
    (d : BucketData) (hd : bucketsGet bs name = some d) (hk : key.isEmpty = false) :
    bucketPut { id := i, closed := false, committed := c, tx := some { id := ti, writable := true, buckets := bs, log := log }, nextTx := n, commits := cs } (some (ti, name)) key val
      = ({ id := i, closed := false, committed := c,
           tx := some { id := ti, writable := true, buckets := bucketsSet bs name (dataPut d key val),
                        log := log ++ [(name, key, val)] },
           nextTx := n, commits := cs }, none) :=
  bucketPut_ok _ ⟨ti, true, bs, log⟩ name key val d rfl rfl rfl hd hk

/-- a `Put` into a bucket the transaction has already written: the bucket is replaced once more -/
theorem bucketPut_set (i n ti : Nat) (c bs : Buckets) (cs : List (List PutRec)) (log : List PutRec) (name key val : Bytes)
    (d : BucketData) (hk : key.isEmpty = false) :
    bucketPut { id := i, closed := false, committed := c, tx := some { id := ti, writable := true, buckets := bucketsSet bs name d, log := log }, nextTx := n, commits := cs } (some (ti, name)) key val
      = ({ id := i, closed := false, committed := c,
           tx := some { id := ti, writable := true, buckets := bucketsSet bs name (dataPut d key val),
                        log := log ++ [(name, key, val)] },
           nextTx := n, commits := cs }, none) := by
  rw [bucketPut_mk _ _ _ _ _ _ _ _ _ _ d (bucketsGet_set_same bs name d) hk, bucketsSet_bucketsSet]

theorem txCommit_mk (i n ti : Nat) (c bs : Buckets) (cs : List (List PutRec)) (log : List PutRec) :
    txCommit { id := i, closed := false, committed := c, tx := some { id := ti, writable := true, buckets := bs, log := log }, nextTx := n, commits := cs } (some ti)
      = ({ id := i, closed := false, committed := bs, tx := none, nextTx := n, commits := cs ++ [log] }, none) :=
  txCommit_ok _ ⟨ti, true, bs, log⟩ rfl rfl rfl

theorem txRollback_mk (i n ti : Nat) (c bs : Buckets) (cs : List (List PutRec)) (w : Bool) (log : List PutRec) :
    txRollback { id := i, closed := false, committed := c, tx := some { id := ti, writable := w, buckets := bs, log := log }, nextTx := n, commits := cs } (some ti)
      = ({ id := i, closed := false, committed := c, tx := none, nextTx := n, commits := cs }, none) := by
  simp [txRollback, txOf]

theorem bucketData_mk (i n ti : Nat) (c bs : Buckets) (cs : List (List PutRec)) (w : Bool) (log : List PutRec) (name : Bytes) :
    bucketData { id := i, closed := false, committed := c, tx := some { id := ti, writable := w, buckets := bs, log := log }, nextTx := n, commits := cs } (some (ti, name))
      = bucketsGet bs name := by
  simp [bucketData, txOf]

theorem bucketGet_mk (i n ti : Nat) (c bs : Buckets) (cs : List (List PutRec)) (w : Bool) (log : List PutRec) (name key : Bytes)
    (d : BucketData) (hd : bucketsGet bs name = some d) :
    bucketGet { id := i, closed := false, committed := c, tx := some { id := ti, writable := w, buckets := bs, log := log }, nextTx := n, commits := cs } (some (ti, name)) key
      = dataGet d key := by
  simp [bucketGet, bucketData_mk, hd]

theorem dbClose_mk (i n : Nat) (cl : Bool) (c : Buckets) (cs : List (List PutRec)) (tx : Option TxState) :
    dbClose { id := i, closed := cl, committed := c, tx := tx, nextTx := n, commits := cs } (some i)
      = ({ id := i, closed := true, committed := c, tx := none, nextTx := n, commits := cs }, none) := by
  simp [dbClose]

/-! ### read-only and read-write views, cursors -/

/-- a database inside a read-only transaction `n` that sees `c` -/
def roView (i n : Nat) (c : Buckets) (cs : List (List PutRec)) : Bolt :=
  { id := i, closed := false, committed := c, tx := some { id := n, writable := false, buckets := c, log := [] }, nextTx := n + 1, commits := cs }

/-- a database inside the writable transaction `n` with buckets `bs` and log `lg` -/
def rwView (i n : Nat) (c bs : Buckets) (cs : List (List PutRec)) (lg : List PutRec) : Bolt :=
  { id := i, closed := false, committed := c, tx := some { id := n, writable := true, buckets := bs, log := lg }, nextTx := n + 1, commits := cs }

theorem dbView_mk {σ : Type} (i n : Nat) (c : Buckets) (cs : List (List PutRec)) (st : σ) (fn : Bolt → TxRef → σ → Bolt × σ × Error) :
    dbView { id := i, closed := false, committed := c, tx := none, nextTx := n, commits := cs } (some i) st fn
      = match fn (roView i n c cs) (some n) st with
        | (b2, st2, err) => ((txRollback b2 (some n)).1, st2, err) := by
  simp only [dbView, dbBegin_mk]
  rfl

theorem txRollback_ro (i n : Nat) (c : Buckets) (cs : List (List PutRec)) :
    txRollback (roView i n c cs) (some n) = ({ id := i, closed := false, committed := c, tx := none, nextTx := n + 1, commits := cs }, none) :=
  txRollback_mk ..

theorem txBucket_ro (i n : Nat) (c : Buckets) (cs : List (List PutRec)) (name : Bytes) :
    txBucket (roView i n c cs) (some n) name = if (bucketsGet c name).isSome then some (n, name) else none :=
  txBucket_mk ..

theorem bucketGet_ro (i n : Nat) (c : Buckets) (cs : List (List PutRec)) (name key : Bytes) (d : BucketData)
    (hd : bucketsGet c name = some d) : bucketGet (roView i n c cs) (some (n, name)) key = dataGet d key :=
  bucketGet_mk _ _ _ _ _ _ _ _ _ _ d hd

theorem cursorAt_ro (i n : Nat) (c : Buckets) (cs : List (List PutRec)) (name : Bytes) (d : BucketData)
    (hb : bucketsGet c name = some d) (p : Nat) :
    cursorAt (roView i n c cs) { bucket := some (n, name), pos := p } = ((d[p]?).map (·.1), (d[p]?).map (·.2)) := by
  simp only [cursorAt, roView, bucketData_mk, hb]
  cases d[p]? <;> rfl

theorem cursorFirst_ro (i n : Nat) (c : Buckets) (cs : List (List PutRec)) (name : Bytes) (d : BucketData)
    (hb : bucketsGet c name = some d) :
    cursorFirst (roView i n c cs) (bucketCursor (some (n, name)))
      = ({ bucket := some (n, name), pos := 0 }, (d[0]?).map (·.1), (d[0]?).map (·.2)) := by
  simp only [cursorFirst, bucketCursor, cursorAt_ro i n c cs name d hb]

theorem cursorSeek_ro (i n : Nat) (c : Buckets) (cs : List (List PutRec)) (name : Bytes) (d : BucketData)
    (hb : bucketsGet c name = some d) (seek : Bytes) :
    cursorSeek (roView i n c cs) (bucketCursor (some (n, name))) seek
      = ({ bucket := some (n, name), pos := seekPos d seek }, (d[seekPos d seek]?).map (·.1), (d[seekPos d seek]?).map (·.2)) := by
  simp only [cursorSeek, bucketCursor, roView, bucketData_mk, hb, Option.getD_some]
  exact congrArg _ (cursorAt_ro i n c cs name d hb _)

theorem cursorNext_ro (i n : Nat) (c : Buckets) (cs : List (List PutRec)) (name : Bytes) (d : BucketData)
    (hb : bucketsGet c name = some d) (p : Nat) :
    cursorNext (roView i n c cs) { bucket := some (n, name), pos := p }
      = ({ bucket := some (n, name), pos := p + 1 }, (d[p + 1]?).map (·.1), (d[p + 1]?).map (·.2)) := by
  simp only [cursorNext, cursorAt_ro i n c cs name d hb]

theorem cursorFuel_ro (i n : Nat) (c : Buckets) (cs : List (List PutRec)) (name : Bytes) (d : BucketData)
    (hb : bucketsGet c name = some d) (p : Nat) :
    cursorFuel (roView i n c cs) { bucket := some (n, name), pos := p } = d.length + 1 := by
  simp [cursorFuel, roView, bucketData_mk, hb]

/-! ### encoding/binary -/

theorem putU64_full (k : UInt64) : bePutUint64 (zeroBytes 8) 0 (Go.len (zeroBytes 8)) k = be64 k.toNat := by
  simp [bePutUint64, zeroBytes, Go.len, blit, be8, be4, be64, be32]

theorem putU32_full (k : UInt32) : bePutUint32 (zeroBytes 4) 0 (Go.len (zeroBytes 4)) k = be32 k.toNat := by
  simp [bePutUint32, zeroBytes, Go.len, blit, be4, be32]

theorem beUint64_toNat (b : Bytes) (h : b.length = 8) : (beUint64 b).toNat = beDecode b := by
  have hlt := beDecode_lt b
  rw [h] at hlt
  unfold beUint64
  rw [if_neg (by omega), List.take_of_length_le (by omega)]
  show (beDecode b).toUInt64.toNat = _
  simp only [Nat.toUInt64_eq, UInt64.toNat_ofNat']
  exact Nat.mod_eq_of_lt (by omega)

theorem beUint32_toNat (b : Bytes) (h : b.length = 4) : (beUint32 b).toNat = beDecode b := by
  have hlt := beDecode_lt b
  rw [h] at hlt
  unfold beUint32
  rw [if_neg (by omega), List.take_of_length_le (by omega)]
  show (beDecode b).toUInt32.toNat = _
  simp only [Nat.toUInt32_eq, UInt32.toNat_ofNat']
  exact Nat.mod_eq_of_lt (by omega)

theorem beUint64_be64 (h : UInt64) : beUint64 (be64 h.toNat) = h :=
  UInt64.toNat_inj.mp (by rw [beUint64_toNat _ (be64_length _), be64_roundtrip h.toNat h.toNat_lt])

theorem beUint32_be32 (n : UInt32) : beUint32 (be32 n.toNat) = n :=
  UInt32.toNat_inj.mp (by rw [beUint32_toNat _ (be32_length _), be32_roundtrip n.toNat n.toNat_lt])

end Updog.Go.T3
