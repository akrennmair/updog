/-
Helper lemmas for C03/C04: the universe generated by a list of expressions (all sub-expressions), and how
"no collision on the strings in play" yields the `KeyOK` hypothesis of the transparency theorems.
-/
import Updog.Proofs.Key
import Updog.Proofs.Cache
namespace Updog

section
variable (H : Bytes → UInt64)

/-- the pairs `(c, v)` listed in `P` with colliding value indexes agree on whether their column exists
    (trivially true if all columns exist, or if there is no value-index collision between different columns) -/
def KnownAgree (ix : Index) (P : List (Bytes × Bytes)) : Prop :=
  ∀ p ∈ P, ∀ p' ∈ P, H (encodePair p.1 p.2) = H (encodePair p'.1 p'.2) →
    (ix.schema.col p.1).isSome = (ix.schema.col p'.1).isSome

variable {H}

theorem KnownAgree.mono {ix : Index} {P P' : List (Bytes × Bytes)} (h : KnownAgree H ix P)
    (hsub : ∀ x ∈ P', x ∈ P) : KnownAgree H ix P' :=
  fun p hp p' hp' => h p (hsub p hp) p' (hsub p' hp')

mutual
theorem eval_eq_of_skeleton_eq (ix : Index) (P : List (Bytes × Bytes)) (hP : KnownAgree H ix P) (e e' : Expr)
    (he : ∀ p ∈ e.pairs, p ∈ P) (he' : ∀ p ∈ e'.pairs, p ∈ P)
    (hs : e.skeleton H = e'.skeleton H) : eval H ix e = eval H ix e' := by
  -- in each case the shapes that remain for `e'` have another skeleton constructor
  cases e with
  | eq c v =>
    cases e' with
    | eq c' v' =>
      have hh : H (encodePair c v) = H (encodePair c' v') := SkelTree.leaf.inj hs
      rw [eval_leaf, eval_leaf, hh,
        hP (c, v) (he _ (List.mem_singleton_self _)) (c', v') (he' _ (List.mem_singleton_self _)) hh]
    | _ => cases hs
  | not e1 =>
    cases e' with
    | not e1' => simp only [eval, eval_eq_of_skeleton_eq ix P hP e1 e1' he he' (SkelTree.not.inj hs)]
    | _ => cases hs
  | and es =>
    cases e' with
    | and es' => simp only [eval, evalList_eq_of_skeleton_eq ix P hP es es' he he' (SkelTree.and.inj hs)]
    | _ => cases hs
  | or es =>
    cases e' with
    | or es' => simp only [eval, evalList_eq_of_skeleton_eq ix P hP es es' he he' (SkelTree.or.inj hs)]
    | _ => cases hs
theorem evalList_eq_of_skeleton_eq (ix : Index) (P : List (Bytes × Bytes)) (hP : KnownAgree H ix P)
    (es es' : List Expr) (he : ∀ p ∈ Expr.pairsList es, p ∈ P) (he' : ∀ p ∈ Expr.pairsList es', p ∈ P)
    (hs : Expr.skeletonList H es = Expr.skeletonList H es') : evalList H ix es = evalList H ix es' := by
  match es, es' with
  | [], [] => rfl
  | [], _ :: _ => cases hs
  | _ :: _, [] => cases hs
  | e :: t, e' :: t' =>
    obtain ⟨h1, h2⟩ := List.cons.inj hs
    simp only [evalList]
    rw [eval_eq_of_skeleton_eq ix P hP e e' (fun p hp => he p (List.mem_append_left _ hp))
        (fun p hp => he' p (List.mem_append_left _ hp)) h1,
      evalList_eq_of_skeleton_eq ix P hP t t' (fun p hp => he p (List.mem_append_right _ hp))
        (fun p hp => he' p (List.mem_append_right _ hp)) h2]
end

theorem knownAgree_of_colsKnown (ix : Index) (P : List (Bytes × Bytes))
    (h : ∀ p ∈ P, (ix.schema.col p.1).isSome = true) : KnownAgree H ix P :=
  fun p hp p' hp' _ => (h p hp).trans (h p' hp').symm

mutual
theorem pairs_fst_mem_columns (e : Expr) : ∀ p ∈ e.pairs, p.1 ∈ e.columns := by
  match e with
  | .eq c v => intro p hp; rw [List.mem_singleton.mp hp]; exact List.mem_singleton_self c
  | .not e1 => exact pairs_fst_mem_columns e1
  | .and es => exact pairsList_fst_mem_columns es
  | .or es => exact pairsList_fst_mem_columns es
theorem pairsList_fst_mem_columns (es : List Expr) : ∀ p ∈ Expr.pairsList es, p.1 ∈ Expr.columnsList es := by
  match es with
  | [] => intro p hp; cases hp
  | e :: t =>
    intro p hp
    rcases List.mem_append.mp hp with hp | hp
    · exact List.mem_append_left _ (pairs_fst_mem_columns e p hp)
    · exact List.mem_append_right _ (pairsList_fst_mem_columns t p hp)
end

theorem subs_self (e : Expr) : e ∈ e.subs := by
  cases e <;> simp [Expr.subs]

theorem mem_subsList {x : Expr} {es : List Expr} : x ∈ Expr.subsList es ↔ ∃ e ∈ es, x ∈ e.subs := by
  induction es with
  | nil => simp [Expr.subsList]
  | cons e t ih => simp [Expr.subsList, ih]

theorem mem_pairsList {p : Bytes × Bytes} {es : List Expr} : p ∈ Expr.pairsList es ↔ ∃ e ∈ es, p ∈ e.pairs := by
  induction es with
  | nil => simp [Expr.pairsList]
  | cons e t ih => simp [Expr.pairsList, ih]

theorem mem_preimagesList {y : Bytes} {es : List Expr} : y ∈ preimagesList H es ↔ ∃ e ∈ es, y ∈ preimages H e := by
  induction es with
  | nil => simp [preimagesList]
  | cons e t ih => simp [preimagesList, ih]

theorem subs_of_child {e c x : Expr} (hc : c ∈ e.children) (hx : x ∈ c.subs) : x ∈ e.subs := by
  cases e with
  | eq _ _ => cases hc
  | not e1 => rw [List.mem_singleton.mp hc] at hx; exact List.mem_cons_of_mem _ hx
  | and es | or es => exact List.mem_cons_of_mem _ (mem_subsList.mpr ⟨c, hc, hx⟩)

theorem pairs_of_child {e c : Expr} {p : Bytes × Bytes} (hc : c ∈ e.children) (hp : p ∈ c.pairs) : p ∈ e.pairs := by
  cases e with
  | eq _ _ => cases hc
  | not e1 => rw [List.mem_singleton.mp hc] at hp; exact hp
  | and es | or es => exact mem_pairsList.mpr ⟨c, hc, hp⟩

theorem preimages_of_child {e c : Expr} {y : Bytes} (hc : c ∈ e.children) (hy : y ∈ preimages H c) :
    y ∈ preimages H e := by
  cases e with
  | eq _ _ => cases hc
  | not e1 => rw [List.mem_singleton.mp hc] at hy; exact List.mem_cons_of_mem _ hy
  | and es | or es => exact List.mem_cons_of_mem _ (mem_preimagesList.mpr ⟨c, hc, hy⟩)

mutual
/-- Whatever an expression inherits from its operands (`G c ⊆ G e` for every operand `c` of `e`), it inherits from
all its sub-expressions. -/
theorem subs_mono {α} (G : Expr → List α) (hG : ∀ e, ∀ c ∈ e.children, ∀ a ∈ G c, a ∈ G e) :
    ∀ e : Expr, ∀ x ∈ e.subs, ∀ a ∈ G x, a ∈ G e
  | .eq c v, x, hx, a, ha => by rw [List.mem_singleton.mp hx] at ha; exact ha
  | .not e1, x, hx, a, ha => by
    rcases List.mem_cons.mp hx with rfl | hx
    · exact ha
    · exact hG _ e1 (List.mem_singleton_self _) a (subs_mono G hG e1 x hx a ha)
  | .and es, x, hx, a, ha => by
    rcases List.mem_cons.mp hx with rfl | hx
    · exact ha
    · obtain ⟨e, he, h⟩ := subsList_mono G hG es x hx a ha
      exact hG (.and es) e he a h
  | .or es, x, hx, a, ha => by
    rcases List.mem_cons.mp hx with rfl | hx
    · exact ha
    · obtain ⟨e, he, h⟩ := subsList_mono G hG es x hx a ha
      exact hG (.or es) e he a h
theorem subsList_mono {α} (G : Expr → List α) (hG : ∀ e, ∀ c ∈ e.children, ∀ a ∈ G c, a ∈ G e) :
    ∀ es : List Expr, ∀ x ∈ Expr.subsList es, ∀ a ∈ G x, ∃ e ∈ es, a ∈ G e
  | [], x, hx, _, _ => nomatch hx
  | e :: t, x, hx, a, ha => by
    rcases List.mem_append.mp hx with hx | hx
    · exact ⟨e, List.mem_cons_self, subs_mono G hG e x hx a ha⟩
    · obtain ⟨e', he', h⟩ := subsList_mono G hG t x hx a ha
      exact ⟨e', List.mem_cons_of_mem _ he', h⟩
end

theorem subs_closed (e : Expr) : ∀ x ∈ e.subs, ∀ c ∈ x.children, c ∈ e.subs :=
  fun x hx c hc => subs_mono Expr.subs (fun _ _ hc _ => subs_of_child hc) e x hx c (subs_of_child hc (subs_self c))

theorem subsList_closed (es : List Expr) : ∀ x ∈ Expr.subsList es, ∀ c ∈ x.children, c ∈ Expr.subsList es := by
  intro x hx c hc
  obtain ⟨e, he, hxe⟩ := mem_subsList.mp hx
  exact mem_subsList.mpr ⟨e, he, subs_closed e x hxe c hc⟩

theorem subs_pairs (e : Expr) : ∀ x ∈ e.subs, ∀ p ∈ x.pairs, p ∈ e.pairs :=
  subs_mono Expr.pairs (fun _ _ hc _ => pairs_of_child hc) e

theorem subsList_pairs (es : List Expr) : ∀ x ∈ Expr.subsList es, ∀ p ∈ x.pairs, p ∈ Expr.pairsList es := by
  intro x hx p hp
  obtain ⟨e, he, hxe⟩ := mem_subsList.mp hx
  exact mem_pairsList.mpr ⟨e, he, subs_pairs e x hxe p hp⟩

variable (H)

theorem subs_preimages (e : Expr) : ∀ x ∈ e.subs, ∀ y ∈ preimages H x, y ∈ preimages H e :=
  subs_mono (preimages H) (fun _ _ hc _ => preimages_of_child hc) e

theorem subsList_preimages (es : List Expr) :
    ∀ x ∈ Expr.subsList es, ∀ y ∈ preimages H x, y ∈ preimagesList H es := by
  intro x hx y hy
  obtain ⟨e, he, hxe⟩ := mem_subsList.mp hx
  exact mem_preimagesList.mpr ⟨e, he, subs_preimages H e x hxe y hy⟩

/-- the universe generated by the expressions `es`: all their sub-expressions -/
def subsOf (es : List Expr) : List Expr := es.flatMap Expr.subs

theorem subsOf_mem (es : List Expr) : ∀ e ∈ es, e ∈ subsOf es := by
  intro e he
  simp only [subsOf, List.mem_flatMap]
  exact ⟨e, he, subs_self e⟩

theorem subsOf_closed (es : List Expr) : SubClosed (subsOf es) := by
  intro x hx c hc
  simp only [subsOf, List.mem_flatMap] at hx ⊢
  obtain ⟨e, he, hxe⟩ := hx
  exact ⟨e, he, subs_closed e x hxe c hc⟩

/-- "No collision on the strings in play" gives the hypothesis of the transparency theorems. -/
theorem keyOK_of_injOn (ix : Index) (es : List Expr)
    (hinj : InjOn H (es.flatMap (preimages H)))
    (hagree : KnownAgree H ix (es.flatMap Expr.pairs)) : KeyOK H ix (subsOf es) := by
  intro x hx x' hx' hk
  simp only [subsOf, List.mem_flatMap] at hx hx'
  obtain ⟨e, he, hxe⟩ := hx
  obtain ⟨e', he', hxe'⟩ := hx'
  have hs : x.skeleton H = x'.skeleton H :=
    skeleton_eq_of_key_eq _ hinj x x'
      (fun y hy => List.mem_flatMap.mpr ⟨e, he, subs_preimages H e x hxe y hy⟩)
      (fun y hy => List.mem_flatMap.mpr ⟨e', he', subs_preimages H e' x' hxe' y hy⟩) hk
  exact eval_eq_of_skeleton_eq ix _ hagree x x'
    (fun p hp => List.mem_flatMap.mpr ⟨e, he, subs_pairs e x hxe p hp⟩)
    (fun p hp => List.mem_flatMap.mpr ⟨e', he', subs_pairs e' x' hxe' p hp⟩) hs

end
end Updog
