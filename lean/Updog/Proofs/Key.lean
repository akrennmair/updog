/-
Helper lemmas for C03 "no sharing": the cache key determines the expression tree up to the value indexes
of its leaves, unless the hash collides on one of the strings actually hashed.
-/
import Updog.Model.Cache
import Updog.Spec.Sat
import Updog.Proofs.BytesOrder
namespace Updog

/-! ### big-endian coding is injective, blocks of 8 bytes can be split again -/

theorem be64_inj {n m : Nat} (hn : n < 2 ^ 64) (hm : m < 2 ^ 64) (h : be64 n = be64 m) : n = m := by
  rw [← be64_roundtrip n hn, ← be64_roundtrip m hm, h]

theorem be64_toNat_inj {a b : UInt64} (h : be64 a.toNat = be64 b.toNat) : a = b :=
  UInt64.toNat_inj.mp (be64_inj a.toNat_lt b.toNat_lt h)

theorem flatMap_be64_inj (ks ks' : List UInt64)
    (h : (ks.flatMap fun k => be64 k.toNat) = ks'.flatMap fun k => be64 k.toNat) : ks = ks' := by
  induction ks generalizing ks' with
  | nil =>
    cases ks' with
    | nil => rfl
    | cons b t =>
      have := congrArg List.length h
      simp only [List.flatMap_cons, List.flatMap_nil, List.length_nil, List.length_append, be64_length] at this
      omega
  | cons a t ih =>
    cases ks' with
    | nil =>
      have := congrArg List.length h
      simp only [List.flatMap_cons, List.flatMap_nil, List.length_nil, List.length_append, be64_length] at this
      omega
    | cons b t' =>
      simp only [List.flatMap_cons] at h
      obtain ⟨h1, h2⟩ := List.append_inj h (by simp [be64_length])
      rw [be64_toNat_inj h1, ih t' h2]

/-! ### what is hashed -/

inductive SkelTree where
  | leaf (h : UInt64)
  | not (t : SkelTree)
  | and (ts : List SkelTree)
  | or (ts : List SkelTree)

section
variable (H : Bytes → UInt64)

mutual
/-- the expression with every leaf `(c, v)` replaced by its value index `H (c ‖ 0 ‖ v)` -/
def Expr.skeleton : Expr → SkelTree
  | .eq c v => .leaf (H (encodePair c v))
  | .not e => .not (Expr.skeleton e)
  | .and es => .and (Expr.skeletonList es)
  | .or es => .or (Expr.skeletonList es)
def Expr.skeletonList : List Expr → List SkelTree
  | [] => []
  | e :: es => Expr.skeleton e :: Expr.skeletonList es
end

/-- equal trees up to replacing each leaf by its value index -/
def sameShape (e e' : Expr) : Prop := e.skeleton H = e'.skeleton H

/-- the byte string whose hash is the cache key of `e` -/
def keyInput : Expr → Bytes
  | .eq c v => tagEqual :: [H (encodePair c v)].flatMap fun k => be64 k.toNat
  | .not e => tagNot :: [cacheKey H e].flatMap fun k => be64 k.toNat
  | .and es => tagAnd :: (cacheKeys H es).flatMap fun k => be64 k.toNat
  | .or es => tagOr :: (cacheKeys H es).flatMap fun k => be64 k.toNat

theorem cacheKey_eq_hash (e : Expr) : cacheKey H e = H (keyInput H e) := by
  cases e <;> simp only [cacheKey, mixKey, keyInput]

def Expr.tag : Expr → UInt8
  | .eq _ _ => tagEqual
  | .not _ => tagNot
  | .and _ => tagAnd
  | .or _ => tagOr

/-- the keys mixed into the key of a node: the value index at a leaf, the cache keys of the operands elsewhere -/
def operandKeys : Expr → List UInt64
  | .eq c v => [H (encodePair c v)]
  | .not e => [cacheKey H e]
  | .and es | .or es => cacheKeys H es

theorem keyInput_eq (e : Expr) : keyInput H e = e.tag :: (operandKeys H e).flatMap fun k => be64 k.toNat := by
  cases e <;> rfl

mutual
/-- every byte string fed to `H` by `cacheKey H e` at `e` or below (the leaf strings `E ‖ be64 valueIdx`
    included; the value indexes themselves are taken as given) -/
def preimages : Expr → List Bytes
  | .eq c v => [keyInput H (.eq c v)]
  | .not e => keyInput H (.not e) :: preimages e
  | .and es => keyInput H (.and es) :: preimagesList es
  | .or es => keyInput H (.or es) :: preimagesList es
def preimagesList : List Expr → List Bytes
  | [] => []
  | e :: es => preimages e ++ preimagesList es
end

theorem keyInput_mem (e : Expr) : keyInput H e ∈ preimages H e := by
  cases e <;> simp [preimages]

/-- no 64-bit collision among the strings of `S` -/
def InjOn (S : List Bytes) : Prop := ∀ x ∈ S, ∀ y ∈ S, H x = H y → x = y

variable {H}

theorem InjOn.mono {S S' : List Bytes} (h : InjOn H S) (hsub : ∀ x ∈ S', x ∈ S) : InjOn H S' :=
  fun x hx y hy => h x (hsub x hx) y (hsub y hy)

mutual
theorem skeleton_eq_of_key_eq (S : List Bytes) (hS : InjOn H S) (e e' : Expr)
    (he : ∀ x ∈ preimages H e, x ∈ S) (he' : ∀ x ∈ preimages H e', x ∈ S)
    (hk : cacheKey H e = cacheKey H e') : e.skeleton H = e'.skeleton H := by
  have hin : keyInput H e = keyInput H e' := by
    rw [cacheKey_eq_hash, cacheKey_eq_hash] at hk
    exact hS _ (he _ (keyInput_mem H e)) _ (he' _ (keyInput_mem H e')) hk
  rw [keyInput_eq, keyInput_eq, List.cons.injEq] at hin
  have htag := hin.1
  have hops := flatMap_be64_inj _ _ hin.2
  -- in each case the shapes that remain for `e'` carry another tag
  cases e with
  | eq c v =>
    cases e' with
    | eq c' v' => exact congrArg SkelTree.leaf (List.head_eq_of_cons_eq hops)
    | _ => exact absurd htag (by simp only [Expr.tag]; decide)
  | not e1 =>
    cases e' with
    | not e1' =>
      exact congrArg SkelTree.not (skeleton_eq_of_key_eq S hS e1 e1' (fun x hx => he x (List.mem_cons_of_mem _ hx))
        (fun x hx => he' x (List.mem_cons_of_mem _ hx)) (List.head_eq_of_cons_eq hops))
    | _ => exact absurd htag (by simp only [Expr.tag]; decide)
  | and es =>
    cases e' with
    | and es' =>
      exact congrArg SkelTree.and (skeletonList_eq_of_keys_eq S hS es es'
        (fun x hx => he x (List.mem_cons_of_mem _ hx)) (fun x hx => he' x (List.mem_cons_of_mem _ hx)) hops)
    | _ => exact absurd htag (by simp only [Expr.tag]; decide)
  | or es =>
    cases e' with
    | or es' =>
      exact congrArg SkelTree.or (skeletonList_eq_of_keys_eq S hS es es'
        (fun x hx => he x (List.mem_cons_of_mem _ hx)) (fun x hx => he' x (List.mem_cons_of_mem _ hx)) hops)
    | _ => exact absurd htag (by simp only [Expr.tag]; decide)
theorem skeletonList_eq_of_keys_eq (S : List Bytes) (hS : InjOn H S) (es es' : List Expr)
    (he : ∀ x ∈ preimagesList H es, x ∈ S) (he' : ∀ x ∈ preimagesList H es', x ∈ S)
    (hk : cacheKeys H es = cacheKeys H es') : Expr.skeletonList H es = Expr.skeletonList H es' := by
  match es, es' with
  | [], [] => rfl
  | [], _ :: _ => cases hk
  | _ :: _, [] => cases hk
  | e :: t, e' :: t' =>
    obtain ⟨h1, h2⟩ := List.cons.inj hk
    show Expr.skeleton H e :: Expr.skeletonList H t = Expr.skeleton H e' :: Expr.skeletonList H t'
    rw [skeleton_eq_of_key_eq S hS e e' (fun x hx => he x (List.mem_append_left _ hx))
        (fun x hx => he' x (List.mem_append_left _ hx)) h1,
      skeletonList_eq_of_keys_eq S hS t t' (fun x hx => he x (List.mem_append_right _ hx))
        (fun x hx => he' x (List.mem_append_right _ hx)) h2]
end

/-! ### the meaning of an expression over known columns depends on its leaves only through their value index -/

mutual
def evalSkel (ix : Index) : SkelTree → Nat
  | .leaf h => (ix.getCol h).getD 0
  | .not t => flip ix.next (evalSkel ix t)
  | .and ts => andAll (evalSkelList ix ts)
  | .or ts => orAll (evalSkelList ix ts)
def evalSkelList (ix : Index) : List SkelTree → List Nat
  | [] => []
  | t :: ts => evalSkel ix t :: evalSkelList ix ts
end

/-- every column tested by `e` is a column of the schema (so `e` does not evaluate to an error) -/
def ColsKnown (ix : Index) (e : Expr) : Prop := ∀ c ∈ e.columns, (ix.schema.col c).isSome = true

variable (H)

theorem eval_leaf (ix : Index) (c v : Bytes) :
    eval H ix (.eq c v) =
      if (ix.schema.col c).isSome then some ((ix.getCol (H (encodePair c v))).getD 0) else none := by
  rw [eval]
  cases ix.schema.col c <;> rfl

mutual
theorem eval_eq_evalSkel (ix : Index) (e : Expr) (h : ∀ c ∈ e.columns, (ix.schema.col c).isSome = true) :
    eval H ix e = some (evalSkel ix (e.skeleton H)) := by
  match e with
  | .eq c v => rw [eval_leaf, h c (List.mem_singleton_self c), if_pos rfl]; rfl
  | .not e1 =>
    simp only [eval, Expr.skeleton, evalSkel, eval_eq_evalSkel ix e1 h,
      Option.map_some]
  | .and es | .or es =>
    simp only [eval, Expr.skeleton, evalSkel,
      evalList_eq_evalSkelList ix es h, Option.map_some]
theorem evalList_eq_evalSkelList (ix : Index) (es : List Expr)
    (h : ∀ c ∈ Expr.columnsList es, (ix.schema.col c).isSome = true) :
    evalList H ix es = some (evalSkelList ix (Expr.skeletonList H es)) := by
  match es with
  | [] => rfl
  | e :: t =>
    simp only [evalList, Expr.skeletonList, evalSkelList,
      eval_eq_evalSkel ix e (fun c hc => h c (List.mem_append_left _ hc)),
      evalList_eq_evalSkelList ix t (fun c hc => h c (List.mem_append_right _ hc)), Option.map_some]
end

mutual
/-- `e` and everything below it -/
def Expr.subs : Expr → List Expr
  | .eq c v => [.eq c v]
  | .not e => .not e :: Expr.subs e
  | .and es => .and es :: Expr.subsList es
  | .or es => .or es :: Expr.subsList es
def Expr.subsList : List Expr → List Expr
  | [] => []
  | e :: es => Expr.subs e ++ Expr.subsList es
end

end
end Updog
