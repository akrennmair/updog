/-
Helper lemmas for `Updog/Props/Gen/CreateCmd.lean`: the pieces of the regenerated `createCmd` (cmd/updog/create.go) —
one iteration of the record loop (`Gen.createCmd_for1`), the loop, the rest of the function once the writer is chosen
(`Gen.createCmd_k1`: loop, then `Flush`) — characterised on the world of `Updog/Basic/GoPreludeT8.lean`.
-/
import Updog.GeneratedFns
import Updog.Proofs.GoPreludeT8
namespace Updog.GeneratedEq
open Updog.Go Updog.Go.Cmd

theorem rowFold (header : List Bytes) (w : World) (m0 : Map Bytes) (l : List (Int × Bytes)) :
    List.foldl (fun (a : Map Bytes × World) (p : Int × Bytes) => (Map.set a.1 (indexL header p.1) p.2, a.2)) (m0, w) l
      = (List.foldl (fun (values : Map Bytes) (p : Int × Bytes) => Map.set values (indexL header p.1) p.2) m0 l, w) := by
  induction l generalizing m0 with
  | nil => rfl
  | cons x xs ih => simp [ih]

/-- `w'` is the running world `w` after the events `evs` of the record loop: nothing but the reader position, the row
    counter and the trace differ -/
structure LoopExt (w w' : World) (evs : List Event) : Prop where
  env : w'.env = w.env
  fs : w'.fs = w.fs
  stopped : w'.stopped = none
  trace : w'.trace = w.trace ++ evs
  loopOnly : ∀ e ∈ evs, e.isLoop = true

/-- `w` after the progress lines `pf` went to stdout (every projection but `trace` reduces to that of `w`) -/
def withPrintf (w : World) (pf : List Bytes) : World := { w with trace := w.trace ++ pf.map .printf }

theorem withPrintf_nil (w : World) : withPrintf w [] = w := by
  cases w; simp [withPrintf]

theorem printf_isLoop (pf : List Bytes) : ∀ e ∈ pf.map Event.printf, e.isLoop = true := by
  intro e he
  obtain ⟨f, _, rfl⟩ := List.mem_map.mp he
  rfl

theorem printf_not_data (pf : List Bytes) : (pf.map Event.printf).filter Event.isData = [] :=
  List.filter_eq_nil_iff.mpr fun e he => by
    obtain ⟨f, _, rfl⟩ := List.mem_map.mp he
    exact Bool.false_ne_true

/-- the data events of reading the records `recs` and adding each as a row -/
def rowEvents (header : List Bytes) (recs : List (List Bytes)) : List Event :=
  recs.flatMap fun record => [.csvRead (some record), .addRow (Gen.recordRow header record) true]

section
variable (toLower : Nat → Nat) (fuel : Nat) (g : globalConfig) (header : List Bytes) (iw : indexWriter) (r : Reader)

/-- the world after one record was read and handed to `AddRow` (`ok`: did AddRow succeed) -/
def afterRow (w : World) (record : List Bytes) (ok : Bool) : World :=
  log { log { w with csvPos := w.csvPos + 1 } (.csvRead (some record)) with rowsAdded := w.rowsAdded + 1 }
    (.addRow (Gen.recordRow header record) ok)

section
variable (idx : Int) (w : World) (hw : w.stopped = none)
include hw

theorem for1_eof (hr : w.env.csv[w.csvPos]? = none) (he : w.env.csvEnd = .EOF) :
    Gen.createCmd_for1 toLower fuel g header iw r (idx, w) = .brk (idx, log w (.csvRead none)) := by
  simp [Gen.createCmd_for1, csvRead_none w hw r hr, he, T8.errorsIs]

theorem for1_bad (hr : w.env.csv[w.csvPos]? = none) (he : w.env.csvEnd ≠ .EOF) :
    ∃ e, Gen.createCmd_for1 toLower fuel g header iw r (idx, w) = .ret (some e, log w (.csvRead none)) := by
  simp [Gen.createCmd_for1, csvRead_none w hw r hr, he, T8.errorsIs]

variable (hiw : iw ≠ .nil) (record : List Bytes)
include hiw

/-- one iteration up to the answer of `AddRow`: the record is read, the row built, `AddRow` called on a running world -/
theorem for1_addRow (ok : Bool) (hf : w.env.addRowFails w.rowsAdded = !ok) :
    addRow (log { w with csvPos := w.csvPos + 1 } (.csvRead (some record))) iw (Gen.recordRow header record) =
      (afterRow header w record ok, if ok then .ok w.rowsAdded.toUInt32 else .error (.ext 17)) := by
  rw [addRow_run]
  · cases ok <;> simp [afterRow, hf]
  · exact hw
  · exact hiw

theorem for1_addFail (hr : w.env.csv[w.csvPos]? = some record) (hf : w.env.addRowFails w.rowsAdded = true) :
    ∃ e, Gen.createCmd_for1 toLower fuel g header iw r (idx, w) = .ret (some e, afterRow header w record false) := by
  have hadd := for1_addRow header iw w hw hiw record false hf
  simp only [Gen.recordRow] at hadd
  simp [Gen.createCmd_for1, csvRead_some w hw r record hr, rowFold, hadd]

theorem for1_next (hr : w.env.csv[w.csvPos]? = some record) (hf : w.env.addRowFails w.rowsAdded = false) :
    ∃ pf, Gen.createCmd_for1 toLower fuel g header iw r (idx, w) =
      .next (idx + 1, withPrintf (afterRow header w record true) pf) := by
  have hadd := for1_addRow header iw w hw hiw record true hf
  simp only [Gen.recordRow] at hadd
  by_cases hv : (g.verbose && (Int.tmod (idx + 1) 10000 == 0)) = true
  · refine ⟨[?f], ?h⟩
    case h =>
      simp only [Gen.createCmd_for1, csvRead_some w hw r record hr, rowFold, hadd, hv, if_true,
        printf_run _ (show (afterRow header w record true).stopped = none from hw)]
      rfl
  · refine ⟨[], ?_⟩
    rw [withPrintf_nil]
    simp only [Gen.createCmd_for1, csvRead_some w hw r record hr, rowFold, hadd, hv, if_true]
    rfl

end

theorem drop_nil_getElem? {α : Type} (l : List α) (n : Nat) (h : l.drop n = []) : l[n]? = none := by
  have := List.getElem?_drop (xs := l) (i := n) (j := 0)
  rw [h] at this; exact this.symm

theorem drop_cons_getElem? {α : Type} (l : List α) (n : Nat) (x : α) (xs : List α) (h : l.drop n = x :: xs) :
    l[n]? = some x ∧ l.drop (n + 1) = xs := by
  have h1 := List.getElem?_drop (xs := l) (i := n) (j := 0)
  have h2 := List.drop_drop (l := l) (i := 1) (j := n)
  rw [h] at h1 h2
  exact ⟨h1.symm, h2.symm⟩

/-- **the record loop.** From a running world whose reader still has the records `recs` to hand out, with enough fuel:
    either every record is read and added in order, the reader then reports `io.EOF`, and the loop ends normally
    (`done`, the row counter advanced by the number of records); or the function returns an error — exactly when the
    reader's final answer is not `io.EOF` or one of the `AddRow` calls fails. Nothing but reader position, row counter and
    trace changes, and the trace grows by loop events only. -/
theorem loop_spec (fuelB : Nat) (hiw : iw ≠ .nil) (recs : List (List Bytes)) :
    ∀ (w : World) (idx : Int) (n : Nat), w.stopped = none → w.env.csv.drop w.csvPos = recs → recs.length < n →
    ∃ w' evs, LoopExt w w' evs ∧
      ((T8.forEver n (idx, w) (Gen.createCmd_for1 toLower fuelB g header iw r) = .done (idx + recs.length, w') ∧
          w.env.csvEnd = .EOF ∧ (∀ j, j < recs.length → w.env.addRowFails (w.rowsAdded + j) = false) ∧
          evs.filter Event.isData = rowEvents header recs ++ [.csvRead none]) ∨
       (∃ e, T8.forEver n (idx, w) (Gen.createCmd_for1 toLower fuelB g header iw r) = .ret (some e, w') ∧
          (w.env.csvEnd ≠ .EOF ∨ ∃ j, j < recs.length ∧ w.env.addRowFails (w.rowsAdded + j) = true))) := by
  induction recs with
  | nil =>
    intro w idx n hw hd hn
    obtain _ | m := n
    · exact absurd hn (Nat.not_lt_zero _)
    have hr := drop_nil_getElem? _ _ hd
    refine ⟨log w (.csvRead none), [.csvRead none], ⟨rfl, rfl, hw, rfl, by simp [Event.isLoop]⟩, ?_⟩
    by_cases he : w.env.csvEnd = .EOF
    · left
      refine ⟨?_, he, by simp, by simp [rowEvents, Event.isData]⟩
      rw [T8.forEver_brk _ _ _ _ (for1_eof toLower fuelB g header iw r idx w hw hr he)]; simp
    · right
      obtain ⟨e, he'⟩ := for1_bad toLower fuelB g header iw r idx w hw hr he
      exact ⟨e, T8.forEver_ret _ _ _ _ he', Or.inl he⟩
  | cons record rest ih =>
    intro w idx n hw hd hn
    obtain _ | m := n
    · exact absurd hn (Nat.not_lt_zero _)
    obtain ⟨hr, hd'⟩ := drop_cons_getElem? _ _ _ _ hd
    by_cases hf : w.env.addRowFails w.rowsAdded = true
    · obtain ⟨e, he'⟩ := for1_addFail toLower fuelB g header iw r idx w hw hiw record hr hf
      exact ⟨afterRow header w record false, [.csvRead (some record), .addRow (Gen.recordRow header record) false],
        ⟨rfl, rfl, hw, by simp [afterRow], by simp [Event.isLoop]⟩,
        Or.inr ⟨e, T8.forEver_ret _ _ _ _ he', Or.inr ⟨0, by simp, hf⟩⟩⟩
    · have hf' : w.env.addRowFails w.rowsAdded = false := by simpa using hf
      obtain ⟨pf, hstep⟩ := for1_next toLower fuelB g header iw r idx w hw hiw record hr hf'
      -- every projection of the next world but `trace` is that of `w` up to the two counters, by reduction
      obtain ⟨w', evs, hext, hres⟩ :=
        ih (withPrintf (afterRow header w record true) pf) (idx + 1) m hw hd' (by simp at hn; omega)
      refine ⟨w', [.csvRead (some record), .addRow (Gen.recordRow header record) true] ++ pf.map .printf ++ evs,
        ⟨hext.env, hext.fs, hext.stopped, by rw [hext.trace]; simp [withPrintf, afterRow], ?_⟩, ?_⟩
      · intro e he
        simp only [List.mem_append, List.mem_cons, List.mem_nil_iff, or_false] at he
        rcases he with ((rfl | rfl) | h) | h
        · rfl
        · rfl
        · exact printf_isLoop pf e h
        · exact hext.loopOnly e h
      · rw [T8.forEver_next _ _ _ _ hstep]
        rcases hres with ⟨h1, h2, h3, h4⟩ | ⟨e, h1, h2⟩
        · left
          refine ⟨?_, h2, ?_, ?_⟩
          · rw [h1]; simp only [List.length_cons]; congr 2; omega
          · intro j hj
            cases j with
            | zero => exact hf'
            | succ j => rw [show w.rowsAdded + (j + 1) = w.rowsAdded + 1 + j by omega]; exact h3 j (by simp at hj; omega)
          · rw [List.filter_append, List.filter_append, printf_not_data, h4]; simp [rowEvents, List.filter_cons, Event.isData]
        · right
          refine ⟨e, h1, ?_⟩
          rcases h2 with h2 | ⟨j, hj, h2⟩
          · exact Or.inl h2
          · exact Or.inr ⟨j + 1, by simp; omega, by rw [show w.rowsAdded + (j + 1) = w.rowsAdded + 1 + j by omega]; exact h2⟩

/-- what `Gen.createCmd_k1` does after the loop ended normally in world `w1` (the two stdout formats and the error
    value are parameters: the theorems do not depend on the texts) -/
def tailFinish (g : globalConfig) (f1 f2 : Bytes) (e' : Err5) (iw : indexWriter) (w1 : World) : Option Err5 × World :=
  let w2 := if g.verbose = true then (printf w1 f1).1 else w1
  let fr := flush w2 iw
  if fr.2.isSome = true then (some e', fr.1) else (none, if g.verbose = true then (printf fr.1 f2).1 else fr.1)

/-- `tailFinish` from a running world is ONE `Flush`, with at most a line on stdout before it and, if it left the
    process running, at most another after it; its error becomes the function's error, its success `nil` -/
theorem tailFinish_eq (f1 f2 : Bytes) (e' : Err5) (w1 : World) (hs : w1.stopped = none) :
    ∃ pf1 pf2, (tailFinish g f1 f2 e' iw w1).1 = (flush (withPrintf w1 pf1) iw).2.map (fun _ => e') ∧
      ((flush (withPrintf w1 pf1) iw).1.stopped = none →
        (tailFinish g f1 f2 e' iw w1).2 = withPrintf (flush (withPrintf w1 pf1) iw).1 pf2) := by
  cases hv : g.verbose
  · refine ⟨[], [], ?_⟩
    rw [withPrintf_nil]
    simp only [tailFinish, hv, Bool.false_eq_true, if_false]
    cases (flush w1 iw).2 <;> simp [withPrintf_nil]
  · have hp : (printf w1 f1).1 = withPrintf w1 [f1] := by rw [printf_run _ hs]; rfl
    simp only [tailFinish, hv, if_true, hp]
    refine ⟨[f1], ?_⟩
    generalize flush (withPrintf w1 [f1]) iw = fr
    obtain ⟨w3, _ | e⟩ := fr
    · exact ⟨[f2], rfl, fun hs2 => by rw [printf_run _ hs2]; rfl⟩
    · exact ⟨[], rfl, fun _ => (withPrintf_nil _).symm⟩

theorem mem_loop_not_flush {evs : List Event} (h : ∀ e ∈ evs, e.isLoop = true) (b : Bool) : Event.flush b ∉ evs :=
  fun hm => Bool.false_ne_true (h _ hm)

/-- what `Flush` of the in-memory writer for output `o` does to a running world in which no transaction is open on
    `o`: its events, and the output path afterwards -/
theorem flush_mem_spec (o : Bytes) (w : World) (hs : w.stopped = none) (htx : w.fs.txOpen o = false) :
    let F := flush w (.mem ⟨o⟩)
    let blocked := w.fs.present o && w.env.flushExcl
    let okAll := !blocked && !w.env.boltFails o && !w.env.flushFails
    (∃ mid, F.1.trace = w.trace ++ mid ∧ (∀ e ∈ mid, e.isMemFlush o = true) ∧ mid.filter Event.isData = [.flush okAll]) ∧
    F.1.env = w.env ∧ F.1.stopped = none ∧ F.1.fs.txOpen = w.fs.txOpen ∧
    (∀ p, p ≠ o → F.1.fs.present p = w.fs.present p ∧ F.1.fs.touched p = w.fs.touched p ∧ F.1.fs.complete p = w.fs.complete p) ∧
    (F.2 = none ↔ okAll = true) ∧
    (blocked = true → F.1.fs = w.fs) ∧
    (blocked = false → F.1.fs.present o = true) ∧
    F.1.fs.touched o = (w.fs.touched o || (w.fs.present o && !w.env.flushExcl)) ∧
    F.1.fs.complete o = (okAll || w.fs.complete o) := by
  intro F blocked okAll
  simp only [F, blocked, okAll, flush_mem_run w hs o htx, true_and]
  refine ⟨⟨_, rfl, ?_, ?_⟩, hs, ?_⟩
  · intro e he
    rcases List.mem_cons.mp he with rfl | he
    · simp [Event.isMemFlush]
    · rcases List.mem_append.mp he with he | he
      · split at he
        · rw [List.mem_singleton.mp he]; simp [Event.isMemFlush]
        · cases he
      · rw [List.mem_singleton.mp he]; rfl
  · cases (!(w.fs.present o && w.env.flushExcl) && !w.env.boltFails o) <;> simp [List.filter_cons, Event.isData]
  · cases hb : (w.fs.present o && w.env.flushExcl)
    · simp only [Bool.not_false, if_true, Bool.true_and, Bool.false_eq_true, false_implies, true_implies, true_and, setAt_same]
      refine ⟨fun p hp => ⟨setAt_other _ _ _ _ hp, ?_, ?_⟩, ?_, ?_, ?_⟩
      · split <;> simp [setAt_other _ _ _ _ hp]
      · split <;> simp [setAt_other _ _ _ _ hp]
      · cases w.env.boltFails o <;> cases w.env.flushFails <;> simp
      · cases hp : w.fs.present o
        · simp
        · simp [show w.env.flushExcl = false by simpa [hp] using hb]
      · cases (!w.env.boltFails o && !w.env.flushFails) <;> simp
    · rw [Bool.and_eq_true] at hb
      simp [hb.1, hb.2]

section
variable (w : World) (hw : w.stopped = none) (recs : List (List Bytes))
  (hd : w.env.csv.drop w.csvPos = recs) (hn : recs.length < fuel)
include hw hd hn

/-- **the rest of `createCmd` once the writer is chosen** (`Gen.createCmd_k1`: the record loop, then `Flush`), from a
    running world whose reader still has the records `recs`, with enough fuel. Either the loop ends normally — all
    records added in order, then `io.EOF` — and `Flush` is called ONCE on the world the loop left (plus at most a line on
    stdout); its error becomes the function's error, its success `nil`. Or the loop returns an error and `Flush` is not
    reached. -/
theorem k1_spec (hiw : iw ≠ .nil) :
    ∃ w1 evs, LoopExt w w1 evs ∧
      ((w.env.csvEnd = .EOF ∧
          ¬ (w.env.csvEnd ≠ .EOF ∨ ∃ j, j < recs.length ∧ w.env.addRowFails (w.rowsAdded + j) = true) ∧
          evs.filter Event.isData = rowEvents header recs ++ [.csvRead none] ∧
          ∃ pf1 pf2 e',
            (Gen.createCmd_k1 toLower fuel w g header iw r).1 = (flush (withPrintf w1 pf1) iw).2.map (fun _ => e') ∧
            ((flush (withPrintf w1 pf1) iw).1.stopped = none →
              (Gen.createCmd_k1 toLower fuel w g header iw r).2 = withPrintf (flush (withPrintf w1 pf1) iw).1 pf2)) ∨
       (∃ e, Gen.createCmd_k1 toLower fuel w g header iw r = (some e, w1) ∧
          (w.env.csvEnd ≠ .EOF ∨ ∃ j, j < recs.length ∧ w.env.addRowFails (w.rowsAdded + j) = true))) := by
  obtain ⟨w1, evs, hext, hres⟩ := loop_spec toLower g header iw r fuel hiw recs w 0 fuel hw hd hn
  refine ⟨w1, evs, hext, ?_⟩
  rcases hres with ⟨h1, h2, h3, h4⟩ | ⟨e, h1, h2⟩
  · left
    refine ⟨h2, ?_, h4, ?_⟩
    · rintro (hc | ⟨j, hj, hc⟩)
      · exact hc h2
      · rw [h3 j hj] at hc; cases hc
    · obtain ⟨pf1, pf2, h⟩ := tailFinish_eq g iw _ _ _ w1 hext.stopped
      exact ⟨pf1, pf2, _, by simp only [Gen.createCmd_k1, h1]; exact h⟩
  · right
    exact ⟨e, by simp [Gen.createCmd_k1, h1], h2⟩

/-- what the tail of `createCmd` (`Gen.createCmd_k1`) did, BIG writer over output database `o` and temporary database
    `t`, started in world `w` with the records `recs` unread: `K` is its result -/
structure TailBig (w : World) (o t : Bytes) (recs : List (List Bytes)) (K : Option Err5 × World) : Prop where
  env : K.2.env = w.env
  stopped : K.2.stopped = none
  present : K.2.fs.present = w.fs.present
  touched : K.2.fs.touched = w.fs.touched
  txOpen : ∀ p, K.2.fs.txOpen p = true → w.fs.txOpen p = true
  trace : ∃ evs, K.2.trace = w.trace ++ evs ∧ (∀ e ∈ evs, e.isLoop = true ∨ ∃ b, e = .flush b) ∧
    (K.1 = none → evs.filter Event.isData = rowEvents header recs ++ [.csvRead none, .flush true]) ∧
    (K.1 ≠ none → Event.flush true ∉ evs) ∧
    ((w.env.csvEnd ≠ .EOF ∨ ∃ j, j < recs.length ∧ w.env.addRowFails (w.rowsAdded + j) = true) → ∀ b, Event.flush b ∉ evs)
  ok : K.1 = none → w.env.csvEnd = .EOF ∧ K.2.fs.complete = setAt w.fs.complete o true
  failed : K.1 ≠ none → K.2.fs.complete = w.fs.complete
  badInput : (w.env.csvEnd ≠ .EOF ∨ ∃ j, j < recs.length ∧ w.env.addRowFails (w.rowsAdded + j) = true) → K.1 ≠ none
  exact : w.env.csvEnd = .EOF → (∀ j, j < recs.length → w.env.addRowFails (w.rowsAdded + j) = false) →
    w.env.flushFails = false → K.1 = none

theorem k1_big (o t : Bytes) :
    TailBig header w o t recs (Gen.createCmd_k1 toLower fuel w g header (.big ⟨⟨o⟩, ⟨t⟩⟩) r) := by
  obtain ⟨w1, evs, hext, hres⟩ := k1_spec toLower fuel g header (.big ⟨⟨o⟩, ⟨t⟩⟩) r w hw recs hd hn (by simp)
  have hnf := mem_loop_not_flush hext.loopOnly
  rcases hres with ⟨h1, hnot, h3, pf1, pf2, e', hK1, hK2⟩ | ⟨e, hK, hc⟩
  · generalize Gen.createCmd_k1 toLower fuel w g header (.big ⟨⟨o⟩, ⟨t⟩⟩) r = K at hK1 hK2 ⊢
    rw [flush_big_run _ (show (withPrintf w1 pf1).stopped = none from hext.stopped)] at hK1 hK2
    obtain ⟨K1, K2⟩ := K
    dsimp only at hK1 hK2
    obtain rfl := hK2 hext.stopped
    have hK1 : K1 = none ↔ w.env.flushFails = false := by
      rw [← hext.env]; cases hff : w1.env.flushFails <;> simp [hK1, withPrintf, hff]
    have hsome : K1 ≠ none → w1.env.flushFails = true := fun hne => by
      rw [hext.env]; cases hff : w.env.flushFails
      · exact absurd (hK1.mpr hff) hne
      · rfl
    refine ⟨hext.env, hext.stopped, by rw [← hext.fs]; rfl, by rw [← hext.fs]; rfl, ?_, ?_, ?_, ?_,
      fun hc => absurd hc hnot, fun _ _ hff => hK1.mpr hff⟩
    · intro p hp
      by_cases hpt : p = t
      · subst hpt; simp [withPrintf] at hp
      · rw [← hext.fs]; simpa [withPrintf, setAt_other _ _ _ _ hpt] using hp
    · refine ⟨evs ++ pf1.map .printf ++ [.flush (!w1.env.flushFails)] ++ pf2.map .printf,
        by simp [withPrintf, hext.trace], ?_, ?_, ?_, fun hc => absurd hc hnot⟩
      · intro e he
        simp only [List.mem_append, List.mem_singleton] at he
        rcases he with ((he | he) | he) | he
        · exact Or.inl (hext.loopOnly e he)
        · exact Or.inl (printf_isLoop pf1 e he)
        · exact Or.inr ⟨_, he⟩
        · exact Or.inl (printf_isLoop pf2 e he)
      · intro hn'
        have hff := hK1.mp hn'
        rw [← hext.env] at hff
        simp [List.filter_append, List.filter_cons, h3, printf_not_data, hff, Event.isData]
      · intro hn' hm
        simp only [List.mem_append, List.mem_singleton, hsome hn'] at hm
        rcases hm with ((hm | hm) | hm) | hm
        · exact hnf _ hm
        · exact mem_loop_not_flush (printf_isLoop pf1) _ hm
        · cases hm
        · exact mem_loop_not_flush (printf_isLoop pf2) _ hm
    · intro hn'
      have hff := hK1.mp hn'
      rw [← hext.env] at hff
      exact ⟨h1, by simp [withPrintf, hff, hext.fs]⟩
    · intro hn'
      simp [withPrintf, hsome hn', hext.fs]
  · rw [hK]
    exact ⟨hext.env, hext.stopped, by rw [hext.fs], by rw [hext.fs], fun p hp => by rwa [hext.fs] at hp,
      ⟨evs, hext.trace, fun e he => Or.inl (hext.loopOnly e he), fun hn' => absurd hn' (by simp), fun _ => hnf _, fun _ => hnf⟩,
      fun hn' => absurd hn' (by simp), fun _ => by rw [hext.fs], fun _ => by simp, fun h1 h2 _ => by
        rcases hc with hc | ⟨j, hj, hc⟩
        · exact absurd h1 hc
        · rw [h2 j hj] at hc; cases hc⟩

/-- what the tail of `createCmd` (`Gen.createCmd_k1`) did with the IN-MEMORY writer for output path `o`, started in
    world `w` with the records `recs` unread: `K` is its result -/
structure TailMem (w : World) (o : Bytes) (recs : List (List Bytes)) (K : Option Err5 × World) : Prop where
  env : K.2.env = w.env
  stopped : K.2.stopped = none
  txOpen : K.2.fs.txOpen = w.fs.txOpen
  other : ∀ p, p ≠ o → K.2.fs.present p = w.fs.present p ∧ K.2.fs.touched p = w.fs.touched p ∧ K.2.fs.complete p = w.fs.complete p
  presentMono : w.fs.present o = true → K.2.fs.present o = true
  touched : K.2.fs.touched o = true → w.fs.touched o = true ∨ (w.fs.present o = true ∧ w.env.flushExcl = false)
  blocked : w.fs.present o = true → w.env.flushExcl = true → K.1 ≠ none ∧ K.2.fs = w.fs
  trace : ∃ evs, K.2.trace = w.trace ++ evs ∧ (∀ e ∈ evs, e.isLoop = true ∨ e.isMemFlush o = true) ∧
    (K.1 = none → evs.filter Event.isData = rowEvents header recs ++ [.csvRead none, .flush true]) ∧
    (K.1 ≠ none → Event.flush true ∉ evs) ∧
    ((w.env.csvEnd ≠ .EOF ∨ ∃ j, j < recs.length ∧ w.env.addRowFails (w.rowsAdded + j) = true) → ∀ e ∈ evs, e.isLoop = true)
  ok : K.1 = none → w.env.csvEnd = .EOF ∧ K.2.fs.complete o = true ∧ K.2.fs.present o = true ∧
    (w.env.flushExcl = true → w.fs.present o = false)
  failed : K.1 ≠ none → K.2.fs.complete o = w.fs.complete o
  badInput : (w.env.csvEnd ≠ .EOF ∨ ∃ j, j < recs.length ∧ w.env.addRowFails (w.rowsAdded + j) = true) → K.1 ≠ none ∧ K.2.fs = w.fs
  exact : w.env.csvEnd = .EOF → (∀ j, j < recs.length → w.env.addRowFails (w.rowsAdded + j) = false) →
    w.env.flushFails = false → w.env.boltFails o = false → (w.fs.present o && w.env.flushExcl) = false → K.1 = none

theorem k1_mem (o : Bytes) (htx : w.fs.txOpen o = false) :
    TailMem header w o recs (Gen.createCmd_k1 toLower fuel w g header (.mem ⟨o⟩) r) := by
  obtain ⟨w1, evs, hext, hres⟩ := k1_spec toLower fuel g header (.mem ⟨o⟩) r w hw recs hd hn (by simp)
  rcases hres with ⟨h1, hnot, h3, pf1, pf2, e', hK1, hK2⟩ | ⟨e, hK, hc⟩
  · generalize Gen.createCmd_k1 toLower fuel w g header (.mem ⟨o⟩) r = K at hK1 hK2 ⊢
    obtain ⟨⟨mid, ht, hmid, hmidd⟩, henv, hst, htxo, hoth, hok, hblk, hnb, htou, hco⟩ :=
      flush_mem_spec o (withPrintf w1 pf1) hext.stopped (by rw [← hext.fs] at htx; exact htx)
    generalize flush (withPrintf w1 pf1) (.mem ⟨o⟩) = F at *
    simp only [withPrintf, hext.fs, hext.env] at hoth hok hblk hnb htou hco hmidd htxo
    replace hK2 := hK2 hst
    have hKfs : F.1.fs = K.2.fs := by rw [hK2]; rfl
    rw [hKfs] at hoth hblk hnb htou hco htxo
    replace henv : K.2.env = w.env := by rw [hK2]; exact henv.trans hext.env
    replace hst : K.2.stopped = none := by rw [hK2]; exact hst
    replace hok : K.1 = none ↔ (!(w.fs.present o && w.env.flushExcl) && !w.env.boltFails o && !w.env.flushFails) = true := by
      rw [hK1, Option.map_eq_none_iff]; exact hok
    replace ht : K.2.trace = w.trace ++ (evs ++ pf1.map .printf ++ mid ++ pf2.map .printf) := by
      rw [hK2]; simp [withPrintf, ht, hext.trace]
    have hne : K.1 ≠ none → (!(w.fs.present o && w.env.flushExcl) && !w.env.boltFails o && !w.env.flushFails) = false :=
      fun hn' => Bool.eq_false_iff.mpr fun hq => hn' (hok.mpr hq)
    refine ⟨henv, hst, htxo, hoth, ?_, ?_, ?_, ⟨_, ht, ?_, ?_, ?_, fun hc => absurd hc hnot⟩, ?_, ?_, fun hc => absurd hc hnot, ?_⟩
    · intro hp
      rcases Bool.eq_false_or_eq_true w.env.flushExcl with hx | hx
      · have := hblk (by simp [hp, hx]); rw [this]; exact hp
      · exact hnb (by simp [hx])
    · intro ht'
      simpa [htou] using ht'
    · intro hp hx
      have hb : (w.fs.present o && w.env.flushExcl) = true := by simp [hp, hx]
      exact ⟨fun hn' => by simpa [hb] using hok.mp hn', hblk hb⟩
    · intro e he
      simp only [List.mem_append] at he
      rcases he with ((he | he) | he) | he
      · exact Or.inl (hext.loopOnly e he)
      · exact Or.inl (printf_isLoop pf1 e he)
      · exact Or.inr (hmid e he)
      · exact Or.inl (printf_isLoop pf2 e he)
    · intro hn'
      rw [List.filter_append, List.filter_append, List.filter_append, h3, printf_not_data, printf_not_data, hmidd, hok.mp hn']
      simp
    · intro hn' hm
      simp only [List.mem_append] at hm
      rcases hm with ((hm | hm) | hm) | hm
      · exact mem_loop_not_flush hext.loopOnly _ hm
      · exact mem_loop_not_flush (printf_isLoop pf1) _ hm
      · have : Event.flush true ∈ mid.filter Event.isData := List.mem_filter.mpr ⟨hm, rfl⟩
        rw [hmidd, hne hn'] at this; simp at this
      · exact mem_loop_not_flush (printf_isLoop pf2) _ hm
    · intro hn'
      have hq := hok.mp hn'
      have hb : (w.fs.present o && w.env.flushExcl) = false := by
        cases hb : (w.fs.present o && w.env.flushExcl)
        · rfl
        · simp [hb] at hq
      exact ⟨h1, by rw [hco, hq]; rfl, hnb hb, fun hx => by simpa [hx] using hb⟩
    · intro hn'
      rw [hco, hne hn']; rfl
    · intro _ _ hff hb hbl
      exact hok.mpr (by simp [hff, hb, hbl])
  · rw [hK]
    refine ⟨hext.env, hext.stopped, by rw [hext.fs], fun p _ => by simp [hext.fs], fun hp => by rwa [hext.fs],
      fun ht' => Or.inl (by rwa [hext.fs] at ht'), fun _ _ => ⟨by simp, hext.fs⟩, ?_, ?_, ?_, ?_, ?_⟩
    · exact ⟨evs, hext.trace, fun e he => Or.inl (hext.loopOnly e he), fun hn' => absurd hn' (by simp),
        fun _ => mem_loop_not_flush hext.loopOnly _, fun _ e he => hext.loopOnly e he⟩
    · intro hn'; simp at hn'
    · intro _; rw [hext.fs]
    · intro _; exact ⟨by simp, hext.fs⟩
    · intro h1 h2 _ _ _; rcases hc with hc | ⟨j, hj, hc⟩
      · exact absurd h1 hc
      · rw [h2 j hj] at hc; cases hc

end

end
end Updog.GeneratedEq
