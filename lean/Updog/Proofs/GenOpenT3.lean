/-
The generated `openIndexFromBoltDatabase` and getters against Model/Open.lean and Model/Getters.lean:
how a bbolt database is read as a `FileState` / an `Image`, and the validation sequence.
-/
import Updog.GeneratedFns
import Updog.Proofs.GoPreludeT3
import Updog.Proofs.GenFlushT3
import Updog.Model.Open
import Updog.Model.Getters
import Updog.Proofs.BigWriter
namespace Updog.GeneratedEq
open Updog.Go.T3

/-- the schema blob of bucket `data`: key `'S'` absent / gob decodes / does not decode -/
def blobOf (X : Ext) (d : BucketData) : Blob :=
  match dataGet d [83] with
  | none => .missing
  | some b => if (X.gobDecode b).isSome then .good else .bad

/-- the row counter of bucket `data`: key `'I'` absent / 4 bytes / any other length -/
def counterOf (d : BucketData) : Counter :=
  match dataGet d [73] with
  | none => .missing
  | some b => if b.length = 4 then .good else .malformed

/-- every value stored under a key that starts with `'V'` is a decodable bitmap -/
def vDecodable (X : Ext) (d : BucketData) : Bool :=
  (d.filter fun kv => hasPrefix kv.1 [86]).all fun kv => (X.roaringFromBuffer kv.2).isSome

/-- what `Model/Open.lean` sees of an (openable) bbolt database -/
def fileStateOf (X : Ext) (c : Buckets) : FileState :=
  match bucketsGet c dataName with
  | none => .bolt false .missing .missing true
  | some d => .bolt true (blobOf X d) (counterOf d) (vDecodable X d)

/-- the header of the file is valid: bucket, decodable schema, 4-byte counter -/
def headerOK (X : Ext) (c : Buckets) : Bool :=
  match bucketsGet c dataName with
  | none => false
  | some d => blobOf X d == .good && counterOf d == .good

/-- what follows the validation in `OpenIndexFromBoltDatabase`: the options in order, then the default getter -/
def openTail (X : Ext) (db : DBRef) (opts : List IndexOption) (bolt : Bolt) (hp : Heap) (idx : Go.T3.Index) :
    Bolt × Heap × Option Go.T3.Index × Error :=
  match forRange opts (bolt, hp, idx) (Gen.openIndexFromBoltDatabase_loop1 X db opts nilError) with
  | .ret r => r
  | .next (bolt, hp, idx) =>
    (bolt, hp, some (if idx.values.isNil then { idx with values := Gen.newOnDemandColGetter idx.db } else idx), nilError)

/-- **the validation sequence of `OpenIndexFromBoltDatabase`**: bucket present, then schema present, then schema decodes,
    then the counter has 4 bytes. If any of these fails the call returns `(nil, err)` and the database is CLOSED;
    otherwise the index holds the decoded schema and counter and the options run. The read transaction is over in
    both cases. -/
theorem open_view (X : Ext) (i n : Nat) (c : Buckets) (cs : List (List PutRec)) (hp : Heap) (opts : List IndexOption) :
    let r := Gen.openIndexFromBoltDatabase X { id := i, closed := false, committed := c, tx := none, nextTx := n, commits := cs } hp (some i) opts
    if headerOK X c then
      ∃ d sb s cb, bucketsGet c dataName = some d ∧ dataGet d [83] = some sb ∧ X.gobDecode sb = some s ∧
        dataGet d [73] = some cb ∧ cb.length = 4 ∧
        r = openTail X (some i) opts { id := i, closed := false, committed := c, tx := none, nextTx := n + 1, commits := cs } hp
              { schema := some s, nextRowID := beUint32 cb, db := some i, cache := .nullCache, metrics := .fresh }
    else
      r.2.2.2.isSome = true ∧ r.2.2.1 = none ∧ r.2.1 = hp ∧
      r.1 = { id := i, closed := true, committed := c, tx := none, nextTx := n + 1, commits := cs } := by
  intro r
  have hd : ([100, 97, 116, 97] : Bytes) = dataName := rfl
  have hks : Gen.keySchema = [83] := rfl
  have hki : Gen.keyNextRowID = [73] := rfl
  have hr : r = Gen.openIndexFromBoltDatabase X { id := i, closed := false, committed := c, tx := none, nextTx := n, commits := cs } hp (some i) opts := rfl
  clear_value r
  unfold Gen.openIndexFromBoltDatabase at hr
  unfold headerOK blobOf counterOf
  -- every case evaluates the call along its own path only: `↓reduceIte` decides a test before looking at the branches
  cases hb : bucketsGet c dataName with
  | none =>
    simp only [↓dbView_mk, txBucket_ro, hd, hb, Option.isSome_none, Option.isNone_none, Bool.false_eq_true, ↓reduceIte,
      txRollback_ro, errorsNew, isErr_some, dbClose_mk] at hr
    subst hr
    simp
  | some d =>
    cases hs : dataGet d [83] with
    | none =>
      simp only [↓dbView_mk, txBucket_ro, hd, hks, hb, hs, Option.isSome_some, Option.isNone_some, Option.isNone_none,
        Bool.false_eq_true, ↓reduceIte, bucketGet_ro _ _ _ _ _ _ d hb, txRollback_ro, errorsNew, isErr_some, dbClose_mk] at hr
      subst hr
      simp [hs]
    | some sb =>
      cases hg : X.gobDecode sb with
      | none =>
        simp only [↓dbView_mk, txBucket_ro, hd, hks, hb, hs, hg, Option.isSome_some, Option.isNone_some,
          Bool.false_eq_true, ↓reduceIte, bucketGet_ro _ _ _ _ _ _ d hb, bytesOf, Option.getD_some, gobDecode,
          txRollback_ro, isErr_some, dbClose_mk] at hr
        subst hr
        simp [hs, hg]
      | some sv =>
        cases hi : dataGet d [73] with
        | none =>
          have h0 : (((0 : Nat) : Int) != 4) = true := by decide
          simp only [↓dbView_mk, txBucket_ro, hd, hks, hki, hb, hs, hg, hi, Option.isSome_some, Option.isNone_some,
            Bool.false_eq_true, ↓reduceIte, bucketGet_ro _ _ _ _ _ _ d hb, bytesOf, Option.getD_some, Option.getD_none,
            gobDecode, isErr_none, Go.len, List.length_nil, h0, txRollback_ro, errorsNew, isErr_some, dbClose_mk] at hr
          subst hr
          simp [hs, hg, hi]
        | some cb =>
          by_cases hl : cb.length = 4
          · have h0 : (((cb.length : Nat) : Int) != 4) = false := by simp [hl]
            simp only [↓dbView_mk, txBucket_ro, hd, hks, hki, hb, hs, hg, hi, Option.isSome_some, Option.isNone_some,
              Bool.false_eq_true, ↓reduceIte, bucketGet_ro _ _ _ _ _ _ d hb, bytesOf, Option.getD_some,
              gobDecode, isErr_none, isErr_nilError, Go.len, h0, txRollback_ro] at hr
            subst hr
            simp only [hs, hg, hi, hl, Option.isSome_some, if_true, beq_self_eq_true, Bool.and_self]
            exact ⟨d, sb, sv, cb, rfl, hs, hg, hi, hl, rfl⟩
          · have h0 : (((cb.length : Nat) : Int) != 4) = true := by
              have : ¬ ((cb.length : Nat) : Int) = 4 := by omega
              simpa using this
            simp only [↓dbView_mk, txBucket_ro, hd, hks, hki, hb, hs, hg, hi, Option.isSome_some, Option.isNone_some,
              Bool.false_eq_true, ↓reduceIte, bucketGet_ro _ _ _ _ _ _ d hb, bytesOf, Option.getD_some,
              gobDecode, isErr_none, Go.len, h0, txRollback_ro, errorsNew, isErr_some, dbClose_mk] at hr
            subst hr
            simp [hs, hg, hi, hl]

/-! ### getters -/

/-- the `'V'` keys of bucket `data` as the model's `Image`: value index ↦ what `FromBuffer` makes of the stored bytes,
    in cursor order -/
def imageOfData (X : Ext) (d : BucketData) : Image :=
  (d.filter fun kv => hasPrefix kv.1 [86]).map fun kv => (beUint64 (kv.1.drop 1), X.roaringFromBuffer kv.2)

/-- every `'V'` key is `'V'` followed by a big-endian 8-byte value index (what both writers produce) -/
def WellKeyed (d : BucketData) : Prop := ∀ kv ∈ d, hasPrefix kv.1 [86] = true → ∃ h : UInt64, kv.1 = 86 :: be64 h.toNat

theorem be64_inj (a b : UInt64) (h : be64 a.toNat = be64 b.toNat) : a = b := by
  rw [← beUint64_be64 a, ← beUint64_be64 b, h]

theorem get_imageOfData (X : Ext) (d : BucketData) (wk : WellKeyed d) (key : UInt64) :
    Image.get (imageOfData X d) key = (dataGet d (86 :: be64 key.toNat)).map X.roaringFromBuffer := by
  induction d with
  | nil => rfl
  | cons kv rest ih =>
    obtain ⟨k, v⟩ := kv
    have ih' := ih (fun q hq => wk q (List.mem_cons_of_mem _ hq))
    by_cases hpre : hasPrefix k [86] = true
    · obtain ⟨h', e⟩ := wk (k, v) (by simp) hpre
      subst e
      have him : imageOfData X ((86 :: be64 h'.toNat, v) :: rest) = (h', X.roaringFromBuffer v) :: imageOfData X rest := by
        simp only [imageOfData, List.filter_cons, hpre, if_true, List.map_cons, List.drop_succ_cons, List.drop_zero, beUint64_be64]
      rw [him]
      by_cases hk : h' = key
      · subst hk; simp [Image.get, dataGet]
      · have h1 : (h' == key) = false := by simpa using hk
        have h2 : ((86 :: be64 h'.toNat) == (86 :: be64 key.toNat)) = false := by
          have : ¬ be64 h'.toNat = be64 key.toNat := fun e => hk (be64_inj _ _ e)
          simpa using this
        simp only [Image.get, dataGet, h1, h2, Bool.false_eq_true, if_false, ih']
    · have hpre' : hasPrefix k [86] = false := by simpa using hpre
      have him : imageOfData X ((k, v) :: rest) = imageOfData X rest := by
        simp only [imageOfData, List.filter_cons, hpre', Bool.false_eq_true, if_false]
      have h2 : (k == (86 :: be64 key.toNat)) = false := by
        have : ¬ k = 86 :: be64 key.toNat := by
          intro e; rw [e] at hpre'; simp [hasPrefix] at hpre'
        simpa using this
      rw [him, ih']
      simp only [dataGet, h2, Bool.false_eq_true, if_false]

/-- Go's `(*roaring.Bitmap, error)` read off the heap -/
def answerOf (hp : Heap) (p : Ptr) (err : Error) : GetColAnswer :=
  if isErr err then .error () else .ok (p.map fun a => hp.bitmaps.getD a 0)

theorem onDemandGetCol_spec (X : Ext) (i n : Nat) (c : Buckets) (cs : List (List PutRec)) (hp : Heap) (d : BucketData)
    (key : UInt64) (hb : bucketsGet c dataName = some d) (wk : WellKeyed d) (hnil : X.roaringFromBuffer [] = none) :
    let r := Gen.onDemandGetCol X { id := i, closed := false, committed := c, tx := none, nextTx := n, commits := cs } hp
      { db := some i } key
    answerOf r.2.1 r.2.2.1 r.2.2.2 = onDemandAnswer (imageOfData X d) key ∧
    r.1 = { id := i, closed := false, committed := c, tx := none, nextTx := n + 1, commits := cs } := by
  intro r
  have hd : ([100, 97, 116, 97] : Bytes) = dataName := rfl
  have hkp : Gen.keyPrefixValue ++ be64 key.toNat = 86 :: be64 key.toNat := rfl
  have hr : r = Gen.onDemandGetCol X { id := i, closed := false, committed := c, tx := none, nextTx := n, commits := cs } hp
      { db := some i } key := rfl
  clear_value r
  unfold Gen.onDemandGetCol at hr
  simp only [↓dbView_mk, txBucket_ro, hd, hb, Option.isSome_some, if_true, putU64_full, hkp,
    bucketGet_ro _ _ _ _ _ _ d hb, roaringNew_eq] at hr
  unfold onDemandAnswer onDemandGet
  rw [get_imageOfData X d wk key]
  cases hg : dataGet d (86 :: be64 key.toNat) with
  | none =>
    simp only [hg, bytesOf, Option.getD_none, bitmapFromBuffer, hnil, isErr_some, if_true, txRollback_ro] at hr
    subst hr
    simp [answerOf, isErr, Except.map]
  | some v =>
    cases hf : X.roaringFromBuffer v with
    | none =>
      simp only [hg, bytesOf, Option.getD_some, bitmapFromBuffer, hf, isErr_some, if_true, txRollback_ro] at hr
      subst hr
      simp [answerOf, isErr, Except.map, hf]
    | some b =>
      simp only [hg, bytesOf, Option.getD_some, bitmapFromBuffer, hf, isErr_none, Bool.false_eq_true, if_false,
        isErr_nilError, txRollback_ro] at hr
      subst hr
      simp [answerOf, isErr, Except.map, hf, nilError, allocBm]

/-! ### the preload loop -/

/-- the heap after `bm := roaring.New(); bm.FromBuffer(v)` succeeded with the set `b` -/
def allocLoad (hp : Heap) (b : Nat) : Heap := { hp with bitmaps := hp.bitmaps ++ [b] }

theorem fromBuffer_new (X : Ext) (hp : Heap) (v : Bytes) :
    bitmapFromBuffer X (allocBm hp) (some hp.bitmaps.length) v =
      match X.roaringFromBuffer v with
      | none => (allocBm hp, (0, some [102, 114, 111, 109, 66, 117, 102, 102, 101, 114]))
      | some b => (allocLoad hp b, ((v.length : Int), none)) := by
  unfold bitmapFromBuffer
  cases X.roaringFromBuffer v with
  | none => rfl
  | some b => simp [allocBm, allocLoad]

abbrev PreSt := Heap × PreloadedColGetter × Cursor × Option Bytes × Option Bytes

/-- the key has the prefix `'V'`: the loop of `newPreloadedColGetter` goes on while this holds -/
def isV (kv : Bytes × Bytes) : Bool := hasPrefix kv.1 [86]

/-- its body on the pair `kv`: `bm := roaring.New(); bm.FromBuffer(v)` (the function returns if this fails), then
    `cg.values[key] = bm` -/
def preBody (X : Ext) (s : Heap × PreloadedColGetter) (kv : Bytes × Bytes) :
    Ctl (Heap × PreloadedColGetter) (Heap × PreloadedColGetter) :=
  match X.roaringFromBuffer kv.2 with
  | none => .ret (allocBm s.1, s.2)
  | some b => .next (allocLoad s.1 b, { s.2 with values := mapSet s.2.values (beUint64 (kv.1.drop 1)) (some s.1.bitmaps.length) })

theorem preload_loop (X : Ext) (i n : Nat) (c : Buckets) (cs : List (List PutRec)) (db : DBRef) (d : BucketData)
    (hb : bucketsGet c dataName = some d) (p : Nat) (s : Heap × PreloadedColGetter) :
    ∃ p', forWhile (d.length + 1)
        ((s.1, s.2, ({ bucket := some (n, dataName), pos := p } : Cursor), (d[p]?).map (·.1), (d[p]?).map (·.2)) : PreSt)
        (Gen.newPreloadedColGetter_loop1_cond X (roView i n c cs) db (some n))
        (Gen.newPreloadedColGetter_loop1_body X (roView i n c cs) db (some n))
      = (forList (fun _ => isV) (preBody X) (d.drop p) s).map
          (fun r => (roView i n c cs, r, some [102, 114, 111, 109, 66, 117, 102, 102, 101, 114]))
          (fun s' => (s'.1, s'.2, { bucket := some (n, dataName), pos := p' }, (d[p']?).map (·.1), (d[p']?).map (·.2))) := by
  refine forWhile_cursor d
    (fun p s => (s.1, s.2, ({ bucket := some (n, dataName), pos := p } : Cursor), (d[p]?).map (·.1), (d[p]?).map (·.2)))
    _ _ _ (fun _ => isV) (preBody X) ?_ ?_ ?_ (d.drop p) p s (d.length + 1) rfl (by simp; omega)
  · intro p s h
    simp only [Gen.newPreloadedColGetter_loop1_cond, h, Option.map_none, Option.isSome_none, Bool.false_and]
  · intro p s x h
    simp only [Gen.newPreloadedColGetter_loop1_cond, h, Option.map_some, Option.isSome_some, Bool.true_and, bytesOf,
      Option.getD_some, isV]
    rfl
  · intro p s x h
    simp only [Gen.newPreloadedColGetter_loop1_body, h, Option.map_some, bytesOf, Option.getD_some, roaringNew_eq,
      fromBuffer_new, preBody, cursorNext_ro i n c cs dataName d hb, Go.sliceFrom]
    cases X.roaringFromBuffer x.2 <;> rfl

/-! ### the cursor walk on a sorted bucket visits exactly the `'V'` keys -/

/-- bbolt keeps the keys of a bucket in bytewise ascending order -/
def SortedData (d : BucketData) : Prop := d.Pairwise fun a b => bytesLt a.1 b.1 = true

theorem bytesLt_nil_right (t : Bytes) : bytesLt t [] = false := by cases t <;> rfl

theorem lt_V_not_prefix (k : Bytes) (h : bytesLt k [86] = true) : hasPrefix k [86] = false := by
  cases k with
  | nil => rfl
  | cons a t =>
    rw [bytesLt_cons, bytesLt_nil_right] at h
    have ha : a.toNat < 86 := by simpa using h
    have : ¬ (86 : UInt8) = a := by intro e; rw [← e] at ha; simp at ha
    simp [hasPrefix, List.isPrefixOf, this]

theorem ge_V_not_prefix (k : Bytes) (h1 : bytesLt k [86] = false) (h2 : hasPrefix k [86] = false) :
    ∃ a t, k = a :: t ∧ 86 < a.toNat := by
  cases k with
  | nil => simp [bytesLt] at h1
  | cons a t =>
    refine ⟨a, t, rfl, ?_⟩
    rw [bytesLt_cons, bytesLt_nil_right] at h1
    have ha : ¬ a.toNat < 86 := by simpa using h1
    have hne : ¬ (86 : UInt8) = a := by
      intro e; subst e; simp [hasPrefix, List.isPrefixOf] at h2
    have : a.toNat ≠ 86 := by
      intro e; apply hne; apply UInt8.toNat_inj.mp; simpa using e.symm
    omega

theorem gt_V_later (a : UInt8) (t x : Bytes) (ha : 86 < a.toNat) (h : bytesLt (a :: t) x = true) : hasPrefix x [86] = false := by
  cases x with
  | nil => rfl
  | cons b u =>
    rw [bytesLt_cons] at h
    have hb : 86 < b.toNat := by
      rcases Bool.or_eq_true _ _ |>.mp h with h | h
      · have : a.toNat < b.toNat := by simpa using h
        omega
      · have : a.toNat = b.toNat := by
          have := (Bool.and_eq_true _ _ |>.mp h).1
          simpa using this
        omega
    have : ¬ (86 : UInt8) = b := by intro e; rw [← e] at hb; simp at hb
    simp [hasPrefix, List.isPrefixOf, this]

theorem filter_eq_takeWhile (L : BucketData) (hs : SortedData L) (hge : ∀ kv ∈ L, bytesLt kv.1 [86] = false) :
    L.filter isV = L.takeWhile isV := by
  induction L with
  | nil => rfl
  | cons kv rest ih =>
    have hs' := List.pairwise_cons.mp hs
    by_cases hv : isV kv = true
    · simp only [List.filter_cons, List.takeWhile_cons, hv, if_true]
      rw [ih hs'.2 (fun q hq => hge q (List.mem_cons_of_mem _ hq))]
    · have hv' : isV kv = false := by simpa using hv
      obtain ⟨a, t, e, ha⟩ := ge_V_not_prefix kv.1 (hge kv (by simp)) hv'
      simp only [List.filter_cons, List.takeWhile_cons, hv', Bool.false_eq_true, if_false]
      apply List.filter_eq_nil_iff.mpr
      intro q hq
      have := hs'.1 q hq
      rw [e] at this
      simp [isV, gt_V_later a t q.1 ha this]

theorem drop_seek_ge (d : BucketData) (hs : SortedData d) : ∀ kv ∈ d.drop (seekPos d [86]), bytesLt kv.1 [86] = false := by
  induction d with
  | nil => simp
  | cons kv rest ih =>
    have hs' := List.pairwise_cons.mp hs
    by_cases hlt : bytesLt kv.1 [86] = true
    · simp only [seekPos, hlt, if_true, List.drop_succ_cons]
      exact ih hs'.2
    · have hlt' : bytesLt kv.1 [86] = false := by simpa using hlt
      simp only [seekPos, hlt', Bool.false_eq_true, if_false, List.drop_zero]
      intro q hq
      rcases List.mem_cons.mp hq with rfl | hq
      · exact hlt'
      · rcases bytesLt_cotrans kv.1 q.1 [86] (hs'.1 q hq) with h | h
        · exact bytesLt_asymm h
        · rw [hlt'] at h; cases h

theorem filter_drop_seek (d : BucketData) : d.filter isV = (d.drop (seekPos d [86])).filter isV := by
  induction d with
  | nil => rfl
  | cons kv rest ih =>
    by_cases hlt : bytesLt kv.1 [86] = true
    · have : isV kv = false := lt_V_not_prefix kv.1 hlt
      simp only [seekPos, hlt, if_true, List.drop_succ_cons, List.filter_cons, this, Bool.false_eq_true, if_false]
      exact ih
    · have hlt' : bytesLt kv.1 [86] = false := by simpa using hlt
      simp only [seekPos, hlt', Bool.false_eq_true, if_false, List.drop_zero]

theorem walk_eq_filter (d : BucketData) (hs : SortedData d) :
    d.filter isV = (d.drop (seekPos d [86])).takeWhile isV := by
  rw [filter_drop_seek, filter_eq_takeWhile _ (hs.sublist (List.drop_sublist _ _)) (drop_seek_ge d hs)]

/-! ### the preload loop against `preloadFold` -/

/-- the Go map `cg.values` with its bitmaps, as the model's `UInt64 → Option Nat` (`none` = nil pointer) -/
def absCG (hp : Heap) (cg : PreloadedColGetter) : UInt64 → Option Nat :=
  fun h => (mapGet cg.values h nilPtr).map fun a => hp.bitmaps.getD a 0

def ValidCG (hp : Heap) (cg : PreloadedColGetter) : Prop :=
  ∀ kp ∈ cg.values, ∃ a, kp.2 = some a ∧ a < hp.bitmaps.length

/-- the keys the loop visits, as the model's image -/
def imageRun (X : Ext) (L : BucketData) : Image :=
  (L.takeWhile isV).map fun kv => (beUint64 (kv.1.drop 1), X.roaringFromBuffer kv.2)

theorem absCG_load (hp : Heap) (cg : PreloadedColGetter) (hv : ValidCG hp cg) (k : UInt64) (b : Nat) :
    ValidCG (allocLoad hp b) { cg with values := mapSet cg.values k (some hp.bitmaps.length) } ∧
    absCG (allocLoad hp b) { cg with values := mapSet cg.values k (some hp.bitmaps.length) }
      = fun h => if h == k then some b else absCG hp cg h := by
  have hlen : (allocLoad hp b).bitmaps.length = hp.bitmaps.length + 1 := by simp [allocLoad]
  refine ⟨?_, ?_⟩
  · intro kp hkp
    rw [hlen]
    rcases mem_mapSet _ _ _ kp hkp with e | hm
    · exact ⟨_, e, by omega⟩
    · obtain ⟨a, ea, ha⟩ := hv kp hm; exact ⟨a, ea, by omega⟩
  · funext h
    simp only [absCG, mapGet_mapSet]
    cases hh : (h == k) with
    | true => simp [allocLoad]
    | false =>
      simp only [Bool.false_eq_true, if_false]
      rcases mapGet_mem_or cg.values h nilPtr with h0 | ⟨kp, hkp, e⟩
      · rw [h0]; rfl
      · obtain ⟨a, ea, ha⟩ := hv kp hkp
        rw [← e, ea]
        simp [allocLoad, List.getD_eq_getElem?_getD, List.getElem?_append_left ha]

theorem preload_fold (X : Ext) (L : BucketData) : ∀ (s : Heap × PreloadedColGetter), ValidCG s.1 s.2 →
    match forList (fun _ => isV) (preBody X) L s with
    | .ret _ => preloadFold (imageRun X L) (absCG s.1 s.2) = none
    | .next s' => preloadFold (imageRun X L) (absCG s.1 s.2) = some (absCG s'.1 s'.2) ∧ ValidCG s'.1 s'.2 := by
  induction L with
  | nil => intro s hv; exact ⟨rfl, hv⟩
  | cons kv rest ih =>
    intro s hv
    cases hpre : isV kv with
    | false =>
      simp only [forList, hpre, Bool.false_eq_true, if_false, imageRun, List.takeWhile_cons, List.map_nil, preloadFold]
      exact ⟨trivial, hv⟩
    | true =>
      simp only [forList, hpre, if_true, preBody, imageRun, List.takeWhile_cons, List.map_cons]
      cases hf : X.roaringFromBuffer kv.2 with
      | none => simp only [preloadFold]
      | some b =>
        obtain ⟨hv', hstep⟩ := absCG_load s.1 s.2 hv (beUint64 (kv.1.drop 1)) b
        simp only [preloadFold, ← hstep]
        exact ih _ hv'

theorem imageOfData_eq_run (X : Ext) (d : BucketData) (hs : SortedData d) :
    imageOfData X d = imageRun X (d.drop (seekPos d [86])) := by
  unfold imageOfData imageRun
  have := walk_eq_filter d hs
  unfold isV at this
  rw [this]
  rfl

theorem newPreloaded_spec (X : Ext) (i n : Nat) (c : Buckets) (cs : List (List PutRec)) (hp : Heap) (d : BucketData)
    (hb : bucketsGet c dataName = some d) (hs : SortedData d) :
    let r := Gen.newPreloadedColGetter X { id := i, closed := false, committed := c, tx := none, nextTx := n, commits := cs } hp (some i)
    r.1 = { id := i, closed := false, committed := c, tx := none, nextTx := n + 1, commits := cs } ∧
    match preloadOpen (imageOfData X d) with
    | none => isErr r.2.2.2 = true ∧ r.2.2.1.isNil = true
    | some g => r.2.2.2 = none ∧ ∃ cg, r.2.2.1 = .preloaded cg ∧ absCG r.2.1 cg = g := by
  intro r
  have hd : ([100, 97, 116, 97] : Bytes) = dataName := rfl
  have hkp : Gen.keyPrefixValue = [86] := rfl
  have hr : r = Gen.newPreloadedColGetter X { id := i, closed := false, committed := c, tx := none, nextTx := n, commits := cs } hp (some i) := rfl
  clear_value r
  obtain ⟨p', hl⟩ := preload_loop X i n c cs (some i) d hb (seekPos d [86]) (hp, { values := [] })
  have hf := preload_fold X (d.drop (seekPos d [86])) (hp, { values := [] }) (by intro kp hkp; cases hkp)
  rw [← imageOfData_eq_run X d hs, show absCG hp { values := [] } = fun _ => none from rfl] at hf
  unfold Gen.newPreloadedColGetter at hr
  simp only [↓dbView_mk, txBucket_ro, hd, hb, Option.isSome_some, if_true, hkp, makeMap,
    cursorSeek_ro i n c cs dataName d hb, cursorFuel_ro i n c cs dataName d hb, hl] at hr
  unfold preloadOpen
  cases hrun : forList (fun _ => isV) (preBody X) (d.drop (seekPos d [86])) (hp, { values := [] }) with
  | ret e =>
    rw [hrun] at hf
    simp only [hrun, Ctl.map, txRollback_ro, isErr_some, if_true] at hr
    subst hr
    rw [hf]
    exact ⟨rfl, rfl, rfl⟩
  | next s' =>
    rw [hrun] at hf
    simp only [hrun, Ctl.map, txRollback_ro, isErr_nilError, Bool.false_eq_true, if_false] at hr
    subst hr
    rw [hf.1]
    exact ⟨rfl, rfl, s'.2, rfl, rfl⟩

end Updog.GeneratedEq
