/-
Helper lemmas for Props/C01Getters.lean: the preload loop as a function of the image, the writer's image,
distinct keys of the writer's value map, and the generic group-by step over a concrete getter.
-/
import Updog.Model.Getters
import Updog.Proofs.BoltTx
namespace Updog

theorem Image.get_cons (k : UInt64) (v : Option Nat) (rest : Image) (h : UInt64) :
    Image.get ((k, v) :: rest) h = if k == h then some v else Image.get rest h := rfl

theorem Image.get_eq_none_of_not_mem (img : Image) (h : UInt64) (hn : h ∉ img.keys) : img.get h = none := by
  induction img with
  | nil => rfl
  | cons p rest ih =>
    obtain ⟨hne, hr⟩ := not_or.mp (mt List.mem_cons.mpr hn)
    rw [Image.get_cons, if_neg (mt beq_iff_eq.mp (Ne.symm hne))]
    exact ih hr

/-- with every value decodable and distinct keys, the preload loop yields exactly the stored bitmaps (on top of
    whatever the map held before) -/
theorem preloadFold_eq (img : Image) (m : UInt64 → Option Nat) (hdec : img.AllDecodable) (hnd : img.KeysDistinct) :
    preloadFold img m = some (fun h => ((img.get h).join).or (m h)) := by
  induction img generalizing m with
  | nil => rfl
  | cons p rest ih =>
    obtain ⟨k, v⟩ := p
    obtain ⟨b, rfl⟩ := Option.isSome_iff_exists.mp (hdec (k, v) (List.mem_cons_self ..))
    obtain ⟨hk, hr⟩ := List.nodup_cons.mp hnd
    rw [preloadFold, ih _ (fun q hq => hdec q (List.mem_cons_of_mem _ hq)) hr]
    congr 1
    funext h
    rw [Image.get_cons]
    by_cases e : k = h
    · subst e
      rw [Image.get_eq_none_of_not_mem rest k hk, if_pos (beq_self_eq_true k), if_pos (beq_self_eq_true k)]
      rfl
    · rw [if_neg (mt beq_iff_eq.mp e), if_neg (mt beq_iff_eq.mp (Ne.symm e))]

theorem preloadFold_eq_none_iff (img : Image) (m : UInt64 → Option Nat) :
    preloadFold img m = none ↔ ¬ img.AllDecodable := by
  induction img generalizing m with
  | nil => exact ⟨(fun e => nomatch e), (fun h => absurd (fun _ hp => nomatch hp) h)⟩
  | cons p rest ih =>
    obtain ⟨k, v⟩ := p
    cases v with
    | none => exact ⟨(fun _ h => nomatch h (k, none) (List.mem_cons_self ..)), (fun _ => rfl)⟩
    | some b =>
      rw [preloadFold, ih]
      exact not_congr ⟨(fun h q hq => (List.mem_cons.mp hq).elim (fun e => e ▸ rfl) (h q)),
        (fun h q hq => h q (List.mem_cons_of_mem _ hq))⟩

theorem imageOf_allDecodable (m : ValMap) : (imageOf m).AllDecodable := by
  intro p hp
  obtain ⟨kb, _, rfl⟩ := List.mem_map.mp hp
  rfl

theorem imageOf_keys (m : ValMap) : (imageOf m).keys = m.map (·.1) := by
  simp [imageOf, Image.keys, Function.comp_def]

theorem get_imageOf (m : ValMap) (h : UInt64) : (imageOf m).get h = (m.get h).map some := by
  induction m with
  | nil => rfl
  | cons kb rest ih =>
    obtain ⟨k, b⟩ := kb
    simp only [imageOf, List.map_cons, Image.get, ValMap.get]
    split
    · rfl
    · exact ih

section
variable (H : Bytes → UInt64)

theorem writer_image_keysDistinct (rows : List Row) :
    (imageOf (Writer.addRows H {} rows).vals).KeysDistinct := by
  unfold Image.KeysDistinct
  rw [imageOf_keys]
  exact addRows_nodup H rows {} KeysNodup.nil

end

/-! ### every value recorded in the writer's schema has a bitmap -/

theorem ValMap.mem_keys_addBit (m : ValMap) (h h' : UInt64) (i : Nat) (hm : h' = h ∨ h' ∈ m.map (·.1)) :
    h' ∈ (m.addBit h i).map (·.1) := by
  rw [ValMap.addBit_eq_put]; exact (ValMap.mem_keys_put ..).mpr hm

theorem mem_addVal {vs : List (Bytes × UInt64)} {v : Bytes} {h : UInt64} {p : Bytes × UInt64}
    (hp : p ∈ addVal vs v h) : p ∈ vs ∨ p = (v, h) := by
  unfold addVal at hp
  split at hp
  · exact Or.inl hp
  · simpa using hp

/-- every value index recorded in the schema is a key of the value map -/
def Covered (w : Writer) : Prop :=
  ∀ c vs, w.schema.col c = some vs → ∀ p ∈ vs, p.2 ∈ w.vals.map (·.1)

section
variable (H : Bytes → UInt64)

theorem Covered.addPair {w : Writer} (hw : Covered w) (i : Nat) (kv : Bytes × Bytes) :
    Covered (Writer.addPair H i w kv) := by
  intro c vs hcol p hp
  simp only [Writer.addPair] at hcol ⊢
  rw [Schema.col_add] at hcol
  split at hcol
  · simp only [Option.some.injEq] at hcol
    subst hcol
    rcases mem_addVal hp with hold | hnew
    · cases hc : w.schema.col kv.1 with
      | none => simp [hc] at hold
      | some vs0 =>
        simp only [hc, Option.getD_some] at hold
        exact ValMap.mem_keys_addBit _ _ _ _ (Or.inr (hw _ vs0 hc p hold))
    · subst hnew
      exact ValMap.mem_keys_addBit _ _ _ _ (Or.inl rfl)
  · exact ValMap.mem_keys_addBit _ _ _ _ (Or.inr (hw c vs hcol p hp))

theorem covered_addRows (rows : List Row) (w : Writer) (hw : Covered w) : Covered (Writer.addRows H w rows) :=
  List.foldlRecOn (motive := Covered) rows (Writer.addRow H) hw fun w' h r _ =>
    List.foldlRecOn (motive := Covered) r (Writer.addPair H w'.next) h fun _ h kv _ => h.addPair H _ kv

theorem writer_schema_present (rows : List Row) (c : Bytes) (vs : List (Bytes × UInt64))
    (hcol : (Writer.addRows H {} rows).schema.col c = some vs) (p : Bytes × UInt64) (hp : p ∈ vs) :
    ∃ b, (Writer.addRows H {} rows).vals.get p.2 = some b :=
  Option.isSome_iff_exists.mp <| (ValMap.isSome_get_iff ..).mpr <|
    covered_addRows H rows {} (fun _ _ h => nomatch h) c vs hcol p hp

theorem populateGroupBy_present (rows : List Row) (cols : List Bytes) (fields : List GBField)
    (hf : populateGroupBy (Writer.addRows H {} rows).schema cols = some fields) :
    ∀ gbf ∈ fields, ∀ v ∈ gbf.values, ∃ b, (Writer.addRows H {} rows).vals.get v.2 = some b := by
  induction cols generalizing fields with
  | nil =>
    simp only [populateGroupBy, Option.some.injEq] at hf
    subst hf
    intro gbf h; cases h
  | cons c cs ih =>
    simp only [populateGroupBy] at hf
    split at hf
    · cases hf
    · rename_i vs hvs
      cases hrest : populateGroupBy (Writer.addRows H {} rows).schema cs with
      | none => simp [hrest] at hf
      | some fs =>
        simp only [hrest, Option.map_some, Option.some.injEq] at hf
        subst hf
        intro gbf hg v hv
        rcases List.mem_cons.mp hg with rfl | hg
        · exact writer_schema_present H rows c vs hvs v
            ((List.mergeSort_perm vs _).mem_iff.mp hv)
        · exact ih fs hrest gbf hg v hv

end

/-! ### the group-by step over a concrete getter -/

/-- the iteration as `Model/Index.lean`'s `refine` sees it: no bitmap → skip -/
def pureStep (o : Option Nat) (x : Nat) : GBOut :=
  match o with
  | none => .skip
  | some vbm => if popcount (x &&& vbm) = 0 then .skip else .keep (x &&& vbm)

theorem innerG_eq (step : Nat → UInt64 → GBOut) (getCol : UInt64 → Option Nat) (col : Bytes) (rg : Fields × Nat)
    (vs : List (Bytes × UInt64)) (hstep : ∀ v ∈ vs, step rg.2 v.2 = pureStep (getCol v.2) rg.2) :
    innerG step col rg vs = some (vs.filterMap fun v =>
      match getCol v.2 with
      | none => none
      | some vbm =>
        let r := rg.2 &&& vbm
        if popcount r = 0 then none else some (rg.1 ++ [(col, v.1)], r)) := by
  induction vs with
  | nil => rfl
  | cons v rest ih =>
    have ih' := ih (fun w hw => hstep w (List.mem_cons_of_mem _ hw))
    have hv := hstep v (by simp)
    rw [innerG, hv, List.filterMap_cons]
    cases hg : getCol v.2 with
    | none => simp only [pureStep]; exact ih'
    | some vbm =>
      simp only [pureStep]
      by_cases hp : popcount (rg.2 &&& vbm) = 0
      · simp only [hp, if_true]; exact ih'
      · simp only [hp, if_false, ih', Option.map_some]

theorem refineG_eq (step : Nat → UInt64 → GBOut) (ix : Index) (gbf : GBField) (rgs : List (Fields × Nat))
    (hstep : ∀ x, ∀ v ∈ gbf.values, step x v.2 = pureStep (ix.getCol v.2) x) :
    refineG step gbf rgs = some (refine ix gbf rgs) := by
  induction rgs with
  | nil => rfl
  | cons rg rest ih =>
    rw [refineG, innerG_eq step ix.getCol gbf.col rg gbf.values (fun v hv => hstep rg.2 v hv)]
    simp only [ih, Option.map_some, refine, List.flatMap_cons]
    rfl

theorem innerG_panic (step : Nat → UInt64 → GBOut) (col : Bytes) (rg : Fields × Nat)
    (vs : List (Bytes × UInt64)) (v : Bytes × UInt64) (hv : v ∈ vs) (hp : step rg.2 v.2 = .panic) :
    innerG step col rg vs = none := by
  induction vs with
  | nil => cases hv
  | cons w rest ih =>
    rw [innerG]
    rcases List.mem_cons.mp hv with rfl | hmem
    · rw [hp]
    · cases step rg.2 w.2 with
      | panic => rfl
      | skip => exact ih hmem
      | keep r => simp only [ih hmem, Option.map_none]

/-! ### two concrete cardinalities for the examples (`popcount` is defined by well-founded recursion) -/

theorem popcount_three_ne : popcount 3 ≠ 0 := by rw [popcount_eq 3 (by decide)]; omega
theorem popcount_four_ne : popcount 4 ≠ 0 := by
  rw [popcount_eq 4 (by decide), popcount_eq (4 / 2) (by decide), popcount_eq (4 / 2 / 2) (by decide)]; omega

end Updog
