/-
Helper lemmas about the file-lock model `Updog/Model/OpenLock.lean` (used by `Updog/Props/C15Lock.lean`).
-/
import Updog.Model.OpenLock
namespace Updog.OpenLock
open Updog

/-! ### `openIndex` has two shapes -/

/-- what `OpenIndex` requires of the file, in the order the code tests it: the bucket, a decodable schema, a 4-byte
    counter and, when preloading, that every bitmap decodes -/
def opens : FileState → OpenOpts → Bool
  | .bolt true .good .good v, o => !o.preload || v
  | _, _ => false

theorem openIndex_eq (fs : FileState) (o : OpenOpts) :
    openIndex fs o = if opens fs o then (.ok (), true) else (.error, false) := by
  cases fs with
  | absent => rfl
  | notBolt => rfl
  | bolt b s i v =>
    cases b with
    | false => rfl
    | true =>
      cases s <;> try rfl
      cases i <;> try rfl
      cases o with | mk p => cases p <;> cases v <;> rfl

theorem opens_iff (fs : FileState) (o : OpenOpts) :
    opens fs o = true ↔ ∃ v, fs = .bolt true .good .good v ∧ (o.preload = true → v = true) := by
  unfold opens
  split
  · cases o.preload <;> simp
  · next hne => exact ⟨nofun, fun ⟨v, hv, _⟩ => (hne v hv).elim⟩

theorem openIndex_cases (fs : FileState) (o : OpenOpts) :
    openIndex fs o = (.ok (), true) ∨ openIndex fs o = (.error, false) := by
  rw [openIndex_eq]
  cases opens fs o
  · exact .inr rfl
  · exact .inl rfl

theorem openIndex_ok_of_fst {fs : FileState} {o : OpenOpts} (h : (openIndex fs o).1 = .ok ()) :
    openIndex fs o = (.ok (), true) := by
  rcases openIndex_cases fs o with h' | h' <;> rw [h'] at h ⊢ <;> simp_all

theorem openIndex_error_of_fst {fs : FileState} {o : OpenOpts} (h : (openIndex fs o).1 = .error) :
    openIndex fs o = (.error, false) := by
  rcases openIndex_cases fs o with h' | h' <;> rw [h'] at h ⊢ <;> simp_all

/-- whatever reports `openIndex`'s pair: an error outcome comes with the lock released -/
theorem released_of_error {fs : FileState} {o : OpenOpts} {r : Outcome Unit × Bool} (h : r = openIndex fs o)
    (he : r.1 = .error) : r.2 = false := by
  subst h; rw [openIndex_error_of_fst he]

theorem openIndex_snd_iff (fs : FileState) (o : OpenOpts) :
    (openIndex fs o).2 = true ↔ (openIndex fs o).1 = .ok () := by
  rcases openIndex_cases fs o with h' | h' <;> rw [h'] <;> simp

/-! ### compatibility -/

/-- every holder is a reader -/
def NoExcl (st : LockState) : Prop := ∀ x ∈ st.holders, x.mode = .shared

theorem compatible_shared_iff (hs : List Holder) :
    compatible .shared hs = true ↔ ∀ x ∈ hs, x.mode = .shared := by
  simp only [compatible, List.all_eq_true, bne_iff_ne, ne_eq]
  constructor
  · intro h x hx; have := h x hx; cases hm : x.mode <;> simp_all
  · intro h x hx; rw [h x hx]; simp

theorem compatible_shared_false_iff (hs : List Holder) :
    compatible .shared hs = false ↔ ∃ x ∈ hs, x.mode = .exclusive := by
  rw [← Bool.not_eq_true, compatible_shared_iff]
  constructor
  · intro h
    apply Classical.byContradiction
    intro hc
    apply h
    intro x hx
    cases hm : x.mode
    · rfl
    · exact absurd ⟨x, hx, hm⟩ hc
  · rintro ⟨x, hx, hm⟩ h
    rw [h x hx] at hm; cases hm

theorem compatible_exclusive_iff (hs : List Holder) : compatible .exclusive hs = true ↔ hs = [] := by
  simp [compatible]

/-! ### release -/

theorem release_append_fresh (hs : List Holder) (n : HandleId) (p : ProcId) (m : LockMode)
    (hf : ∀ x ∈ hs, x.id < n) : release (hs ++ [{ id := n, proc := p, mode := m }]) n = hs := by
  simp only [release, List.filter_append, List.filter_cons, List.filter_nil, bne_self_eq_false, Bool.false_eq_true,
    if_false, List.append_nil]
  rw [List.filter_eq_self]
  intro x hx
  simp only [bne_iff_ne, ne_eq]
  exact Nat.ne_of_lt (hf x hx)

theorem release_append_self (hs : List Holder) (n : HandleId) (p : ProcId) (m : LockMode) :
    release (hs ++ [{ id := n, proc := p, mode := m }]) n = release hs n := by
  simp [release, List.filter_append]

theorem holds_release (hs : List Holder) (h : HandleId) : (release hs h).any (fun x => x.id == h) = false := by
  simp [release, List.any_filter]

theorem map_id_release (hs : List Holder) (h : HandleId) :
    (release hs h).map (·.id) = (hs.map (·.id)).filter fun x => x != h := by
  simp only [release, List.filter_map]; rfl

/-! ### the three shapes of `openRO` -/

theorem openRO_blocked {st : LockState} {p : ProcId} {o : OpenOpts} (hb : compatible .shared st.holders = false) :
    openRO st p o = (.hang, st) := by
  simp [openRO, hb]

theorem openRO_ok {st : LockState} {p : ProcId} {o : OpenOpts} (hc : compatible .shared st.holders = true)
    (ho : openIndex st.fs o = (.ok (), true)) :
    openRO st p o = (.ok st.next,
      { st with holders := st.holders ++ [{ id := st.next, proc := p, mode := .shared }], live := st.live ++ [st.next],
                next := st.next + 1 }) := by
  simp [openRO, hc, ho, LockState.acquire]

theorem openRO_error {st : LockState} {p : ProcId} {o : OpenOpts} (hc : compatible .shared st.holders = true)
    (ho : openIndex st.fs o = (.error, false)) :
    openRO st p o = (.error, { st with holders := release st.holders st.next, next := st.next + 1 }) := by
  simp [openRO, hc, ho, LockState.acquire, release_append_self]

theorem openRO_fs (st : LockState) (p : ProcId) (o : OpenOpts) : (openRO st p o).2.fs = st.fs := by
  by_cases hc : compatible .shared st.holders = true
  · rcases openIndex_cases st.fs o with ho | ho
    · rw [openRO_ok hc ho]
    · rw [openRO_error hc ho]
  · rw [openRO_blocked (by simpa using hc)]

/-! ### well-formedness is preserved -/

theorem _root_.Updog.LockState.WF.unlocked (fs : FileState) (n : HandleId) : (LockState.unlocked fs n).WF :=
  ⟨by simp [LockState.unlocked], by simp [LockState.unlocked], by simp [LockState.unlocked]⟩

theorem nodup_release {hs : List Holder} (h : HandleId) (hn : (hs.map (·.id)).Nodup) :
    ((release hs h).map (·.id)).Nodup :=
  hn.sublist (List.Sublist.map _ List.filter_sublist)

theorem _root_.Updog.LockState.WF.acquire {st : LockState} (w : st.WF) (p : ProcId) :
    ((st.holders ++ [({ id := st.next, proc := p, mode := .shared } : Holder)]).map (·.id)).Nodup := by
  rw [List.map_append, List.nodup_append]
  refine ⟨w.nodup, by simp, ?_⟩
  intro a ha b hb
  simp only [List.map_cons, List.map_nil, List.mem_singleton] at hb
  obtain ⟨x, hx, rfl⟩ := List.mem_map.mp ha
  subst hb
  exact Nat.ne_of_lt (w.fresh x hx)

theorem _root_.Updog.LockState.WF.openRO {st : LockState} (w : st.WF) (p : ProcId) (o : OpenOpts) : (openRO st p o).2.WF := by
  by_cases hc : compatible .shared st.holders = true
  · rcases openIndex_cases st.fs o with ho | ho
    · rw [openRO_ok hc ho]
      refine ⟨?_, w.acquire p, ?_⟩
      · intro x hx
        simp only [List.mem_append, List.mem_singleton] at hx
        rcases hx with hx | rfl
        · exact Nat.lt_succ_of_lt (w.fresh x hx)
        · exact Nat.lt_succ_self _
      · simp [List.filter_append, w.live_eq]
    · rw [openRO_error hc ho, release, List.filter_eq_self.mpr]
      · exact ⟨fun x hx => Nat.lt_succ_of_lt (w.fresh x hx), w.nodup, w.live_eq⟩
      · intro x hx; simp only [bne_iff_ne, ne_eq]; exact Nat.ne_of_lt (w.fresh x hx)
  · rw [openRO_blocked (by simpa using hc)]; exact w

theorem openRW_blocked {st : LockState} {p : ProcId} (hb : st.holders ≠ []) : openRW st p = (.hang, st) := by
  have : compatible .exclusive st.holders = false := by
    rw [← Bool.not_eq_true, compatible_exclusive_iff]; exact hb
  simp [Updog.openRW, this]

theorem openRW_ok {st : LockState} {p : ProcId} (he : st.holders = []) :
    openRW st p = (.ok st.next,
      { st with fs := if st.fs = .absent then .bolt false .missing .missing true else st.fs,
                holders := [{ id := st.next, proc := p, mode := .exclusive }], next := st.next + 1 }) := by
  simp [Updog.openRW, LockState.acquire, he, compatible]

theorem _root_.Updog.LockState.WF.openRW {st : LockState} (w : st.WF) (p : ProcId) : (openRW st p).2.WF := by
  by_cases he : st.holders = []
  · rw [openRW_ok he]
    refine ⟨by simp, by simp, ?_⟩
    have := w.live_eq
    simp only [he] at this
    simpa using this
  · rw [openRW_blocked he]; exact w

theorem _root_.Updog.LockState.WF.openCreate {st : LockState} (w : st.WF) (p : ProcId) : (openCreate st p).2.WF := by
  unfold Updog.openCreate
  split
  · exact w
  · exact w.openRW p

theorem live_filter_release (hs : List Holder) (h : HandleId) :
    List.filter (fun x => x != h) ((hs.filter fun x => x.mode == .shared).map (·.id))
      = ((release hs h).filter fun x => x.mode == .shared).map (·.id) := by
  simp only [release, List.filter_map, List.filter_filter]
  congr 1
  apply List.filter_congr
  intro x _
  simp [Bool.and_comm]

theorem _root_.Updog.LockState.WF.close {st : LockState} (w : st.WF) (h : HandleId) : (close st h).2.WF := by
  unfold Updog.close
  split
  · exact w
  · refine ⟨?_, nodup_release h w.nodup, ?_⟩
    · intro x hx
      exact w.fresh x (List.mem_filter.mp hx).1
    · simp only [w.live_eq]
      exact live_filter_release st.holders h

theorem _root_.Updog.LockState.WF.closeRW {st : LockState} (w : st.WF) (h : HandleId) : (closeRW st h).2.WF := by
  refine ⟨?_, w.nodup.sublist (List.Sublist.map _ List.filter_sublist), ?_⟩
  · intro x hx
    exact w.fresh x (List.mem_filter.mp hx).1
  · simp only [Updog.closeRW, w.live_eq, List.filter_filter]
    congr 1
    apply List.filter_congr
    intro x _
    cases x.mode <;> simp

theorem _root_.Updog.LockState.WF.step {st : LockState} (w : st.WF) (e : Ev) : (step st e).2.WF := by
  cases e with
  | openRO p o => exact w.openRO p o
  | openRW p => exact w.openRW p
  | openCreate p => exact w.openCreate p
  | close h => exact w.close h
  | closeRW h => exact w.closeRW h
  | setFile fs => exact ⟨w.fresh, w.nodup, w.live_eq⟩

theorem _root_.Updog.LockState.WF.run {st : LockState} (w : st.WF) (es : List Ev) : (run st es).1.WF := by
  induction es generalizing st with
  | nil => exact w
  | cons e es ih => exact ih (w.step e)

/-! ### histories -/

theorem run_append (st : LockState) (es₁ es₂ : List Ev) :
    run st (es₁ ++ es₂) = ((run (run st es₁).1 es₂).1, (run st es₁).2 ++ (run (run st es₁).1 es₂).2) := by
  induction es₁ generalizing st with
  | nil => rfl
  | cons e es ih => simp only [List.cons_append, run, ih]

theorem run_length (st : LockState) (es : List Ev) : (run st es).2.length = es.length := by
  induction es generalizing st with
  | nil => rfl
  | cons e es ih => simp only [run, List.length_cons, ih]

theorem openHandlesFrom_append (acc : List HandleId) (es₁ es₂ : List Ev) (rs₁ rs₂ : List Res)
    (hl : rs₁.length = es₁.length) :
    openHandlesFrom acc (es₁ ++ es₂) (rs₁ ++ rs₂) = openHandlesFrom (openHandlesFrom acc es₁ rs₁) es₂ rs₂ := by
  induction es₁ generalizing acc rs₁ with
  | nil =>
    cases rs₁ with
    | nil => cases es₂ <;> cases rs₂ <;> rfl
    | cons _ _ => simp at hl
  | cons e es ih =>
    cases rs₁ with
    | nil => simp at hl
    | cons r rs =>
      simp only [List.length_cons, Nat.add_right_cancel_iff] at hl
      simp only [List.cons_append, openHandlesFrom, ih _ _ hl]

theorem live_eq_ids {st : LockState} (w : st.WF) (hn : NoExcl st) : st.live = st.holders.map (·.id) := by
  rw [w.live_eq, List.filter_eq_self.mpr]
  intro x hx
  simp [hn x hx]

theorem reader_step {st : LockState} (w : st.WF) (hn : NoExcl st) (e : Ev) (he : e.isReader = true) :
    (step st e).1 ≠ .hang ∧ NoExcl (step st e).2 ∧
    (step st e).2.holders.map (·.id) = trackStep (st.holders.map (·.id)) e (step st e).1 := by
  have hc : compatible .shared st.holders = true := (compatible_shared_iff _).mpr hn
  cases e with
  | openRO p o =>
    simp only [step]
    rcases openIndex_cases st.fs o with ho | ho
    · rw [openRO_ok hc ho]
      refine ⟨by simp [Res.ofOpen], ?_, by simp [Res.ofOpen, trackStep]⟩
      intro x hx
      simp only [List.mem_append, List.mem_singleton] at hx
      rcases hx with hx | rfl
      · exact hn x hx
      · rfl
    · rw [openRO_error hc ho]
      refine ⟨by simp [Res.ofOpen], ?_, ?_⟩
      · intro x hx; exact hn x (List.mem_filter.mp hx).1
      · simp only [Res.ofOpen, trackStep, release]
        rw [List.filter_eq_self.mpr]
        intro x hx; simp only [bne_iff_ne, ne_eq]; exact Nat.ne_of_lt (w.fresh x hx)
  | close h =>
    simp only [step, trackStep]
    refine ⟨by simp, ?_, ?_⟩
    · unfold Updog.close
      split
      · exact hn
      · intro x hx; exact hn x (List.mem_filter.mp hx).1
    · unfold Updog.close
      split
      · rename_i hh
        rw [live_eq_ids w hn] at hh
        symm
        rw [List.filter_eq_self]
        intro x hx
        simp only [bne_iff_ne, ne_eq]
        rintro rfl
        simp [hx] at hh
      · exact map_id_release st.holders h
  | setFile fs => exact ⟨by simp [step], hn, rfl⟩
  | openRW p => simp [Ev.isReader] at he
  | openCreate p => simp [Ev.isReader] at he
  | closeRW h => simp [Ev.isReader] at he

/-- **key invariant** of reader histories: no event blocks, no writer appears, and the holders at the end are exactly
    the handles opened successfully and not closed since (`openHandlesFrom`), in order, all with a shared lock -/
theorem reader_run {st : LockState} (w : st.WF) (hn : NoExcl st) (es : List Ev) (he : es.all Ev.isReader = true) :
    (∀ r ∈ (run st es).2, r ≠ .hang) ∧ NoExcl (run st es).1 ∧
    (run st es).1.holders.map (·.id) = openHandlesFrom (st.holders.map (·.id)) es (run st es).2 := by
  induction es generalizing st with
  | nil => exact ⟨by simp [run], hn, rfl⟩
  | cons e es ih =>
    simp only [List.all_cons, Bool.and_eq_true] at he
    obtain ⟨s1, s2, s3⟩ := reader_step w hn e he.1
    obtain ⟨i1, i2, i3⟩ := ih (w.step e) s2 he.2
    refine ⟨?_, i2, ?_⟩
    · intro r hr
      simp only [run, List.mem_cons] at hr
      rcases hr with rfl | hr
      · exact s1
      · exact i1 r hr
    · simp only [run, openHandlesFrom]
      rw [i3, s3]

/-! ### `Close` -/

theorem close_of_not_live {st : LockState} {h : HandleId} (hh : st.live.contains h = false) :
    close st h = (.ok (), st) := by
  unfold Updog.close; rw [hh]; rfl

theorem close_of_live {st : LockState} {h : HandleId} (hh : st.live.contains h = true) :
    close st h = (.ok (), { st with holders := release st.holders h, live := st.live.filter fun x => x != h }) := by
  unfold Updog.close; rw [hh]; rfl

theorem not_live_after_close (st : LockState) (h : HandleId) : (close st h).2.live.contains h = false := by
  unfold Updog.close
  split
  · rename_i hh; simpa using hh
  · simp

/-! ### what `openRO` means in terms of `Model/Open.lean`, and what a failed attempt leaves behind -/

/-- unblocked `openRO`, seen through "outcome, does the new handle hold the lock" = `openIndex` -/
theorem openRO_abstract {st : LockState} (p : ProcId) (o : OpenOpts) (hc : compatible .shared st.holders = true) :
    ((openRO st p o).1.map (fun _ => ()), (openRO st p o).2.holds st.next) = openIndex st.fs o := by
  rcases openIndex_cases st.fs o with ho | ho
  · rw [openRO_ok hc ho, ho]; simp [Outcome.map, LockState.holds]
  · rw [openRO_error hc ho, ho]
    simp only [Outcome.map, LockState.holds, holds_release]

theorem failed_open_state {st : LockState} (w : st.WF) {p : ProcId} {o : OpenOpts} (h : (openRO st p o).1 = .error) :
    (openRO st p o).2 = { st with next := st.next + 1 } := by
  by_cases hc : compatible .shared st.holders = true
  · rcases openIndex_cases st.fs o with ho | ho
    · rw [openRO_ok hc ho] at h; cases h
    · rw [openRO_error hc ho, release, List.filter_eq_self.mpr]
      intro x hx; simp only [bne_iff_ne, ne_eq]; exact Nat.ne_of_lt (w.fresh x hx)
  · rw [openRO_blocked (by simpa using hc)] at h; cases h

theorem openRO_outcome {st : LockState} (p : ProcId) (o : OpenOpts) (hc : compatible .shared st.holders = true) :
    (openRO st p o).1 = (openIndex st.fs o).1.map fun _ => st.next := by
  rcases openIndex_cases st.fs o with ho | ho
  · rw [openRO_ok hc ho, ho]; rfl
  · rw [openRO_error hc ho, ho]; rfl

theorem run_closes {st : LockState} (w : st.WF) (hn : NoExcl st) (l : List HandleId) :
    NoExcl (run st (l.map Ev.close)).1 ∧
    (run st (l.map Ev.close)).1.holders.map (·.id) = (st.holders.map (·.id)).filter fun x => !l.contains x := by
  induction l generalizing st with
  | nil => exact ⟨hn, by simp only [List.map_nil, run]; symm; rw [List.filter_eq_self]; intros; rfl⟩
  | cons h l ih =>
    obtain ⟨_, s2, s3⟩ := reader_step w hn (.close h) rfl
    obtain ⟨i1, i2⟩ := ih (w.step _) s2
    refine ⟨i1, ?_⟩
    simp only [List.map_cons, run]
    rw [i2, s3]
    simp only [trackStep, List.filter_filter]
    apply List.filter_congr
    intro x _
    simp only [List.contains_cons, Bool.not_or, bne]
    rw [Bool.and_comm]

end Updog.OpenLock
