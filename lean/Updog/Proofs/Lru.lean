/-
Helper definitions and lemmas for C07 (LRU cache, model in Updog/Model/Lru.lean).
-/
import Updog.Model.Lru
namespace Updog

/-- accounted size of a recency list: every entry costs its bitmap size plus the fixed overhead -/
def total (ovh : Nat) (items : List Item) : Nat := (items.map fun it => it.size + ovh).sum

/-- sum of the bitmap sizes only -/
def sizes (items : List Item) : Nat := (items.map (·.size)).sum

/-- representation invariant of the cache: keys are unique and `cur` is the exact accounted size -/
structure Lru.Inv (c : Lru) : Prop where
  nodup : (c.items.map (·.key)).Nodup
  acct : c.cur = total c.ovh c.items

/-- `NewLRUCache(max)` -/
def Lru.empty (max ovh : Nat) : Lru := { max := max, ovh := ovh }

/-- bitmap id stored by the last `put k _ _` of the history `ops` (`none` if there is none) -/
def lastPut : List LruOp → Nat → Option Nat
  | [], _ => none
  | .get _ :: ops, k => lastPut ops k
  | .put k' b _ :: ops, k =>
    match lastPut ops k with
    | some b' => some b'
    | none => if k' = k then some b else none

/-- the `(key, size, bitmap)` stored by the last `Put` of key `k` (`none` if there is none) -/
def lastPutItem : List LruOp → Nat → Option Item
  | [], _ => none
  | .get _ :: ops, k => lastPutItem ops k
  | .put k' b s :: ops, k =>
    match lastPutItem ops k with
    | some it => some it
    | none => if k' = k then some ⟨k', s, b⟩ else none

def LruOp.isGet : LruOp → Bool
  | .get _ => true
  | .put .. => false

def LruOp.isPut : LruOp → Bool
  | .get _ => false
  | .put .. => true

/-- the list that `Put k` builds before it runs the eviction loop -/
def putList (c : Lru) (k bm size : Nat) : List Item :=
  ⟨k, size, bm⟩ :: c.items.filter (·.key != k)

@[simp] theorem total_nil (ovh : Nat) : total ovh [] = 0 := rfl
@[simp] theorem total_cons (ovh : Nat) (a : Item) (t : List Item) :
    total ovh (a :: t) = a.size + ovh + total ovh t := by simp [total]
@[simp] theorem sizes_nil : sizes [] = 0 := rfl
@[simp] theorem sizes_cons (a : Item) (t : List Item) : sizes (a :: t) = a.size + sizes t := by
  simp [sizes]

theorem total_append (ovh : Nat) (a b : List Item) :
    total ovh (a ++ b) = total ovh a + total ovh b := by
  simp [total]

theorem sizes_le_total (ovh : Nat) (items : List Item) : sizes items ≤ total ovh items := by
  induction items with
  | nil => simp
  | cons a t ih => simp; omega

theorem total_dropLast (ovh : Nat) (items : List Item) (h : items ≠ []) :
    total ovh items = total ovh items.dropLast + ((items.getLast h).size + ovh) := by
  have := List.dropLast_concat_getLast h
  conv => lhs; rw [← this]
  simp [total_append]

theorem total_mem_le (ovh : Nat) (items : List Item) (it : Item) (h : it ∈ items) :
    it.size + ovh ≤ total ovh items := by
  induction items with
  | nil => cases h
  | cons a t ih =>
    rcases List.mem_cons.1 h with rfl | h
    · simp
    · have := ih h; simp; omega

section
variable (ovh max : Nat) (items : List Item) (cur : Nat)

theorem evict_step (h : cur > max ∧ items ≠ []) :
    evict ovh max items cur = evict ovh max items.dropLast (cur - ((items.getLast h.2).size + ovh)) := by
  rw [evict, dif_pos h]

theorem evict_stop (h : ¬ (cur > max ∧ items ≠ [])) :
    evict ovh max items cur = (items, cur) := by
  rw [evict, dif_neg h]

theorem evict_acct (h : cur = total ovh items) :
    (evict ovh max items cur).2 = total ovh (evict ovh max items cur).1 := by
  fun_induction evict ovh max items cur with
  | case1 items cur hc ih =>
    apply ih
    rw [total_dropLast ovh items hc.2] at h
    omega
  | case2 items cur hc => exact h

theorem evict_bound : (evict ovh max items cur).2 ≤ max ∨ (evict ovh max items cur).1 = [] := by
  fun_induction evict ovh max items cur with
  | case1 items cur hc ih => exact ih
  | case2 items cur hc =>
    by_cases h1 : cur ≤ max
    · exact Or.inl h1
    · right
      simp only
      by_cases h2 : items = []
      · exact h2
      · exact absurd ⟨by omega, h2⟩ hc

theorem evict_prefix : (evict ovh max items cur).1 <+: items := by
  fun_induction evict ovh max items cur with
  | case1 items cur hc ih => exact ih.trans (List.dropLast_prefix items)
  | case2 items cur hc => exact List.prefix_refl _

theorem evict_fits (h : cur ≤ max) :
    evict ovh max items cur = (items, cur) :=
  evict_stop ovh max items cur (by omega)

end

/-- eviction removes as few entries as possible: every longer prefix of the recency list is over budget -/
theorem evict_minimal (ovh max : Nat) (items : List Item) (cur : Nat) (h : cur = total ovh items) :
    ∀ p, p <+: items → (evict ovh max items cur).1.length < p.length → max < total ovh p := by
  fun_induction evict ovh max items cur with
  | case1 items cur hc ih =>
    intro p hp hl
    obtain ⟨s, hs⟩ := hp
    by_cases hnil : s = []
    · subst hnil
      simp at hs
      subst hs
      omega
    · refine ih ?_ p ?_ hl
      · rw [total_dropLast ovh items hc.2] at h; omega
      · refine ⟨s.dropLast, ?_⟩
        rw [← hs, List.dropLast_append_of_ne_nil hnil]
  | case2 items cur hc =>
    intro p hp hl
    have := hp.length_le
    simp only at hl
    omega

/-- an entry that fits on its own at the front of the list is never evicted: the one-element prefix is within budget -/
theorem evict_head (ovh max : Nat) (a : Item) (t : List Item) (cur : Nat)
    (ha : a.size + ovh ≤ max) (h : cur = total ovh (a :: t)) :
    ∃ t', (evict ovh max (a :: t) cur).1 = a :: t' := by
  have hp := evict_prefix ovh max (a :: t) cur
  have hm := evict_minimal ovh max (a :: t) cur h [a] ⟨t, rfl⟩
  cases hr : (evict ovh max (a :: t) cur).1 with
  | nil =>
    rw [hr] at hm
    have := hm Nat.zero_lt_one
    rw [total_cons, total_nil] at this
    omega
  | cons x xs => rw [hr] at hp; exact ⟨xs, by rw [(List.cons_prefix_cons.1 hp).1]⟩

/-! ## find? / filter on lists with unique keys -/

theorem find_key {items : List Item} {k : Nat} {it : Item}
    (h : items.find? (·.key == k) = some it) : it.key = k ∧ it ∈ items := by
  have h1 := List.find?_some h
  have h2 := List.mem_of_find?_eq_some h
  simp at h1
  exact ⟨h1, h2⟩

theorem filter_of_find_none {items : List Item} {k : Nat}
    (h : items.find? (·.key == k) = none) : items.filter (·.key != k) = items := by
  rw [List.filter_eq_self]
  intro a ha
  have := List.find?_eq_none.1 h a ha
  simpa using this

theorem filter_of_not_mem {items : List Item} {k : Nat}
    (h : k ∉ items.map (·.key)) : items.filter (·.key != k) = items := by
  rw [List.filter_eq_self]
  intro a ha
  have : a.key ≠ k := fun e => h (e ▸ List.mem_map_of_mem ha)
  simpa using this

theorem key_not_mem_filter (items : List Item) (k : Nat) :
    k ∉ (items.filter (·.key != k)).map (·.key) := by
  intro h
  obtain ⟨a, ha, hk⟩ := List.mem_map.1 h
  have := (List.mem_filter.1 ha).2
  simp at this
  exact this hk

theorem nodup_filter {items : List Item} (k : Nat) (h : (items.map (·.key)).Nodup) :
    ((items.filter (·.key != k)).map (·.key)).Nodup :=
  List.Nodup.sublist ((List.filter_sublist (l := items)).map _) h

theorem perm_move_front {items : List Item} {k : Nat} {it : Item}
    (hn : (items.map (·.key)).Nodup) (h : items.find? (·.key == k) = some it) :
    (it :: items.filter (·.key != k)).Perm items := by
  induction items with
  | nil => simp at h
  | cons a t ih =>
    rw [List.map_cons, List.nodup_cons] at hn
    by_cases hk : a.key = k
    · have : it = a := by simpa [List.find?, hk] using h.symm
      subst this
      have hnot : k ∉ t.map (·.key) := hk ▸ hn.1
      simp [hk, filter_of_not_mem hnot]
    · have hk' : (a.key == k) = false := by simpa using hk
      rw [List.find?_cons, hk'] at h
      have := ih hn.2 h
      have hf : (a :: t).filter (·.key != k) = a :: t.filter (·.key != k) := by
        simp [hk]
      rw [hf]
      exact (List.Perm.swap a it _).trans (this.cons a)

theorem total_perm (ovh : Nat) {a b : List Item} (h : a.Perm b) : total ovh a = total ovh b := by
  induction h with
  | nil => rfl
  | cons x _ ih => simp [ih]
  | swap x y l => simp; omega
  | trans _ _ ih1 ih2 => exact ih1.trans ih2

theorem total_move_front (ovh : Nat) {items : List Item} {k : Nat} {it : Item}
    (hn : (items.map (·.key)).Nodup) (h : items.find? (·.key == k) = some it) :
    total ovh items = it.size + ovh + total ovh (items.filter (·.key != k)) := by
  rw [← total_perm ovh (perm_move_front hn h)]; simp

section
variable (c : Lru) (k : Nat)

theorem get_hit (it : Item) (h : c.items.find? (·.key == k) = some it) :
    c.get k = ({ c with gets := c.gets + 1, hits := c.hits + 1,
                        items := it :: c.items.filter (·.key != k) }, some it.bm) := by
  simp [Lru.get, h]

theorem get_miss (h : c.items.find? (·.key == k) = none) :
    c.get k = ({ c with gets := c.gets + 1, misses := c.misses + 1 }, none) := by
  simp [Lru.get, h]

theorem get_some_iff (b : Nat) :
    (c.get k).2 = some b ↔ ∃ it, c.items.find? (·.key == k) = some it ∧ it.bm = b := by
  cases h : c.items.find? (·.key == k) with
  | none => simp [get_miss c k h]
  | some it => simp [get_hit c k it h]

theorem get_fields :
    (c.get k).1.max = c.max ∧ (c.get k).1.ovh = c.ovh ∧ (c.get k).1.cur = c.cur ∧
    (c.get k).1.puts = c.puts := by
  cases h : c.items.find? (·.key == k) with
  | none => simp [get_miss c k h]
  | some it => simp [get_hit c k it h]

theorem get_mem (x : Item) (hx : x ∈ (c.get k).1.items) : x ∈ c.items := by
  cases h : c.items.find? (·.key == k) with
  | none => simpa [get_miss c k h] using hx
  | some it =>
    rw [get_hit c k it h] at hx
    rcases List.mem_cons.1 hx with rfl | hx
    · exact (find_key h).2
    · exact (List.mem_filter.1 hx).1

theorem get_perm (hc : c.Inv) : (c.get k).1.items.Perm c.items := by
  cases h : c.items.find? (·.key == k) with
  | none => simp [get_miss c k h]
  | some it => rw [get_hit c k it h]; exact perm_move_front hc.nodup h

theorem get_inv (hc : c.Inv) : (c.get k).1.Inv := by
  have hp := get_perm c k hc
  obtain ⟨h1, h2, h3, -⟩ := get_fields c k
  constructor
  · exact (hp.map (·.key)).nodup_iff.2 hc.nodup
  · rw [h3, h2, total_perm _ hp]; exact hc.acct

end

section
variable (c : Lru) (k bm size : Nat)

/-- Both branches of `Put` build `putList`, start the eviction loop on it with some account and bump `puts`; under the
invariant that account is the exact one. -/
theorem put_evict :
    ∃ cur, c.put k bm size =
        { c with puts := c.puts + 1, items := (evict c.ovh c.max (putList c k bm size) cur).1,
                 cur := (evict c.ovh c.max (putList c k bm size) cur).2 } ∧
      (c.Inv → cur = total c.ovh (putList c k bm size)) := by
  cases h : c.items.find? (·.key == k) with
  | none =>
    refine ⟨c.cur + size + c.ovh, ?_, fun hc => ?_⟩
    · simp only [Lru.put, h, putList, filter_of_find_none h]
    · simp only [putList, filter_of_find_none h, total_cons, hc.acct]; omega
  | some it =>
    refine ⟨c.cur - it.size + size, ?_, fun hc => ?_⟩
    · simp only [Lru.put, h, putList]
    · simp only [putList, total_cons, hc.acct]
      rw [total_move_front c.ovh hc.nodup h, Nat.add_assoc, Nat.add_sub_cancel_left]; omega

theorem put_eq (hc : c.Inv) :
    c.put k bm size =
      { c with puts := c.puts + 1,
               items := (evict c.ovh c.max (putList c k bm size) (total c.ovh (putList c k bm size))).1,
               cur := (evict c.ovh c.max (putList c k bm size) (total c.ovh (putList c k bm size))).2 } := by
  obtain ⟨cur, h, hcur⟩ := put_evict c k bm size
  rw [← hcur hc]; exact h

theorem put_fields :
    (c.put k bm size).max = c.max ∧ (c.put k bm size).ovh = c.ovh ∧
    (c.put k bm size).gets = c.gets ∧ (c.put k bm size).puts = c.puts + 1 ∧
    (c.put k bm size).hits = c.hits ∧ (c.put k bm size).misses = c.misses := by
  obtain ⟨cur, h, -⟩ := put_evict c k bm size
  rw [h]; exact ⟨rfl, rfl, rfl, rfl, rfl, rfl⟩

theorem put_prefix :
    (c.put k bm size).items <+: putList c k bm size := by
  obtain ⟨cur, h, -⟩ := put_evict c k bm size
  rw [h]; exact evict_prefix ..

theorem put_inv (hc : c.Inv) : (c.put k bm size).Inv := by
  constructor
  · exact List.Nodup.sublist ((put_prefix c k bm size).sublist.map _)
      (List.nodup_cons.2 ⟨key_not_mem_filter _ _, nodup_filter k hc.nodup⟩)
  · rw [put_eq c k bm size hc]
    exact evict_acct _ _ _ _ rfl

theorem put_bound (hc : c.Inv) :
    total (c.put k bm size).ovh (c.put k bm size).items ≤ (c.put k bm size).max ∨
      (c.put k bm size).items = [] := by
  rw [← (put_inv c k bm size hc).acct, put_eq c k bm size hc]
  exact evict_bound ..

theorem put_head (hc : c.Inv) (hfit : size + c.ovh ≤ c.max) :
    ∃ t', (c.put k bm size).items = ⟨k, size, bm⟩ :: t' := by
  rw [put_eq c k bm size hc]
  exact evict_head c.ovh c.max ⟨k, size, bm⟩ _ _ hfit rfl

end

theorem step_inv (c : Lru) (op : LruOp) (hc : c.Inv) : (c.step op).1.Inv := by
  cases op with
  | get k => exact get_inv c k hc
  | put k bm size => exact put_inv c k bm size hc

theorem step_fields (c : Lru) (op : LruOp) :
    (c.step op).1.max = c.max ∧ (c.step op).1.ovh = c.ovh := by
  cases op with
  | get k => exact ⟨(get_fields c k).1, (get_fields c k).2.1⟩
  | put k bm size => exact ⟨(put_fields c k bm size).1, (put_fields c k bm size).2.1⟩

@[simp] theorem run_nil (c : Lru) : c.run [] = (c, []) := rfl
theorem run_cons (c : Lru) (op : LruOp) (ops : List LruOp) :
    c.run (op :: ops) = (((c.step op).1.run ops).1, (c.step op).2 :: ((c.step op).1.run ops).2) := rfl

theorem run_append (c : Lru) (a b : List LruOp) :
    c.run (a ++ b) = (((c.run a).1.run b).1, (c.run a).2 ++ ((c.run a).1.run b).2) := by
  induction a generalizing c with
  | nil => simp
  | cons op a ih => simp [run_cons, ih]

theorem run_length (c : Lru) (ops : List LruOp) : (c.run ops).2.length = ops.length := by
  induction ops generalizing c with
  | nil => simp
  | cons op ops ih => simp [run_cons, ih]

theorem run_induction {P : Lru → List LruOp → Prop}
    (step : ∀ c hist op, P c hist → P (c.step op).1 (hist ++ [op])) (c : Lru) (hist ops : List LruOp)
    (h : P c hist) : P (c.run ops).1 (hist ++ ops) := by
  induction ops generalizing c hist with
  | nil => rwa [List.append_nil]
  | cons op ops ih =>
    rw [run_cons, List.append_cons]
    exact ih _ _ (step c hist op h)

theorem run_inv (c : Lru) (ops : List LruOp) (hc : c.Inv) : (c.run ops).1.Inv :=
  run_induction (P := fun c _ => c.Inv) (fun c _ op => step_inv c op) c [] ops hc

theorem run_fields (c : Lru) (ops : List LruOp) :
    (c.run ops).1.max = c.max ∧ (c.run ops).1.ovh = c.ovh :=
  run_induction (P := fun c' _ => c'.max = c.max ∧ c'.ovh = c.ovh)
    (fun c' _ op h => ⟨(step_fields c' op).1.trans h.1, (step_fields c' op).2.trans h.2⟩) c [] ops ⟨rfl, rfl⟩

theorem empty_inv (max ovh : Nat) : (Lru.empty max ovh).Inv := ⟨List.nodup_nil, rfl⟩

/-- the byte bound as a state predicate -/
def Lru.Bounded (c : Lru) : Prop := total c.ovh c.items ≤ c.max ∨ c.items = []

theorem step_bounded (c : Lru) (op : LruOp) (hc : c.Inv) (hb : c.Bounded) : (c.step op).1.Bounded := by
  cases op with
  | put k bm size => exact put_bound c k bm size hc
  | get k =>
    have hp := get_perm c k hc
    obtain ⟨h1, h2, -, -⟩ := get_fields c k
    simp only [Lru.step, Lru.Bounded, h1, h2, total_perm _ hp]
    rcases hb with hb | hb
    · exact Or.inl hb
    · right; rw [hb] at hp; exact List.perm_nil.1 hp

theorem run_bounded (c : Lru) (ops : List LruOp) (hc : c.Inv) (hb : c.Bounded) :
    (c.run ops).1.Bounded :=
  (run_induction (P := fun c _ => c.Inv ∧ c.Bounded)
    (fun c _ op h => ⟨step_inv c op h.1, step_bounded c op h.1 h.2⟩) c [] ops ⟨hc, hb⟩).2

/-! ## history: the resident entries are what the last `Put` of their key stored -/

theorem lastPutItem_append (a b : List LruOp) (k : Nat) :
    lastPutItem (a ++ b) k = match lastPutItem b k with
      | some it => some it
      | none => lastPutItem a k := by
  induction a with
  | nil => simp only [List.nil_append]; cases lastPutItem b k <;> simp [lastPutItem]
  | cons op a ih =>
    cases op with
    | get k' => simpa [lastPutItem] using ih
    | put k' bm s =>
      simp only [List.cons_append, lastPutItem, ih]
      cases lastPutItem b k <;> simp

theorem lastPutItem_snoc_get (a : List LruOp) (k' k : Nat) : lastPutItem (a ++ [.get k']) k = lastPutItem a k := by
  rw [lastPutItem_append]; rfl

theorem lastPutItem_snoc_put (a : List LruOp) (k' b s k : Nat) :
    lastPutItem (a ++ [.put k' b s]) k = if k' = k then some ⟨k', s, b⟩ else lastPutItem a k := by
  rw [lastPutItem_append]
  by_cases e : k' = k <;> simp [lastPutItem, e]

theorem lastPut_eq (ops : List LruOp) (k : Nat) : lastPut ops k = (lastPutItem ops k).map (·.bm) := by
  induction ops with
  | nil => rfl
  | cons op ops ih =>
    cases op with
    | get k' => exact ih
    | put k' b s =>
      simp only [lastPut, lastPutItem, ih]
      cases lastPutItem ops k with
      | some it => rfl
      | none => by_cases e : k' = k <;> simp [e]

theorem lastPut_some_mem (ops : List LruOp) (k b : Nat) (h : lastPut ops k = some b) :
    ∃ s, LruOp.put k b s ∈ ops := by
  induction ops with
  | nil => cases h
  | cons op ops ih =>
    cases op with
    | get k' =>
      obtain ⟨s, hs⟩ := ih h
      exact ⟨s, List.mem_cons_of_mem _ hs⟩
    | put k' b' s' =>
      simp only [lastPut] at h
      cases hl : lastPut ops k with
      | some x =>
        rw [hl] at h
        obtain ⟨s, hs⟩ := ih (hl.trans h)
        exact ⟨s, List.mem_cons_of_mem _ hs⟩
      | none =>
        rw [hl] at h
        by_cases hk : k' = k
        · rw [if_pos hk] at h
          cases h; subst hk
          exact ⟨s', List.mem_cons_self⟩
        · rw [if_neg hk] at h; cases h

/-- every resident entry is exactly what the last `Put` of its key in the history stored -/
def ResidentItem (c : Lru) (hist : List LruOp) : Prop := ∀ it ∈ c.items, lastPutItem hist it.key = some it

theorem step_residentItem (c : Lru) (hist : List LruOp) (op : LruOp) (h : ResidentItem c hist) :
    ResidentItem (c.step op).1 (hist ++ [op]) := by
  intro x hx
  cases op with
  | get k =>
    rw [lastPutItem_snoc_get]
    exact h x (get_mem c k x hx)
  | put k bm size =>
    rw [lastPutItem_snoc_put]
    rcases List.mem_cons.1 ((put_prefix c k bm size).subset hx) with rfl | hm
    · exact if_pos rfl
    · have hm' := List.mem_filter.1 hm
      have hne : ¬ k = x.key := fun e => (bne_iff_ne.1 hm'.2) e.symm
      rw [if_neg hne]
      exact h x hm'.1

theorem empty_residentItem (max ovh : Nat) : ResidentItem (Lru.empty max ovh) [] := fun _ h => nomatch h

theorem get_resident (c : Lru) (hist : List LruOp) (k b : Nat) (h : ResidentItem c hist)
    (hb : (c.get k).2 = some b) : lastPut hist k = some b := by
  obtain ⟨it, hf, rfl⟩ := (get_some_iff c k b).1 hb
  obtain ⟨hk, hm⟩ := find_key hf
  rw [lastPut_eq, ← hk, h it hm]; rfl

def numGets (ops : List LruOp) : Nat := ops.countP LruOp.isGet
def numPuts (ops : List LruOp) : Nat := ops.countP LruOp.isPut
/-- number of `get` operations that were answered with a bitmap -/
def numHits (ops : List LruOp) (outs : List (Option Nat)) : Nat :=
  (ops.zip outs).countP fun p => p.1.isGet && p.2.isSome

@[simp] theorem numGets_nil : numGets [] = 0 := rfl
@[simp] theorem numPuts_nil : numPuts [] = 0 := rfl
@[simp] theorem numHits_nil (outs : List (Option Nat)) : numHits [] outs = 0 := rfl
theorem numGets_cons (op : LruOp) (ops : List LruOp) :
    numGets (op :: ops) = (if op.isGet then 1 else 0) + numGets ops :=
  List.countP_cons.trans (Nat.add_comm ..)
theorem numPuts_cons (op : LruOp) (ops : List LruOp) :
    numPuts (op :: ops) = (if op.isPut then 1 else 0) + numPuts ops :=
  List.countP_cons.trans (Nat.add_comm ..)
theorem numHits_cons (op : LruOp) (ops : List LruOp) (o : Option Nat) (outs : List (Option Nat)) :
    numHits (op :: ops) (o :: outs) = (if op.isGet && o.isSome then 1 else 0) + numHits ops outs :=
  List.countP_cons.trans (Nat.add_comm ..)

theorem step_counters (c : Lru) (op : LruOp) :
    (c.step op).1.gets = c.gets + (if op.isGet then 1 else 0) ∧
    (c.step op).1.puts = c.puts + (if op.isPut then 1 else 0) ∧
    (c.step op).1.hits = c.hits + (if op.isGet && (c.step op).2.isSome then 1 else 0) ∧
    (c.step op).1.hits + (c.step op).1.misses = c.hits + c.misses + (if op.isGet then 1 else 0) := by
  cases op with
  | get k =>
    show (c.get k).1.gets = _ ∧ (c.get k).1.puts = _ ∧ (c.get k).1.hits = c.hits + (if (c.get k).2.isSome then 1 else 0) ∧
      (c.get k).1.hits + (c.get k).1.misses = _
    cases h : c.items.find? (·.key == k) with
    | none => rw [get_miss c k h]; exact ⟨rfl, rfl, rfl, rfl⟩
    | some it => rw [get_hit c k it h]; exact ⟨rfl, rfl, rfl, Nat.add_right_comm ..⟩
  | put k bm size =>
    obtain ⟨-, -, p1, p2, p3, p4⟩ := put_fields c k bm size
    exact ⟨p1, p2, p3, by rw [← p3, ← p4]; rfl⟩

theorem run_counters (c : Lru) (ops : List LruOp) :
    (c.run ops).1.gets = c.gets + numGets ops ∧
    (c.run ops).1.puts = c.puts + numPuts ops ∧
    (c.run ops).1.hits = c.hits + numHits ops (c.run ops).2 ∧
    (c.run ops).1.hits + (c.run ops).1.misses = c.hits + c.misses + numGets ops := by
  induction ops generalizing c with
  | nil => exact ⟨rfl, rfl, rfl, rfl⟩
  | cons op ops ih =>
    obtain ⟨h1, h2, h3, h4⟩ := ih (c.step op).1
    obtain ⟨s1, s2, s3, s4⟩ := step_counters c op
    simp only [run_cons]
    refine ⟨h1.trans ?_, h2.trans ?_, h3.trans ?_, h4.trans ?_⟩
    · rw [s1, numGets_cons, Nat.add_assoc]
    · rw [s2, numPuts_cons, Nat.add_assoc]
    · rw [s3, numHits_cons, Nat.add_assoc]
    · rw [s4, numGets_cons, Nat.add_assoc]

/-- a `put` never produces an answer, so hits can also be counted on the output list alone -/
theorem numHits_eq (c : Lru) (ops : List LruOp) :
    numHits ops (c.run ops).2 = (c.run ops).2.countP Option.isSome := by
  induction ops generalizing c with
  | nil => rfl
  | cons op ops ih =>
    simp only [run_cons, numHits_cons, List.countP_cons, ih]
    rw [Nat.add_comm]
    cases op <;> rfl

end Updog
