/-
Helper lemmas for part 1 of `Updog/Props/Gen/Compose2.lean` (part 2: `Updog/Proofs/GenCompose2Conn.lean`).

A generic simulation lemma for `evalC` / `executeC` / `executeAllC` between two cache implementations (`CacheSim`); the
`CacheImpl` made of the GENERATED `Gen.lruGet` / `Gen.lruPut` (state: the generated `Gen.LRUCache`) and its simulation of
the model's `lruCacheImpl` along `abs` (`LruRel`); from these, that a generated LRU related to a sound model LRU is
transparent (`LruRel.transparent`), and the closing theorems of `Props/Gen/Compose.lean` lifted to it.
-/
import Updog.Props.Gen.Compose

namespace Updog.GeneratedEq
open Updog.Go Updog.Go.T3

/-! ## 1. simulation between cache implementations -/

/-- `R` is a simulation between the cache implementations `C` and `D`: related states answer `Get` alike, and `Get` /
    `Put` lead to related states -/
structure CacheSim {σ τ : Type} (C : CacheImpl σ) (D : CacheImpl τ) (R : σ → τ → Prop) : Prop where
  get : ∀ a b k, R a b → R (C.get a k).1 (D.get b k).1 ∧ (C.get a k).2 = (D.get b k).2
  put : ∀ a b k bm, R a b → R (C.put a k bm) (D.put b k bm)

section sim
variable (H : Bytes → UInt64) {σ τ : Type} {C : CacheImpl σ} {D : CacheImpl τ} {R : σ → τ → Prop} (ix : Updog.Index)

theorem withCache_sim (S : CacheSim C D R) (key : UInt64) (a : σ) (b : τ) (hab : R a b)
    (f : σ → σ × Option Nat) (g : τ → τ × Option Nat)
    (hfg : ∀ a1 b1, R a1 b1 → R (f a1).1 (g b1).1 ∧ (f a1).2 = (g b1).2) :
    R (withCache C key a f).1 (withCache D key b g).1 ∧ (withCache C key a f).2 = (withCache D key b g).2 := by
  obtain ⟨h1, h2⟩ := S.get a b key hab
  unfold withCache
  simp only
  rw [h2]
  cases hd : (D.get b key).2 with
  | some bm => exact ⟨h1, rfl⟩
  | none =>
    obtain ⟨h3, h4⟩ := hfg _ _ h1
    simp only
    rw [h4]
    cases hg : (g (D.get b key).1).2 with
    | none => exact ⟨h3, rfl⟩
    | some bm => exact ⟨S.put _ _ key bm h3, rfl⟩

mutual
theorem evalC_sim (S : CacheSim C D R) (e : Expr) (a : σ) (b : τ) (hab : R a b) :
    R (evalC H C ix a e).1 (evalC H D ix b e).1 ∧ (evalC H C ix a e).2 = (evalC H D ix b e).2 := by
  match e with
  | .eq c v =>
    unfold evalC
    cases hcol : ix.schema.col c with
    | none => exact ⟨hab, rfl⟩
    | some vs =>
      simp only
      apply withCache_sim S _ a b hab
      intro a1 b1 h1
      exact ⟨h1, rfl⟩
  | .not e1 =>
    unfold evalC
    apply withCache_sim S _ a b hab
    intro a1 b1 h1
    have ih := evalC_sim S e1 a1 b1 h1
    exact ⟨ih.1, by simp only [ih.2]⟩
  | .and es =>
    unfold evalC
    apply withCache_sim S _ a b hab
    intro a1 b1 h1
    have ih := evalListC_sim S es a1 b1 h1
    exact ⟨ih.1, by simp only [ih.2]⟩
  | .or es =>
    unfold evalC
    apply withCache_sim S _ a b hab
    intro a1 b1 h1
    have ih := evalListC_sim S es a1 b1 h1
    exact ⟨ih.1, by simp only [ih.2]⟩
theorem evalListC_sim (S : CacheSim C D R) (es : List Expr) (a : σ) (b : τ) (hab : R a b) :
    R (evalListC H C ix a es).1 (evalListC H D ix b es).1 ∧ (evalListC H C ix a es).2 = (evalListC H D ix b es).2 := by
  match es with
  | [] => unfold evalListC; exact ⟨hab, rfl⟩
  | e :: es' =>
    unfold evalListC
    have ih := evalC_sim S e a b hab
    simp only
    rw [ih.2]
    cases hv : (evalC H D ix b e).2 with
    | none => exact ⟨ih.1, rfl⟩
    | some bm =>
      have ih2 := evalListC_sim S es' _ _ ih.1
      exact ⟨ih2.1, by simp only [ih2.2]⟩
end

theorem executeC_sim (S : CacheSim C D R) (q : Query) (a : σ) (b : τ) (hab : R a b) :
    R (executeC H C ix a q).1 (executeC H D ix b q).1 ∧ (executeC H C ix a q).2 = (executeC H D ix b q).2 := by
  unfold executeC
  cases populateGroupBy ix.schema q.groupBy with
  | none => exact ⟨hab, rfl⟩
  | some fields =>
    have ih := evalC_sim H ix S q.expr a b hab
    simp only
    rw [ih.2]
    cases hv : (evalC H D ix b q.expr).2 with
    | none => exact ⟨ih.1, rfl⟩
    | some bm => exact ⟨ih.1, rfl⟩

theorem executeAllC_sim (S : CacheSim C D R) (qs : List Query) (a : σ) (b : τ) (hab : R a b) :
    R (executeAllC H C ix a qs).1 (executeAllC H D ix b qs).1 ∧ (executeAllC H C ix a qs).2 = (executeAllC H D ix b qs).2 := by
  induction qs generalizing a b with
  | nil => exact ⟨hab, rfl⟩
  | cons q qs ih =>
    unfold executeAllC
    have h1 := executeC_sim H ix S q a b hab
    have h2 := ih _ _ h1.1
    exact ⟨h2.1, by simp only [h1.2, h2.2]⟩

end sim

/-! ## 2. the generated LRU as a `CacheImpl` -/

/-- **the `Cache` implementation whose state is the generated `Gen.LRUCache`** and whose `Get` / `Put` are the
    generated `Gen.lruGet` / `Gen.lruPut` (`sz` is `GetSizeInBytes`); `(nil, false)` is read as a miss -/
def genLruImpl (sz : Ref → UInt64) : CacheImpl Gen.LRUCache where
  get := fun s k => ((Gen.lruGet s k).1, absRes (Gen.lruGet s k).2)
  put := fun s k bm => Gen.lruPut sz s k bm

theorem genLruImpl_get (sz : Ref → UInt64) (s : Gen.LRUCache) (k : UInt64) :
    (genLruImpl sz).get s k = ((Gen.lruGet s k).1, absRes (Gen.lruGet s k).2) := by simp only [genLruImpl]

theorem genLruImpl_put (sz : Ref → UInt64) (s : Gen.LRUCache) (k : UInt64) (bm : Nat) :
    (genLruImpl sz).put s k bm = Gen.lruPut sz s k bm := by simp only [genLruImpl]

/-! ### the model's `Lru` does not look at its counters -/

theorem noCtr_get {a b : Lru} (h : noCtr a = noCtr b) (k : Nat) :
    noCtr (a.get k).1 = noCtr (b.get k).1 ∧ (a.get k).2 = (b.get k).2 := by
  obtain ⟨ai, ac, am, ao, _, _, _, _⟩ := a
  obtain ⟨bi, bc, bm, bo, _, _, _, _⟩ := b
  simp only [noCtr, Lru.mk.injEq, and_true] at h
  obtain ⟨rfl, rfl, rfl, rfl⟩ := h
  simp only [Lru.get]
  split <;> exact ⟨rfl, rfl⟩

theorem noCtr_put {a b : Lru} (h : noCtr a = noCtr b) (k bm s : Nat) : noCtr (a.put k bm s) = noCtr (b.put k bm s) := by
  obtain ⟨ai, ac, am, ao, _, _, _, _⟩ := a
  obtain ⟨bi, bc, bm', bo, _, _, _, _⟩ := b
  simp only [noCtr, Lru.mk.injEq, and_true] at h
  obtain ⟨rfl, rfl, rfl, rfl⟩ := h
  simp only [Lru.put]
  split <;> rfl

theorem noCtr_bounded {a b : Lru} (h : noCtr a = noCtr b) (hb : a.Bounded) : b.Bounded := by
  obtain ⟨ai, ac, am, ao, _, _, _, _⟩ := a
  obtain ⟨bi, bc, bm', bo, _, _, _, _⟩ := b
  simp only [noCtr, Lru.mk.injEq, and_true] at h
  obtain ⟨rfl, rfl, rfl, rfl⟩ := h
  exact hb

/-- **the simulation relation** between a generated cache `g` of capacity `max` and a model cache `m`:
    the representation invariant of Props/Gen/Lru.lean holds, the cache respects its bound, no `Put` can overflow the
    64-bit account, and `abs g` is `m` — up to the four counters in general (any of them may be nil in `g`), exactly
    when all four counters are configured -/
structure LruRel (sz : Ref → UInt64) (max : UInt64) (g : Gen.LRUCache) (m : Lru) : Prop where
  inv : Inv g
  bounded : (abs g).Bounded
  max_eq : g.maxSize = max
  fits : ∀ bm, max.toNat + (sz bm).toNat + ovh < 2 ^ 64
  core : noCtr (abs g) = noCtr m
  exact : AllSet g → abs g = m

theorem LruRel.get {sz : Ref → UInt64} {max : UInt64} {g : Gen.LRUCache} {m : Lru} (h : LruRel sz max g m) (k : UInt64) :
    LruRel sz max (Gen.lruGet g k).1 (m.get k.toNat).1 ∧ absRes (Gen.lruGet g k).2 = (m.get k.toNat).2 := by
  obtain ⟨hI, hB, hmax, hF, hc, hx⟩ := h
  have hn := lruGet_abs_noCtr g k hI
  have hm := noCtr_get hc k.toNat
  refine ⟨⟨lruGet_inv g k hI, ?_, (lruGet_metrics g k).2.1.trans hmax, hF, hn.trans hm.1, fun hA' => ?_⟩,
    (lruGet_abs_gen g k hI).2.trans hm.2⟩
  · exact noCtr_bounded hn.symm (step_bounded (abs g) (.get k.toNat) hI.model hB)
  · have hA := (lruGet_allSet g k).mp hA'
    rw [(lruGet_abs g k hI hA).1, hx hA]

theorem LruRel.put {sz : Ref → UInt64} {max : UInt64} {g : Gen.LRUCache} {m : Lru} (h : LruRel sz max g m) (k : UInt64)
    (bm : Ref) : LruRel sz max (Gen.lruPut sz g k bm) (m.put k.toNat bm (sz bm).toNat) := by
  obtain ⟨hI, hB, hmax, hF, hc, hx⟩ := h
  have hno : g.curSize.toNat + (sz bm).toNat + ovh < 2 ^ 64 := by
    have := hF bm
    have hcur := cur_le_of_bounded hI hB
    rw [hmax] at hcur
    omega
  have hn := lruPut_abs_noCtr sz g k bm hI hno
  refine ⟨lruPut_inv sz g k bm hI hno, ?_, (lruPut_metrics sz g k bm).2.trans hmax, hF,
    hn.trans (noCtr_put hc k.toNat bm (sz bm).toNat), fun hA' => ?_⟩
  · exact noCtr_bounded hn.symm (step_bounded (abs g) (.put k.toNat bm (sz bm).toNat) hI.model hB)
  · have hA := (lruPut_allSet sz g k bm).mp hA'
    rw [lruPut_abs sz g k bm hI hA hno, hx hA]

theorem genLru_sim (sz : Ref → UInt64) (max : UInt64) :
    CacheSim (genLruImpl sz) (lruCacheImpl fun b => (sz b).toNat) (LruRel sz max) where
  get := fun g m k h => by rw [genLruImpl_get]; exact h.get k
  put := fun g m k bm h => by rw [genLruImpl_put]; exact h.put k bm

/-- **`NewLRUCache(max, opts…)` starts the simulation**: whatever `WithCacheMetrics` options are given (none, some
    counters nil, all set), the new generated cache is related to its own abstraction, which is an empty model cache. -/
theorem newLRUCache_rel (sz : Ref → UInt64) (max : UInt64) (ms : List Gen.CacheMetrics)
    (hfit : ∀ bm, max.toNat + (sz bm).toNat + ovh < 2 ^ 64) :
    LruRel sz max (Gen.newLRUCache max (ms.map Gen.withCacheMetrics))
      (abs (Gen.newLRUCache max (ms.map Gen.withCacheMetrics))) ∧
    (abs (Gen.newLRUCache max (ms.map Gen.withCacheMetrics))).items = [] := by
  have hI := newLRUCache_inv max ms
  rw [newLRUCache_eq] at hI ⊢
  have hitems : (abs (base max (ms.getLast?.getD nilMetrics))).items = [] := by rw [abs_base]; rfl
  exact ⟨⟨hI, Or.inr hitems, rfl, hfit, rfl, fun _ => rfl⟩, hitems⟩

/-- the byte bound of C07 as a predicate on a generated cache (the conclusion of `gen_byte_bound`) -/
def ByteBound (max : UInt64) (c : Gen.LRUCache) : Prop :=
  c.curSize.toNat = total ovh (absItems c.lruList.elems) ∧
  (c.curSize ≤ max ∨ c.lruList.elems = []) ∧
  sizes (absItems c.lruList.elems) ≤ max.toNat

theorem LruRel.byteBound {sz : Ref → UInt64} {max : UInt64} {g : Gen.LRUCache} {m : Lru} (h : LruRel sz max g m) :
    ByteBound max g := by
  obtain ⟨hI, hB, hmax, _, _, _⟩ := h
  refine ⟨hI.acct, ?_, ?_⟩
  · rcases hB with hb | hb
    · left
      rw [UInt64.le_iff_toNat_le, hI.acct, ← hmax]; exact hb
    · right
      have : absItems g.lruList.elems = [] := hb
      cases hc : g.lruList.elems with
      | nil => rfl
      | cons a t => rw [hc] at this; simp [absItems] at this
  · rcases hB with hb | hb
    · have h1 := sizes_le_total ovh (absItems g.lruList.elems)
      have h2 : total ovh (absItems g.lruList.elems) ≤ g.maxSize.toNat := hb
      rw [hmax] at h2
      omega
    · have : absItems g.lruList.elems = [] := hb
      rw [this]; simp [sizes]

theorem LruRel.step {sz : Ref → UInt64} {max : UInt64} {g : Gen.LRUCache} {m : Lru} (h : LruRel sz max g m) (op : GOp) :
    LruRel sz max (genStep sz g op).1 (m.step (absOp sz op)).1 ∧ (genStep sz g op).2 = (m.step (absOp sz op)).2 := by
  cases op with
  | get k => simp only [genStep, absOp, Lru.step]; exact h.get k
  | put k bm => simp only [genStep, absOp, Lru.step, and_true]; exact h.put k bm

/-- **every state reachable from a related state by generated `Get`s and `Put`s is related** to the state the model
    reaches by the same history, and the `Get` answers agree: `genRun_abs` of Props/Gen/Lru.lean for ANY configuration
    of the four counters (there: all set) -/
theorem genRun_rel (sz : Ref → UInt64) (max : UInt64) (ops : List GOp) (g : Gen.LRUCache) (m : Lru)
    (hrel : LruRel sz max g m) :
    LruRel sz max (genRun sz g ops).1 (m.run (ops.map (absOp sz))).1 ∧
    (genRun sz g ops).2 = (m.run (ops.map (absOp sz))).2 := by
  induction ops generalizing g m with
  | nil => exact ⟨hrel, rfl⟩
  | cons op ops ih =>
    obtain ⟨h1, h2⟩ := hrel.step op
    obtain ⟨i1, i2⟩ := ih _ _ h1
    rw [List.map_cons, run_cons]
    exact ⟨i1, List.cons_eq_cons.2 ⟨h2, i2⟩⟩

/-! ## 3. the generated `Execute` through the generated LRU -/

/-- **a generated LRU related to a sound model LRU is transparent** for every query over the universe: cached evaluation
    answers like `eval`, cached execution like the model LRU's (which answers like `execute`), and the states after the
    execution are related and sound again -/
theorem LruRel.transparent (H : Bytes → UInt64) {ix : Updog.Index} {sz : Ref → UInt64} {max : UInt64} {U : List Expr}
    (hU : SubClosed U) (hkey : KeyOK H ix U) {g : Gen.LRUCache} {m : Lru} (hrel : LruRel sz max g m)
    (hst : Sound H ix U (C03.lruCache_contract fun b => (sz b).toNat) m) (q : Query) (he : q.expr ∈ U) :
    (evalC H (genLruImpl sz) ix g q.expr).2 = eval H ix q.expr ∧
    (executeC H (genLruImpl sz) ix g q).2 = (executeC H (lruCacheImpl fun b => (sz b).toNat) ix m q).2 ∧
    (executeC H (lruCacheImpl fun b => (sz b).toNat) ix m q).2 = execute H ix q ∧
    LruRel sz max (executeC H (genLruImpl sz) ix g q).1 (executeC H (lruCacheImpl fun b => (sz b).toNat) ix m q).1 ∧
    Sound H ix U (C03.lruCache_contract fun b => (sz b).toNat)
      (executeC H (lruCacheImpl fun b => (sz b).toNat) ix m q).1 :=
  have hx := executeC_sim H ix (genLru_sim sz max) q g m hrel
  have ht := C03.execute_transparent (C03.lruCache_contract fun b => (sz b).toNat) hU hkey m hst q he
  ⟨(evalC_sim H ix (genLru_sim sz max) q.expr g m hrel).2.trans
      (C03.cache_transparent (C03.lruCache_contract fun b => (sz b).toNat) hU hkey m hst q.expr he).1,
    hx.2, ht.1, hx.1, ht.2⟩

set_option linter.unusedVariables false in
theorem take_map_mem {α β : Type} (f : α → β) (l : List α) (n : Nat) (x : α) (h : x ∈ l.take n) : x ∈ l :=
  List.mem_of_mem_take h

/-- the rows the SQL specification prescribes for a bound statement: the header `groupBy ++ ["count"]` and the rows
    the model's `newRows` makes of the specification's answer (`specExecute`: `SELECT groupBy, COUNT(*) … GROUP BY …`) -/
def sqlRows (rows : List Row) (q' : PQuery) : Option (List Bytes × List (List Cell)) :=
  (specExecute rows (toQuery q')).map fun res =>
    ((Updog.newRows res q'.groupBy).cols, (Updog.newRows res q'.groupBy).rows)

section lift
variable (H : Bytes → UInt64) (X : Ext) (bolt : Bolt) (hp : Heap) (i : Nat) (d : BucketData) (next : UInt32)
  (vals : ColGetter) {w : Writer} (hw : HoldsWriter X d w next)
  (hg : GetColRefines (genGetCol X bolt hp vals) (fileIndex X d w.schema next))
  (hfit : ∀ e bm, eval H w.toIndex e = some bm → popcount bm < 2 ^ 64)
  (sz : Ref → UInt64) (max : UInt64) {U : List Expr} (hU : SubClosed U) (hkey : KeyOK H w.toIndex U)
include hw hg hfit hU hkey

theorem genLruExecuteAll_sim :
    ∀ (qs : List (Query × List Gen.groupBy)) (g : Gen.LRUCache) (m : Lru), LruRel sz max g m →
      Sound H w.toIndex U (C03.lruCache_contract fun b => (sz b).toNat) m →
      (∀ p ∈ qs, p.1.expr ∈ U) →
      (genExecuteAll H (genLruImpl sz) X bolt hp (openedIndex i w.schema next vals)
          (qs.map fun p => (⟨toLib p.1.expr, p.1.groupBy⟩, p.2)) g).2
        = (executeAllC H (lruCacheImpl fun b => (sz b).toNat) w.toIndex m (qs.map (·.1))).2 ∧
      LruRel sz max
        (genExecuteAll H (genLruImpl sz) X bolt hp (openedIndex i w.schema next vals)
          (qs.map fun p => (⟨toLib p.1.expr, p.1.groupBy⟩, p.2)) g).1
        (executeAllC H (lruCacheImpl fun b => (sz b).toNat) w.toIndex m (qs.map (·.1))).1 := by
  intro qs
  induction qs with
  | nil => intro g m hrel _ _; exact ⟨rfl, hrel⟩
  | cons p r ih =>
    intro g m hrel hst hq
    obtain ⟨⟨e, cols⟩, stale⟩ := p
    obtain ⟨hte, hx, _, hrel', hst'⟩ := hrel.transparent H hU hkey hst ⟨e, cols⟩ (hq _ (List.mem_cons_self ..))
    have h1 := GenCompose.genExecute_eq_execute H X bolt hp i d next vals hw hg hfit (genLruImpl sz) g e cols stale hte
    obtain ⟨i1, i2⟩ := ih _ _ hrel' hst' (fun p hp => hq p (List.mem_cons_of_mem _ hp))
    simp only [List.map_cons, genExecuteAll, executeAllC, h1]
    exact ⟨by rw [hx, i1], i2⟩

/-- the library query `q` (any Go `Expression` that completes to `e ∈ U`) executed all-generated through the generated
    LRU from a state related to a sound model state: the states after are related and the model state is sound -/
theorem genLruExecute_state (g : Gen.LRUCache) (m : Lru) (hrel : LruRel sz max g m)
    (hst : Sound H w.toIndex U (C03.lruCache_contract fun b => (sz b).toNat) m)
    (q : Go.Lib.Query) (e : Expr) (hq : libComplete q.Expr = some e) (he : e ∈ U) (stale : List Gen.groupBy) :
    ∃ m', LruRel sz max
        (genExecute H (genLruImpl sz) X bolt hp (openedIndex i w.schema next vals) q stale g).1 m' ∧
      Sound H w.toIndex U (C03.lruCache_contract fun b => (sz b).toNat) m' := by
  obtain ⟨hte, _, _, hrel', hst'⟩ := hrel.transparent H hU hkey hst ⟨e, q.GroupBy⟩ he
  have hx := GenCompose.genExecute_eq_executeC H (genLruImpl sz) X bolt hp i d _ next vals hg q stale g
  rw [hw.fileIndex_eq, hq] at hx
  have h1 := congrArg Prod.fst (hx fun _ h bm hbm => by cases h; exact hfit e bm (hte ▸ hbm))
  exact ⟨_, h1 ▸ hrel', hst'⟩

end lift

section lift
variable (H : Bytes → UInt64) (X : Ext) (rows : List Row) (bolt : Bolt) (hp : Heap) (i : Nat)
  (d : BucketData) (next : UInt32) (vals : ColGetter)
  (hw : HoldsWriter X d (Writer.addRows H {} rows) next)
  (hg : GetColRefines (genGetCol X bolt hp vals) (fileIndex X d (Writer.addRows H {} rows).schema next))
  (hlen : rows.length < 2 ^ 64)
include hw hg hlen

/-- a prepared query, bound, run by `Gen.stmtQuery` over the all-generated `Execute` through ANY cache implementation
    from a state from which this query's cached evaluation and execution are transparent: the SQL rows -/
theorem stmtQuery_sql {σ : Type} (C : CacheImpl σ) (st : σ) (pq : PQuery) (values : List Bytes) (q' : PQuery)
    (hb : bind pq values = .ok q')
    (hte : (evalC H C (Writer.addRows H {} rows).toIndex st (toExpr q'.expr)).2
      = eval H (Writer.addRows H {} rows).toIndex (toExpr q'.expr))
    (htx : (executeC H C (Writer.addRows H {} rows).toIndex st (toQuery q')).2
      = execute H (Writer.addRows H {} rows).toIndex (toQuery q'))
    (ok : EndToEnd.QueryOK H rows (toQuery q')) (hD : DataNoCollision H rows) :
    ∃ r, sqlRows rows q' = some r ∧
      (toOutcome (Gen.stmtQuery (genLibExecute H C X bolt hp
          (openedIndex i (Writer.addRows H {} rows).schema next vals) st) ⟨pq⟩ values)).map GenCompose.rowsView = .ok r := by
  obtain ⟨groups, _, hex⟩ := C02.execute_eq_some H rows (toExpr q'.expr) q'.groupBy ok.cols ok.wf ok.inj hD ok.gb
  have hspec := C02.groupBy_eq_spec H rows (toExpr q'.expr) q'.groupBy ok.cols ok.wf ok.inj hD ok.gb
  have h := GenCompose.stmtQuery_written H X bolt hp i d next vals hw hg (written_fits H rows hlen) C st pq values q' hb hte htx
  rw [show toQuery q' = ⟨toExpr q'.expr, q'.groupBy⟩ from rfl, hex] at h
  refine ⟨_, ?_, h⟩
  unfold sqlRows
  rw [show toQuery q' = ⟨toExpr q'.expr, q'.groupBy⟩ from rfl, ← hspec, hex]
  rfl

variable (sz : Ref → UInt64) (max : UInt64)
  {U : List Expr} (hU : SubClosed U) (hkey : KeyOK H (Writer.addRows H {} rows).toIndex U)
include hU hkey

/-- **a prepared statement through the generated LRU**: the SQL rows, from every state related to a sound model state -/
theorem genLru_stmtQuery_sql (g : Gen.LRUCache) (m : Lru) (hrel : LruRel sz max g m)
    (hst : Sound H (Writer.addRows H {} rows).toIndex U (C03.lruCache_contract fun b => (sz b).toNat) m)
    (pq : PQuery) (values : List Bytes) (q' : PQuery) (hb : bind pq values = .ok q')
    (he : toExpr q'.expr ∈ U) (ok : EndToEnd.QueryOK H rows (toQuery q')) (hD : DataNoCollision H rows) :
    ∃ r, sqlRows rows q' = some r ∧
      (toOutcome (Gen.stmtQuery (genLibExecute H (genLruImpl sz) X bolt hp
          (openedIndex i (Writer.addRows H {} rows).schema next vals) g) ⟨pq⟩ values)).map GenCompose.rowsView = .ok r := by
  obtain ⟨hte, hx, htx, _, _⟩ := hrel.transparent H hU hkey hst (toQuery q') he
  exact stmtQuery_sql H X rows bolt hp i d next vals hw hg hlen (genLruImpl sz) g pq values q' hb hte (hx.trans htx) ok hD

end lift

/-- what `Gen.ToQuery` makes of a bound parsed query completes to the model expression -/
theorem libComplete_ToQuery_toWire (q' : PQuery) :
    libComplete (Gen.ToQuery (Go.Parsed.Query.toWire q')).Expr = some (toExpr q'.expr) := by
  rw [(ToQuery_complete (Go.Parsed.Query.toWire q')).1]
  simp only [Go.Parsed.Query.toWire, complete_toWire]

end Updog.GeneratedEq
