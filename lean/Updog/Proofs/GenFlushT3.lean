/-
The generated `writeToBoltDatabase` against the model's `writeTxs` (Model/BigWriter.lean): the rendering of the model's
abstract `Put`s as the bytes the Go code hands to bbolt, what the `Put`s leave in bucket `data`, and the loop invariant
that tracks both.
-/
import Updog.GeneratedFns
import Updog.Proofs.GoPreludeT3
import Updog.Model.BigWriter
namespace Updog.GeneratedEq
open Updog.Go.T3

/-- the bucket name `[]byte("data")` -/
def dataName : Bytes := [100, 97, 116, 97]

/-- how `WriteToBoltDatabase` lays out one model-level `Put` in the file: bucket `data`;
    `'V' ‖ big-endian 8-byte value index ↦ bitmap.ToBytes()`, `'S' ↦ gob(schema)`, `'I' ↦ big-endian 4-byte counter` -/
def renderPut (X : Ext) : BoltPut → PutRec
  | .val k b => (dataName, 86 :: be64 k.toNat, X.roaringToBytes b)
  | .schema s => (dataName, [83], X.gobEncode s)
  | .counter n => (dataName, [73], be32 n)

def renderTx (X : Ext) (tx : Tx) : List PutRec := tx.map (renderPut X)

/-- the key of a bitmap: `'V' ‖ be64(valueIdx)` -/
def vKey (h : UInt64) : Bytes := 86 :: be64 h.toNat

/-- bucket `data` after `Put`ting the bitmaps `vs` in this order -/
def valFold (X : Ext) (d0 : BucketData) (vs : ValMap) : BucketData :=
  vs.foldl (fun d kb => dataPut d (vKey kb.1) (X.roaringToBytes kb.2)) d0

theorem valFold_append (X : Ext) (d0 : BucketData) (a b : ValMap) :
    valFold X d0 (a ++ b) = valFold X (valFold X d0 a) b := by
  simp [valFold, List.foldl_append]

/-- bucket `data` of a complete index file: the bitmaps, then `'S'`, then `'I'` -/
def fileData (X : Ext) (d0 : BucketData) (vs : ValMap) (s : SchemaVal) (n : UInt32) : BucketData :=
  dataPut (dataPut (valFold X d0 vs) [83] (X.gobEncode s)) [73] (be32 n.toNat)

theorem intMod_succ (n : Nat) : (intMod ((n : Int) + 1) 1000 == 0) = ((n + 1) % 1000 == 0) := by
  have h : intMod ((n : Int) + 1) 1000 = (((n + 1) % 1000 : Nat) : Int) := by
    unfold intMod
    rw [Int.tmod_eq_emod_of_nonneg (by omega)]
    omega
  rw [h]
  cases hk : (n + 1) % 1000 with
  | zero => rfl
  | succ m =>
    have h1 : (((m + 1 : Nat) : Int) == 0) = false := by
      have : ¬ ((m + 1 : Nat) : Int) = 0 := by omega
      simpa using this
    rw [h1]
    rfl

/-- loop state of the generated code -/
abbrev FlushSt := Bolt × IndexWriter × TxRef × BucketRef × Int

/-- invariant of the loop over `idx.values`, for a database `i` whose committed buckets were `c0` and whose commit log was
    `cs0` at the start: after the pairs `done` the model's `BatchState` gives the log of the open transaction, the
    transactions committed since, and the counter; the open transaction sees `valFold` of `done` in bucket `data` -/
def FlushInv (X : Ext) (hp : Heap) (i : Nat) (c0 : Buckets) (cs0 : List (List PutRec)) (idx0 : IndexWriter)
    (done : List (UInt64 × Ptr)) (st : FlushSt) : Prop :=
  ∃ c tid n,
    st = ({ id := i, closed := false, committed := c,
            tx := some { id := tid, writable := true,
                         buckets := bucketsSet c0 dataName (valFold X ((bucketsGet c0 dataName).getD []) (absVals hp done)),
                         log := renderTx X ((absVals hp done).foldl (batchStep 1000) {}).cur },
            nextTx := n, commits := cs0 ++ ((absVals hp done).foldl (batchStep 1000) {}).done.map (renderTx X) },
          idx0, some tid, some (tid, dataName), (((absVals hp done).foldl (batchStep 1000) {}).i : Int))

theorem flush_step (X : Ext) (hp : Heap) (i : Nat) (err : Error) (buf : Bytes) (c0 : Buckets) (cs0 : List (List PutRec))
    (idx0 : IndexWriter) (done : List (UInt64 × Ptr)) (x : UInt64 × Ptr) (st : FlushSt)
    (inv : FlushInv X hp i c0 cs0 idx0 done st) :
    ∃ st', Gen.writeToBoltDatabase_loop1 X hp (some i) err buf st x = .next st' ∧
      FlushInv X hp i c0 cs0 idx0 (done ++ [x]) st' := by
  obtain ⟨c, tid, n, rfl⟩ := inv
  have hms : (absVals hp (done ++ [x])).foldl (batchStep 1000) {}
      = batchStep 1000 ((absVals hp done).foldl (batchStep 1000) {}) (x.1, bitmapAt hp x.2) := by
    rw [absVals_append, List.foldl_append]; rfl
  have hvf : valFold X ((bucketsGet c0 dataName).getD []) (absVals hp (done ++ [x]))
      = dataPut (valFold X ((bucketsGet c0 dataName).getD []) (absVals hp done)) (vKey x.1) (X.roaringToBytes (bitmapAt hp x.2)) := by
    rw [absVals_append, valFold_append]; rfl
  have hd : ([100, 97, 116, 97] : Bytes) = dataName := rfl
  have hk : Gen.keyPrefixValue ++ be64 x.1.toNat = vKey x.1 := rfl
  unfold FlushInv
  rw [hms, hvf]
  generalize (absVals hp done).foldl (batchStep 1000) {} = ms
  generalize valFold X ((bucketsGet c0 dataName).getD []) (absVals hp done) = d
  unfold Gen.writeToBoltDatabase_loop1
  simp only [putU64_full, bitmapToBytes, isErr_none, Bool.false_eq_true, if_false, hd, hk,
    bucketPut_set _ _ _ _ _ _ _ _ _ _ d (by rfl : (vKey x.1).isEmpty = false), intMod_succ]
  cases hb : ((ms.i + 1) % 1000 == 0) with
  | true =>
    -- the batch is full: commit, begin a new transaction, look the bucket up again
    simp only [if_true, txCommit_mk, isErr_none, Bool.false_eq_true, if_false, verifPoint, dbBegin_mk, txBucket_mk,
      bucketsGet_set_same, Option.isSome_some]
    refine ⟨_, rfl, ?_⟩
    simp only [batchStep, hb, if_true, renderTx, List.map_append, List.map_cons, List.map_nil, List.append_assoc, renderPut]
    exact ⟨_, _, _, rfl⟩
  | false =>
    simp only [Bool.false_eq_true, if_false]
    refine ⟨_, rfl, ?_⟩
    simp only [batchStep, hb, Bool.false_eq_true, if_false, renderTx, List.map_append, List.map_cons, List.map_nil, renderPut]
    exact ⟨_, _, _, rfl⟩

/-- **`WriteToBoltDatabase` on an open, idle database**: it returns nil; the commit log grows by the model's `writeTxs`
    rendered `Put` by `Put`; bucket `data` of the committed file holds exactly `fileData` on top of what it held before
    (`[]` if it did not exist), every other bucket is as it was; no transaction stays open; heap unchanged, mutex released. -/
theorem writeToBoltDatabase_run (X : Ext) (rng : List (UInt64 × Ptr)) (i n : Nat) (c : Buckets) (cs : List (List PutRec))
    (hp : Heap) (idx : IndexWriter) :
    ∃ n', Gen.writeToBoltDatabase X rng { id := i, closed := false, committed := c, tx := none, nextTx := n, commits := cs } hp idx (some i)
      = ({ id := i, closed := false,
           committed := bucketsSet c dataName
             (fileData X ((bucketsGet c dataName).getD []) (absVals hp rng) (schemaValue hp idx.schema) idx.nextRowID),
           tx := none, nextTx := n',
           commits := cs ++ (writeTxs (schemaValue hp idx.schema) idx.nextRowID.toNat (absVals hp rng) 1000).map (renderTx X) },
         hp, { idx with mtx := mutexUnlock (mutexLock idx.mtx) }, none) := by
  have hd : ([100, 97, 116, 97] : Bytes) = dataName := rfl
  have h0 : FlushInv X hp i c cs { idx with mtx := mutexLock idx.mtx } []
      ({ id := i, closed := false, committed := c,
         tx := some { id := n, writable := true, buckets := bucketsSet c dataName ((bucketsGet c dataName).getD []), log := [] },
         nextTx := n + 1, commits := cs },
        { idx with mtx := mutexLock idx.mtx }, some n, some (n, dataName), 0) :=
    ⟨c, n, n + 1, by simp [absVals, valFold, renderTx]⟩
  obtain ⟨st', e, c', tid, n', rfl⟩ := forRange_next (FlushInv X hp i c cs { idx with mtx := mutexLock idx.mtx }) _ rng _ h0
    (fun done x st h => flush_step X hp i none (X.gobEncode (schemaValue hp idx.schema)) c cs _ done x st h)
  refine ⟨n', ?_⟩
  unfold Gen.writeToBoltDatabase
  simp only [dbBegin_mk, isErr_none, Bool.false_eq_true, if_false, optimize, gobEncode, hd,
    txCreateBucket_mk _ _ _ _ _ _ _ dataName rfl, List.nil_append, mutexTouch_mutexLock, e,
    bucketPut_set _ _ _ _ _ _ _ _ _ _ _ (by rfl : Gen.keySchema.isEmpty = false),
    bucketPut_set _ _ _ _ _ _ _ _ _ _ _ (by rfl : Gen.keyNextRowID.isEmpty = false),
    txCommit_mk, verifPoint, putU32_full]
  simp only [writeTxs, renderTx, List.map_append, List.map_cons, List.map_nil, List.append_assoc, renderPut]
  rfl

theorem writeToBoltDatabase_spec (X : Ext) (rng : List (UInt64 × Ptr)) (bolt : Bolt) (hp : Heap) (idx : IndexWriter)
    (db : DBRef) (hdb : db = some bolt.id) (hopen : bolt.closed = false) (hnotx : bolt.tx = none)
    (r : Bolt × Heap × IndexWriter × Error) (hr : Gen.writeToBoltDatabase X rng bolt hp idx db = r) :
    r.2.2.2 = none ∧
    r.1.commits
      = bolt.commits ++ (writeTxs (schemaValue hp idx.schema) idx.nextRowID.toNat (absVals hp rng) 1000).map (renderTx X) ∧
    r.1.tx = none ∧ r.1.closed = false ∧ r.1.id = bolt.id ∧ r.2.1 = hp ∧
    r.2.2.1 = { idx with mtx := mutexUnlock (mutexLock idx.mtx) } := by
  obtain ⟨i, _, c, _, n, cs⟩ := bolt
  subst hdb hopen hnotx
  obtain ⟨n', e⟩ := writeToBoltDatabase_run X rng i n c cs hp idx
  rw [← hr, e]
  exact ⟨rfl, rfl, rfl, rfl, rfl, rfl, rfl⟩

/-- a toy instance of the external coders, for the examples -/
def toyExt : Ext where
  roaringToBytes b := be32 b
  roaringFromBuffer bs := if bs.length = 4 then some (beDecode bs) else none
  gobEncode s := [s.length.toUInt8]
  gobDecode bs := if bs.length = 1 then some [] else none

end Updog.GeneratedEq
