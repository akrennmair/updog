import Updog.Proofs.Writer
namespace Updog

def rowAt (rows : List Row) (i : Nat) : Row := (rows[i]?).getD []

theorem filter_range_length {α} (l : List α) (p : α → Bool) (d : α) :
    ((List.range l.length).filter (fun i => p (l[i]?.getD d))).length = (l.filter p).length := by
  induction l with
  | nil => simp
  | cons a t ih =>
    rw [List.length_cons, List.range_succ_eq_map, List.filter_cons, List.filter_map]
    have : ((fun i => p ((a :: t)[i]?.getD d)) ∘ Nat.succ) = fun i => p (t[i]?.getD d) := by
      funext i; simp
    rw [this, List.filter_cons]
    simp only [List.getElem?_cons_zero, Option.getD_some]
    split <;> simp [ih]

theorem popcount_eq_filter_length (b : Nat) (rows : List Row) (p : Row → Bool)
    (h : ∀ i, b.testBit i = (decide (i < rows.length) && p (rowAt rows i))) :
    popcount b = (rows.filter p).length := by
  have hlt : b < 2 ^ rows.length :=
    lt_two_pow_of_testBit b _ fun i hi => by rw [h i, decide_eq_false (Nat.not_lt.mpr hi), Bool.false_and]
  rw [popcount_eq_countBelow _ _ hlt, countBelow_eq_of_testBit b rows.length (fun i => p (rowAt rows i))
    fun i hi => by rw [h i, decide_eq_true hi, Bool.true_and]]
  exact filter_range_length rows p []

theorem satAll_eq (r : Row) (es : List Expr) : satAll r es = es.all (sat r) := by
  induction es with
  | nil => simp [satAll]
  | cons e es ih => simp [satAll, ih]

theorem satAny_eq (r : Row) (es : List Expr) : satAny r es = es.any (sat r) := by
  induction es with
  | nil => simp [satAny]
  | cons e es ih => simp [satAny, ih]

theorem all_eq_of_map_eq {α β} {f : α → Bool} {g : β → Bool} {l : List α} {l' : List β}
    (h : l.map f = l'.map g) : l.all f = l'.all g := by
  have := congrArg (fun m => m.all id) h
  rwa [List.all_map, List.all_map] at this

theorem any_eq_of_map_eq {α β} {f : α → Bool} {g : β → Bool} {l : List α} {l' : List β}
    (h : l.map f = l'.map g) : l.any f = l'.any g := by
  have := congrArg (fun m => m.any id) h
  rwa [List.any_map, List.any_map] at this

theorem all_and_const {α} (l : List α) (d : Bool) (f : α → Bool) (hl : l ≠ []) :
    l.all (fun x => d && f x) = (d && l.all f) := by
  induction l with
  | nil => exact absurd rfl hl
  | cons a t ih =>
    cases t with
    | nil => simp
    | cons b t' =>
      have := ih (by simp)
      simp only [List.all_cons] at this ⊢
      rw [this]
      cases d <;> simp

theorem any_and_const {α} (l : List α) (d : Bool) (f : α → Bool) :
    l.any (fun x => d && f x) = (d && l.any f) := by
  induction l with
  | nil => simp
  | cons a t ih => simp only [List.any_cons, ih]; cases d <;> simp

section
variable (H : Bytes → UInt64)

/-- no (column,value) pair of the data shares its value index with a different pair tested by the query:
    the property's "64-bit hash collisions are assumed away", restricted to the pairs in play -/
def NoCollision (rows : List Row) (qs : List (Bytes × Bytes)) : Prop :=
  ∀ p ∈ pairsOf rows, ∀ q ∈ qs, H (encodePair p.1 p.2) = H (encodePair q.1 q.2) → p = q

theorem rowHas_eq_contains (rows : List Row) (c v : Bytes) (i : Nat)
    (hinj : NoCollision H rows [(c, v)]) :
    rowHas H rows (H (encodePair c v)) i = (decide (i < rows.length) && (rowAt rows i).contains (c, v)) := by
  unfold rowHas rowAt
  by_cases hi : i < rows.length
  · rw [List.getElem?_eq_getElem hi, decide_eq_true hi, Bool.true_and, Option.getD_some, Bool.eq_iff_iff,
      List.any_eq_true, List.contains_iff_mem]
    constructor
    · rintro ⟨kv, hkv, hh⟩
      have hmem : kv ∈ pairsOf rows := List.mem_flatMap.mpr ⟨rows[i], List.getElem_mem hi, hkv⟩
      rw [← hinj kv hmem (c, v) (List.mem_singleton_self _) (eq_of_beq hh)]
      exact hkv
    · exact fun h => ⟨(c, v), h, beq_self_eq_true _⟩
  · rw [List.getElem?_eq_none (Nat.le_of_not_lt hi), decide_eq_false hi, Bool.false_and]

theorem NoCollision.mono {rows : List Row} {qs qs' : List (Bytes × Bytes)} (h : NoCollision H rows qs)
    (hsub : ∀ q ∈ qs', q ∈ qs) : NoCollision H rows qs' :=
  fun p hp q hq => h p hp q (hsub q hq)

mutual
theorem eval_correct (rows : List Row) (e : Expr)
    (hcols : ∀ c ∈ e.columns, c ∈ columnsOf rows) (hwf : e.arityPos = true)
    (hinj : NoCollision H rows e.pairs) :
    ∃ b, eval H (Writer.addRows H {} rows).toIndex e = some b ∧
      ∀ i, b.testBit i = (decide (i < rows.length) && sat (rowAt rows i) e) := by
  match e with
  | .eq c v =>
    have hsome : ((Writer.addRows H {} rows).schema.col c).isSome = true := by
      rw [schema_col_isSome, List.contains_iff_mem.mpr (hcols c (List.mem_singleton_self c)), Bool.or_true]
    obtain ⟨vs, hvs⟩ := Option.isSome_iff_exists.mp hsome
    refine ⟨((Writer.addRows H {} rows).vals.get (H (encodePair c v))).getD 0,
      by simp only [eval, Writer.toIndex, hvs], fun i => ?_⟩
    rw [(winv_addRows H rows).vals, rowHas_eq_contains H rows c v i hinj]
    rfl
  | .not e' =>
    obtain ⟨b, hb, hbits⟩ := eval_correct rows e' hcols hwf hinj
    refine ⟨flip rows.length b, ?_, fun i => ?_⟩
    · rw [eval, hb]
      exact congrArg (fun n => some (flip n b)) (winv_addRows H rows).next
    rw [testBit_flip, hbits, sat]
    cases decide (i < rows.length) <;> simp
  | .and es =>
    obtain ⟨hne, hwf⟩ := Bool.and_eq_true_iff.mp hwf
    obtain ⟨bs, hbs, hbits⟩ := evalList_correct rows es hcols hwf hinj
    refine ⟨andAll bs, by simp only [eval, hbs, Option.map_some], fun i => ?_⟩
    have hes : es ≠ [] := fun h => by rw [h] at hne; cases hne
    have hbs' : bs ≠ [] := fun h => by
      have := congrArg List.length (hbits 0)
      rw [h, List.map_nil, List.length_nil, List.length_map] at this
      exact hes (List.length_eq_zero_iff.mp this.symm)
    rw [testBit_andAll, all_eq_of_map_eq (hbits i), all_and_const _ _ _ hes, List.isEmpty_eq_false_iff.mpr hbs',
      sat, satAll_eq]
    rfl
  | .or es =>
    obtain ⟨_, hwf⟩ := Bool.and_eq_true_iff.mp hwf
    obtain ⟨bs, hbs, hbits⟩ := evalList_correct rows es hcols hwf hinj
    refine ⟨orAll bs, by simp only [eval, hbs, Option.map_some], fun i => ?_⟩
    rw [testBit_orAll, any_eq_of_map_eq (hbits i), any_and_const, sat, satAny_eq]
theorem evalList_correct (rows : List Row) (es : List Expr)
    (hcols : ∀ c ∈ Expr.columnsList es, c ∈ columnsOf rows) (hwf : Expr.arityPosList es = true)
    (hinj : NoCollision H rows (Expr.pairsList es)) :
    ∃ bs, evalList H (Writer.addRows H {} rows).toIndex es = some bs ∧
      ∀ i, bs.map (·.testBit i) = es.map fun e => (decide (i < rows.length) && sat (rowAt rows i) e) := by
  match es with
  | [] => exact ⟨[], rfl, fun _ => rfl⟩
  | e :: es' =>
    obtain ⟨hwf1, hwf2⟩ := Bool.and_eq_true_iff.mp hwf
    obtain ⟨b, hb, hbit⟩ := eval_correct rows e (fun c hc => hcols c (List.mem_append_left _ hc)) hwf1
      (hinj.mono H fun q hq => List.mem_append_left _ hq)
    obtain ⟨bs, hbs, hbits⟩ := evalList_correct rows es' (fun c hc => hcols c (List.mem_append_right _ hc)) hwf2
      (hinj.mono H fun q hq => List.mem_append_right _ hq)
    refine ⟨b :: bs, by simp only [evalList, hb, hbs, Option.map_some], fun i => ?_⟩
    rw [List.map_cons, List.map_cons, hbit i, hbits i]
end

theorem eval_unknown_column (rows : List Row) (c v : Bytes) (hc : c ∉ columnsOf rows) :
    eval H (Writer.addRows H {} rows).toIndex (.eq c v) = none := by
  have hnone : ((Writer.addRows H {} rows).schema.col c).isSome = false := by
    rw [schema_col_isSome]; simp [Schema.col, hc]
  have : (Writer.addRows H {} rows).schema.col c = none := by
    cases h : (Writer.addRows H {} rows).schema.col c with
    | none => rfl
    | some x => rw [h] at hnone; simp at hnone
  simp [eval, Writer.toIndex, this]

end
end Updog
