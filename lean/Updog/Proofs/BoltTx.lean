/-
Helper lemmas for C05 (4) / C06: key uniqueness of the writers' maps, bolt `Put` sequences,
the batch loop of `WriteToBoltDatabase`, transaction prefixes.
-/
import Updog.Proofs.BigWriter
namespace Updog

/-- keys of a (Go / bolt) map are unique -/
def KeysNodup (m : ValMap) : Prop := (m.map (·.1)).Nodup

theorem ValMap.isSome_get_iff (m : ValMap) (h : UInt64) : (m.get h).isSome = true ↔ h ∈ m.map (·.1) := by
  induction m with
  | nil => exact ⟨(fun e => nomatch e), (fun e => nomatch e)⟩
  | cons kb rest ih =>
    unfold ValMap.get
    rw [List.map_cons, List.mem_cons, ← ih]
    cases hk : kb.1 == h
    · have : ¬ h = kb.1 := fun e => by rw [e, beq_self_eq_true] at hk; cases hk
      simp only [Bool.false_eq_true, if_false, this, false_or]
    · simp only [if_true, Option.isSome_some, beq_iff_eq.mp hk, true_or]

theorem ValMap.mem_keys_put (m : ValMap) (h k : UInt64) (b : Nat) :
    k ∈ (m.put h b).map (·.1) ↔ k = h ∨ k ∈ m.map (·.1) := by
  rw [← isSome_get_iff, ← isSome_get_iff, get_put]
  split
  · next e => simp only [Option.isSome_some, e, true_or]
  · next e => simp only [e, false_or]

theorem KeysNodup.put {m : ValMap} (hn : KeysNodup m) (h : UInt64) (b : Nat) : KeysNodup (m.put h b) := by
  induction m with
  | nil => exact List.pairwise_singleton ..
  | cons kb rest ih =>
    obtain ⟨hk, hr⟩ := List.nodup_cons.mp hn
    unfold ValMap.put
    split
    · exact hn
    · next hne =>
      refine List.nodup_cons.mpr ⟨fun hm => ?_, ih hr⟩
      rcases (ValMap.mem_keys_put ..).mp hm with e | hm
      · exact hne (beq_iff_eq.mpr e)
      · exact hk hm

theorem KeysNodup.addBit {m : ValMap} (hn : KeysNodup m) (h : UInt64) (i : Nat) : KeysNodup (m.addBit h i) :=
  ValMap.addBit_eq_put m h i ▸ hn.put h _

theorem KeysNodup.nil : KeysNodup [] := List.nodup_nil

theorem ValMap.get_eq_some_iff (m : ValMap) (hn : KeysNodup m) (h : UInt64) (b : Nat) :
    m.get h = some b ↔ (h, b) ∈ m := by
  induction m with
  | nil => simp [ValMap.get]
  | cons kb rest ih =>
    obtain ⟨k, b'⟩ := kb
    have hn' := List.nodup_cons.mp hn
    by_cases hk : k = h
    · subst hk
      have : (k, b) ∉ rest := fun hm => hn'.1 (List.mem_map.mpr ⟨(k, b), hm, rfl⟩)
      simp [ValMap.get, this, eq_comm]
    · have hk' : ¬ h = k := fun e => hk e.symm
      simp [ValMap.get, hk, hk', ih hn'.2]

theorem KeysNodup.perm {m m' : ValMap} (hn : KeysNodup m') (p : m.Perm m') : KeysNodup m :=
  (List.Perm.map (fun x : UInt64 × Nat => x.1) p).nodup_iff.mpr hn

/-- the iteration order of a Go map does not matter for lookups -/
theorem ValMap.get_perm {m m' : ValMap} (p : m.Perm m') (hn : KeysNodup m') (h : UInt64) : m.get h = m'.get h := by
  apply Option.ext
  intro b
  rw [ValMap.get_eq_some_iff m (hn.perm p), ValMap.get_eq_some_iff m' hn, p.mem_iff]

theorem foldl_put_get (l : ValMap) (hn : KeysNodup l) (m : ValMap) (h : UInt64) :
    (l.foldl (fun m kb => m.put kb.1 kb.2) m).get h = (l.get h).or (m.get h) := by
  induction l generalizing m with
  | nil => simp [ValMap.get]
  | cons kb rest ih =>
    obtain ⟨k, b⟩ := kb
    have hn' := List.nodup_cons.mp hn
    rw [List.foldl_cons, ih hn'.2, ValMap.get_put]
    by_cases hk : h = k
    · subst hk
      have : ValMap.get rest h = none := by
        cases e : ValMap.get rest h with
        | none => rfl
        | some x =>
          exact absurd (List.mem_map.mpr ⟨(h, x), (ValMap.get_eq_some_iff rest hn'.2 h x).mp e, rfl⟩) hn'.1
      simp [ValMap.get, this]
    · have hk' : ¬ k = h := fun e => hk e.symm
      simp [ValMap.get, hk, hk']

section
variable (H : Bytes → UInt64)

theorem addRows_nodup (rows : List Row) (w : Writer) (hn : KeysNodup w.vals) :
    KeysNodup (Writer.addRows H w rows).vals :=
  List.foldlRecOn (motive := fun (w' : Writer) => KeysNodup w'.vals) rows (Writer.addRow H) hn fun _ h r _ =>
    List.foldlRecOn (motive := fun (w' : Writer) => KeysNodup w'.vals) r _ h fun _ h _ _ => h.addBit _ _

end

theorem WalkState.emit_nodup (s : WalkState) (hn : KeysNodup s.out) : KeysNodup s.emit := by
  unfold WalkState.emit
  cases s.bm with
  | none => exact hn
  | some b => exact hn.put _ _

theorem walkStep_nodup (s : WalkState) (k : Bytes) (hn : KeysNodup s.out) : KeysNodup (walkStep s k).out := by
  unfold walkStep
  dsimp only
  split
  · exact s.emit_nodup hn
  · exact hn

theorem walk_nodup (ks : List Bytes) : KeysNodup (walk ks) := by
  unfold walk
  apply WalkState.emit_nodup
  suffices h : ∀ s : WalkState, KeysNodup s.out → KeysNodup (ks.foldl walkStep s).out from h {} KeysNodup.nil
  induction ks with
  | nil => exact fun s h => h
  | cons k ks ih => exact fun s h => ih _ (walkStep_nodup s k h)

/-! ### puts and transactions -/

def BoltPut.isVal : BoltPut → Bool
  | .val _ _ => true
  | _ => false

def valPuts (l : ValMap) : Tx := l.map fun kb => BoltPut.val kb.1 kb.2

theorem applyPut_setBucket (ps : Tx) (img : BoltImage) (b : Bool) :
    ps.foldl BoltImage.applyPut { img with bucket := b } = { ps.foldl BoltImage.applyPut img with bucket := b } := by
  induction ps generalizing img with
  | nil => rfl
  | cons p ps ih =>
    rw [List.foldl_cons, List.foldl_cons, ← ih]
    cases p <;> rfl

theorem applyTx_eq (img : BoltImage) (tx : Tx) :
    img.applyTx tx = { tx.foldl BoltImage.applyPut img with bucket := true } :=
  applyPut_setBucket tx img true

theorem foldl_applyTx (txs : List Tx) (img : BoltImage) :
    txs.foldl BoltImage.applyTx img
      = { txs.flatten.foldl BoltImage.applyPut img with bucket := img.bucket || !txs.isEmpty } := by
  induction txs generalizing img with
  | nil => cases img; simp
  | cons tx txs ih =>
    rw [List.foldl_cons, ih, applyTx_eq, applyPut_setBucket, List.flatten_cons, List.foldl_append]
    simp

theorem applyPuts_bucket (ps : Tx) (img : BoltImage) : (ps.foldl BoltImage.applyPut img).bucket = img.bucket := by
  induction ps generalizing img with
  | nil => rfl
  | cons p ps ih => rw [List.foldl_cons, ih]; cases p <;> rfl

theorem applyPuts_vals_only (ps : Tx) (hv : ∀ p ∈ ps, p.isVal = true) (img : BoltImage) :
    (ps.foldl BoltImage.applyPut img).schema = img.schema ∧ (ps.foldl BoltImage.applyPut img).counter = img.counter := by
  induction ps generalizing img with
  | nil => exact ⟨rfl, rfl⟩
  | cons p ps ih =>
    rw [List.foldl_cons]
    have := ih (fun q hq => hv q (List.mem_cons_of_mem _ hq)) (img.applyPut p)
    rw [this.1, this.2]
    have hp := hv p (by simp)
    cases p <;> first | exact ⟨rfl, rfl⟩ | simp [BoltPut.isVal] at hp

theorem applyPuts_valPuts (l : ValMap) (img : BoltImage) :
    (valPuts l).foldl BoltImage.applyPut img = { img with vals := l.foldl (fun m kb => m.put kb.1 kb.2) img.vals } := by
  induction l generalizing img with
  | nil => rfl
  | cons kb l ih =>
    simp only [valPuts, List.map_cons, List.foldl_cons] at ih ⊢
    rw [ih]; rfl

theorem valPuts_isVal (l : ValMap) : ∀ p ∈ valPuts l, p.isVal = true := by
  intro p hp
  obtain ⟨kb, _, e⟩ := List.mem_map.mp hp
  subst e; rfl

/-! ### the batch loop -/

structure BatchInv (batch : Nat) (st : BatchState) (seen : ValMap) : Prop where
  flat : st.done.flatten ++ st.cur = valPuts seen
  i : st.i = seen.length
  count : st.i = batch * st.done.length + st.cur.length
  lt : st.cur.length < batch

theorem BatchInv.step {batch : Nat} {st : BatchState} {seen : ValMap} (inv : BatchInv batch st seen)
    (kv : UInt64 × Nat) : BatchInv batch (batchStep batch st kv) (seen ++ [kv]) := by
  have hflat : st.done.flatten ++ (st.cur ++ [.val kv.1 kv.2]) = valPuts (seen ++ [kv]) := by
    rw [← List.append_assoc, inv.flat, valPuts, valPuts, List.map_append]; rfl
  have hmod : (st.i + 1) % batch = (st.cur.length + 1) % batch := by
    rw [inv.count, Nat.add_assoc, Nat.mul_add_mod]
  have hi : st.i + 1 = (seen ++ [kv]).length := by rw [inv.i, List.length_append]; rfl
  unfold batchStep
  by_cases hfull : st.cur.length + 1 = batch
  · rw [if_pos (by rw [hmod, hfull, Nat.mod_self]; rfl)]
    refine ⟨?_, hi, ?_, Nat.lt_of_le_of_lt (Nat.zero_le _) inv.lt⟩
    · rw [List.flatten_append, List.flatten_singleton, List.append_nil]; exact hflat
    · show st.i + 1 = _
      rw [List.length_append, List.length_singleton, Nat.mul_succ, inv.count, Nat.add_assoc, hfull]
      rfl
  · have hlt : st.cur.length + 1 < batch := Nat.lt_of_le_of_ne inv.lt hfull
    rw [if_neg (by rw [hmod, Nat.mod_eq_of_lt hlt]; exact fun h => Nat.succ_ne_zero _ (beq_iff_eq.mp h))]
    refine ⟨hflat, hi, ?_, ?_⟩
    · show st.i + 1 = _
      rw [List.length_append, List.length_singleton, inv.count, Nat.add_assoc]
    · rw [List.length_append, List.length_singleton]; exact hlt

theorem batchInv_final (batch : Nat) (hb : 1 ≤ batch) (perm : ValMap) :
    BatchInv batch (perm.foldl (batchStep batch) {}) perm :=
  foldl_snoc_inv perm (fun _ _ kv _ h => h.step kv) (xs := []) ⟨rfl, rfl, by simp, hb⟩

theorem BatchInv.done_length {batch : Nat} {st : BatchState} {seen : ValMap} (inv : BatchInv batch st seen) :
    st.done.length = seen.length / batch := by
  have hpos : 0 < batch := by have := inv.lt; omega
  rw [← inv.i, inv.count, Nat.mul_add_div hpos, Nat.div_eq_of_lt inv.lt, Nat.add_zero]

theorem BatchInv.done_isVal {batch : Nat} {st : BatchState} {seen : ValMap} (inv : BatchInv batch st seen) :
    ∀ p ∈ st.done.flatten, p.isVal = true := by
  intro p hp
  apply valPuts_isVal seen
  rw [← inv.flat]
  exact List.mem_append_left _ hp

/-! ### transaction prefixes -/

theorem imageAfter_eq (txs : List Tx) (k : Nat) :
    imageAfter txs k
      = { (txs.take k).flatten.foldl BoltImage.applyPut {} with bucket := !(txs.take k).isEmpty } := by
  unfold imageAfter
  rw [foldl_applyTx]; simp

theorem writeTxs_length (s : Schema) (n : Nat) (perm : ValMap) (batch : Nat) (hb : 1 ≤ batch) :
    (writeTxs s n perm batch).length = perm.length / batch + 1 := by
  have inv := batchInv_final batch hb perm
  simp only [writeTxs, List.length_append, List.length_cons, List.length_nil, inv.done_length]

/-- before the last transaction: no header; the bucket exists once a transaction has been committed -/
theorem imageAfter_writeTxs_prefix (s : Schema) (n : Nat) (perm : ValMap) (batch : Nat) (hb : 1 ≤ batch)
    (k : Nat) (hk : k ≤ perm.length / batch) :
    (imageAfter (writeTxs s n perm batch) k).schema = none
    ∧ (imageAfter (writeTxs s n perm batch) k).counter = none
    ∧ (imageAfter (writeTxs s n perm batch) k).bucket = decide (0 < k) := by
  have inv := batchInv_final batch hb perm
  have hk' : k ≤ (perm.foldl (batchStep batch) {}).done.length := by rw [inv.done_length]; exact hk
  rw [imageAfter_eq]
  simp only [writeTxs, List.take_append_of_le_length hk']
  have hv : ∀ p ∈ ((perm.foldl (batchStep batch) {}).done.take k).flatten, p.isVal = true := by
    intro p hp
    obtain ⟨tx, htx, hp'⟩ := List.mem_flatten.mp hp
    exact inv.done_isVal p (List.mem_flatten.mpr ⟨tx, List.mem_of_mem_take htx, hp'⟩)
  have := applyPuts_vals_only _ hv {}
  refine ⟨this.1, this.2, ?_⟩
  show (!(List.take k (perm.foldl (batchStep batch) {}).done).isEmpty) = decide (0 < k)
  have hl : (List.take k (perm.foldl (batchStep batch) {}).done).length = k := by
    rw [List.length_take]; omega
  generalize List.take k (perm.foldl (batchStep batch) {}).done = t at hl
  cases t with
  | nil => simp at hl; simp [← hl]
  | cons a t => simp at hl; simp [← hl]

/-- after the last transaction: all values (later puts of the same key win — there are none when the
    keys are unique), the schema and the counter -/
theorem imageAfter_writeTxs_full (s : Schema) (n : Nat) (perm : ValMap) (batch : Nat) (hb : 1 ≤ batch)
    (k : Nat) (hk : perm.length / batch + 1 ≤ k) :
    imageAfter (writeTxs s n perm batch) k
      = { bucket := true, vals := perm.foldl (fun m kb => m.put kb.1 kb.2) [], schema := some s, counter := some n } := by
  have inv := batchInv_final batch hb perm
  rw [imageAfter_eq, List.take_of_length_le (by rw [writeTxs_length s n perm batch hb]; exact hk)]
  simp only [writeTxs, List.flatten_append, List.flatten_cons, List.flatten_nil, List.append_nil]
  rw [← List.append_assoc, inv.flat, List.foldl_append, applyPuts_valPuts]
  simp [BoltImage.applyPut]

theorem imageAfter_flushTxs_zero (w : BigWriter) : imageAfter w.flushTxs 0 = {} := rfl

theorem imageAfter_flushTxs_one (w : BigWriter) (k : Nat) (hk : 1 ≤ k) :
    imageAfter w.flushTxs k
      = { bucket := true, vals := w.flushCore.1.foldl (fun m kb => m.put kb.1 kb.2) [],
          schema := some w.schema, counter := some w.next } := by
  rw [imageAfter_eq, List.take_of_length_le (by simpa [BigWriter.flushTxs] using hk)]
  simp only [BigWriter.flushTxs, List.flatten_cons, List.flatten_nil, List.append_nil]
  rw [List.foldl_append]
  have := applyPuts_valPuts w.flushCore.1 {}
  unfold valPuts at this
  rw [this]
  simp [BoltImage.applyPut]

end Updog
