/-
Helper lemmas for C05/C06: the cursor order of the 12-byte temp keys, the data bucket as a map, the cursor walk of
`BigIndexWriter.Flush`, the simulation of the in-memory writer by the big writer.
-/
import Updog.Model.BigWriter
import Updog.Proofs.Writer
namespace Updog

theorem sortKeys_pairwise (ks : List Bytes) : (sortKeys ks).Pairwise (fun a b => bytesLe a b = true) :=
  List.pairwise_mergeSort (le := bytesLe) (fun _ _ _ => bytesLe_trans) bytesLe_total ks

theorem mem_sortKeys (k : Bytes) (ks : List Bytes) : k ∈ sortKeys ks ↔ k ∈ ks := List.mem_mergeSort

theorem tempKey_length (a i : Nat) : (tempKey a i).length = 12 := rfl

theorem tempKey_decode (a i : Nat) (ha : a < 2 ^ 64) (hi : i < 2 ^ 32) :
    beDecode (tempKey a i) = a * 4294967296 + i := by
  rw [tempKey, beDecode_append, be64_roundtrip a ha, be32_roundtrip i hi, be32_length]

/-- the cursor order of the temp bucket is the lexicographic order of (value index, row id) -/
theorem be_key_order (a b i j : Nat) (ha : a < 2 ^ 64) (hb : b < 2 ^ 64) (hi : i < 2 ^ 32) (hj : j < 2 ^ 32) :
    bytesLt (be64 a ++ be32 i) (be64 b ++ be32 j) = true ↔ a < b ∨ (a = b ∧ i < j) := by
  show bytesLt (tempKey a i) (tempKey b j) = true ↔ _
  rw [bytesLt_eq_decode_lt (tempKey a i) (tempKey b j) ((tempKey_length a i).trans (tempKey_length b j).symm),
    decide_eq_true_iff, tempKey_decode a i ha hi, tempKey_decode b j hb hj]
  exact lex_lt_iff a b hi hj

/-- `Flush` splits a key into its first 8 and its remaining bytes and decodes both -/
def decKey (k : Bytes) : Nat × Nat := (beDecode (k.take 8), beDecode (k.drop 8))

theorem decKey_tempKey (a i : Nat) (ha : a < 2 ^ 64) (hi : i < 2 ^ 32) : decKey (tempKey a i) = (a, i) := by
  rw [decKey, tempKey, List.take_left' (be64_length a), List.drop_left' (be64_length a),
    be64_roundtrip a ha, be32_roundtrip i hi]

theorem tempKey_inj (a b i j : Nat) (ha : a < 2 ^ 64) (hb : b < 2 ^ 64) (hi : i < 2 ^ 32) (hj : j < 2 ^ 32)
    (e : tempKey a i = tempKey b j) : a = b ∧ i = j := by
  have := congrArg decKey e
  rw [decKey_tempKey a i ha hi, decKey_tempKey b j hb hj] at this
  exact Prod.mk.inj this

/-- every key of the temp bucket is a 12-byte key `be64 a ‖ be32 i` -/
def KeysWF (ks : List Bytes) : Prop := ∀ k ∈ ks, ∃ a i, a < 2 ^ 64 ∧ i < 2 ^ 32 ∧ k = tempKey a i

theorem KeysWF.decKey_lt {ks : List Bytes} (wf : KeysWF ks) : ∀ p ∈ ks.map decKey, p.1 < 2 ^ 64 := by
  intro p hp
  obtain ⟨k, hk, rfl⟩ := List.mem_map.mp hp
  obtain ⟨a, i, ha, hi, rfl⟩ := wf k hk
  rw [decKey_tempKey a i ha hi]; exact ha

theorem sorted_decoded (ks : List Bytes) (wf : KeysWF ks) :
    ((sortKeys ks).map decKey).Pairwise (fun p q => p.1 ≤ q.1) := by
  rw [List.pairwise_map]
  refine List.Pairwise.imp_of_mem ?_ (sortKeys_pairwise ks)
  intro k1 k2 h1 h2 hle
  obtain ⟨a, i, ha, hi, rfl⟩ := wf k1 ((mem_sortKeys _ _).mp h1)
  obtain ⟨b, j, hb, hj, rfl⟩ := wf k2 ((mem_sortKeys _ _).mp h2)
  rw [decKey_tempKey a i ha hi, decKey_tempKey b j hb hj]
  have hnlt : ¬ bytesLt (tempKey b j) (tempKey a i) = true := by simpa [bytesLe] using hle
  have := mt (be_key_order b a j i hb ha hj hi).mpr hnlt
  show a ≤ b
  omega

/-! ### the data bucket: `put`, and `addBit` as a `put` -/

theorem ValMap.get_put (m : ValMap) (h h' : UInt64) (b : Nat) :
    (m.put h b).get h' = if h' = h then some b else m.get h' := by
  fun_induction ValMap.put m h b with
  | case1 => simp only [ValMap.get, beq_iff_eq, eq_comm (a := h)]
  | case2 k b' rest hk =>
    rw [eq_of_beq hk]
    simp only [ValMap.get, beq_iff_eq, eq_comm (a := h)]
    split <;> rfl
  | case3 k b' rest hk ih =>
    simp only [ValMap.get, ih]
    split
    · next e => rw [if_neg fun e' => hk (beq_iff_eq.mpr ((beq_iff_eq.mp e).trans e'))]
    · rfl

theorem ValMap.put_put (m : ValMap) (h : UInt64) (b b' : Nat) : (m.put h b).put h b' = m.put h b' := by
  fun_induction ValMap.put m h b with
  | case1 => simp only [ValMap.put, beq_self_eq_true, if_true]
  | case2 k b₀ rest hk => simp only [ValMap.put, hk, if_true]
  | case3 k b₀ rest hk ih => simp only [ValMap.put, hk, ih]; rfl

/-- `getValueBitmap(h).Add(i)` is a `Put` of the enlarged bitmap -/
theorem ValMap.addBit_eq_put (m : ValMap) (h : UInt64) (i : Nat) :
    m.addBit h i = m.put h (setBit ((m.get h).getD 0) i) := by
  fun_induction ValMap.addBit m h i with
  | case1 => rfl
  | case2 k b rest hk => simp only [ValMap.put, ValMap.get, hk, if_true, Option.getD_some]
  | case3 k b rest hk ih => simp only [ValMap.put, ValMap.get, hk, ih]; rfl

theorem eq_toUInt64_iff (h : UInt64) (c : Nat) (hc : c < 2 ^ 64) : h = c.toUInt64 ↔ h.toNat = c := by
  constructor
  · intro e; subst e
    simp only [Nat.toUInt64_eq, UInt64.toNat_ofNat']
    exact Nat.mod_eq_of_lt hc
  · intro e; subst e; simp

/-- the bits `L` (value index, row id) added one after the other -/
def ValMap.addBits (m : ValMap) (L : List (Nat × Nat)) : ValMap := L.foldl (fun m p => m.addBit p.1.toUInt64 p.2) m

/-- The order in which bits are added does not matter: bit `j` under `h` is set iff it was set before or `(h, j)` was
    added, and `h` is a key iff it was one or some `(h, _)` was added. -/
theorem ValMap.get_addBits (L : List (Nat × Nat)) (hlt : ∀ p ∈ L, p.1 < 2 ^ 64) (m : ValMap) (h : UInt64) :
    (∀ j, (((m.addBits L).get h).getD 0).testBit j = (((m.get h).getD 0).testBit j || decide ((h.toNat, j) ∈ L)))
    ∧ ((m.addBits L).get h).isSome = ((m.get h).isSome || L.any (·.1 == h.toNat)) := by
  unfold ValMap.addBits
  induction L generalizing m with
  | nil => simp
  | cons p L ih =>
    obtain ⟨a, i⟩ := p
    obtain ⟨h1, h2⟩ := ih (fun q hq => hlt q (List.mem_cons_of_mem _ hq)) (m.addBit a.toUInt64 i)
    have e := eq_toUInt64_iff h a (hlt (a, i) (List.mem_cons_self ..))
    simp only [List.foldl_cons]
    by_cases hc : h.toNat = a
    · rw [← e.mpr hc] at h1 h2 ⊢
      constructor
      · intro j
        rw [h1 j, ValMap.get_addBit, if_pos rfl, Option.getD_some, testBit_setBit]
        simp only [List.mem_cons, Prod.mk.injEq, hc, true_and, eq_comm (a := j), Bool.decide_or, Bool.or_assoc]
      · rw [h2, ValMap.isSome_get_addBit]
        simp only [decide_true, Bool.true_or, List.any_cons, hc, beq_self_eq_true, Bool.or_true]
    · have hh : ¬ h = a.toUInt64 := mt e.mp hc
      constructor
      · intro j
        rw [h1 j, ValMap.get_addBit, if_neg fun e => hh e.symm]
        simp only [List.mem_cons, Prod.mk.injEq, hc, false_and, false_or]
      · rw [h2, ValMap.isSome_get_addBit]
        simp only [hh, decide_false, Bool.false_or, List.any_cons, beq_false_of_ne (Ne.symm hc)]

/-! ### the cursor walk

On a sorted list of decoded keys every step of the loop changes what `emit` would write by one `addBit`, so the walk
builds the map that adding the bits one by one builds. -/

/-- the cursor loop on decoded keys -/
def walkStepP (s : WalkState) (p : Nat × Nat) : WalkState :=
  let s' : WalkState :=
    if s.bm.isNone || s.cur != p.1 then { cur := p.1, bm := some 0, out := s.emit } else s
  { s' with bm := some (setBit (s'.bm.getD 0) p.2) }

theorem walk_eq (ks : List Bytes) (s : WalkState) :
    ks.foldl walkStep s = (ks.map decKey).foldl walkStepP s := by
  rw [List.foldl_map]; rfl

/-- loop invariant with the decoded keys `L` still to come: bitmap `b` is open for value index `s.cur`, the data
    bucket holds smaller value indexes only, the keys to come are sorted and not smaller -/
structure WalkOK (s : WalkState) (b : Nat) (L : List (Nat × Nat)) : Prop where
  bm : s.bm = some b
  cur : s.cur < 2 ^ 64
  out : ∀ k, (s.out.get k).isSome = true → k.toNat < s.cur
  ge : ∀ p ∈ L, s.cur ≤ p.1 ∧ p.1 < 2 ^ 64
  sorted : L.Pairwise (fun p q => p.1 ≤ q.1)

theorem WalkOK.step {s : WalkState} {b a i : Nat} {L : List (Nat × Nat)} (ok : WalkOK s b ((a, i) :: L)) :
    (walkStepP s (a, i)).emit = s.emit.addBit a.toUInt64 i ∧ ∃ b', WalkOK (walkStepP s (a, i)) b' L := by
  have hge := ok.ge (a, i) (List.mem_cons_self ..)
  have hsorted := List.pairwise_cons.mp ok.sorted
  have hemit : s.emit = s.out.put s.cur.toUInt64 b := by simp only [WalkState.emit, ok.bm]
  by_cases ha : s.cur = a
  · subst ha
    have e : walkStepP s (s.cur, i) = { s with bm := some (setBit b i) } := by simp [walkStepP, ok.bm]
    rw [e, hemit, ValMap.addBit_eq_put, ValMap.get_put, if_pos rfl, ValMap.put_put]
    exact ⟨rfl, _, rfl, ok.cur, ok.out, fun p hp => ok.ge p (List.mem_cons_of_mem _ hp), hsorted.2⟩
  · have e : walkStepP s (a, i) = { cur := a, bm := some (setBit 0 i), out := s.emit } := by
      simp [walkStepP, ok.bm, ha]
    have hle : ∀ k, (s.emit.get k).isSome = true → k.toNat < a := by
      intro k
      rw [hemit, ValMap.get_put]
      split
      · next ek => intro _; rw [(eq_toUInt64_iff k _ ok.cur).mp ek]; omega
      · intro hk; have := ok.out k hk; omega
    have hnone : s.emit.get a.toUInt64 = none := by
      apply Option.not_isSome_iff_eq_none.mp
      intro hs
      have := hle _ hs
      rw [(eq_toUInt64_iff _ a hge.2).mp rfl] at this
      omega
    rw [e, ValMap.addBit_eq_put, hnone]
    exact ⟨rfl, _, rfl, hge.2, hle, fun p hp => ⟨hsorted.1 p hp, (ok.ge p (List.mem_cons_of_mem _ hp)).2⟩, hsorted.2⟩

theorem WalkOK.foldl_emit {L : List (Nat × Nat)} {s : WalkState} {b : Nat} (ok : WalkOK s b L) :
    (L.foldl walkStepP s).emit = s.emit.addBits L := by
  induction L generalizing s b with
  | nil => rfl
  | cons p L ih =>
    obtain ⟨e, b', ok'⟩ := ok.step
    exact (ih ok').trans (congrArg (ValMap.addBits · L) e)

/-- the first key opens the first bitmap; from then on the invariant holds -/
theorem walkP_eq (L : List (Nat × Nat)) (hs : L.Pairwise (fun p q => p.1 ≤ q.1)) (hlt : ∀ p ∈ L, p.1 < 2 ^ 64) :
    (L.foldl walkStepP {}).emit = ValMap.addBits [] L := by
  cases L with
  | nil => rfl
  | cons p L =>
    have hp := List.pairwise_cons.mp hs
    have ok : WalkOK (walkStepP {} p) (setBit 0 p.2) L :=
      ⟨rfl, hlt p (List.mem_cons_self ..), (fun k hk => nomatch hk),
        (fun q hq => ⟨hp.1 q hq, hlt q (List.mem_cons_of_mem _ hq)⟩), hp.2⟩
    rw [List.foldl_cons, ok.foldl_emit]; rfl

/-- what `Flush` writes for a well-formed temp key set: bit `j` of the bitmap of `h` is set iff the key
    `(h, j)` is in the temp bucket, and `h` is a key of the data bucket iff some `(h, _)` is -/
theorem walk_keys_spec (ks : List Bytes) (wf : KeysWF ks) (h : UInt64) :
    (∀ j, (((walk (sortKeys ks)).get h).getD 0).testBit j = decide ((h.toNat, j) ∈ ks.map decKey))
    ∧ ((walk (sortKeys ks)).get h).isSome = (ks.map decKey).any (·.1 == h.toNat) := by
  have hmem : ∀ p, p ∈ (sortKeys ks).map decKey ↔ p ∈ ks.map decKey := by
    intro p; simp only [List.mem_map, mem_sortKeys]
  have hlt : ∀ p ∈ (sortKeys ks).map decKey, p.1 < 2 ^ 64 := fun p hp => wf.decKey_lt p ((hmem p).mp hp)
  obtain ⟨h1, h2⟩ := ValMap.get_addBits _ hlt [] h
  rw [walk, walk_eq, walkP_eq _ (sorted_decoded ks wf) hlt]
  constructor
  · intro j
    rw [h1 j, ValMap.get, Option.getD_none, Nat.zero_testBit, Bool.false_or]
    exact decide_eq_decide.mpr (hmem _)
  · rw [h2, Bool.eq_iff_iff]
    simp only [ValMap.get, Option.isSome_none, Bool.false_or, List.any_eq_true]
    exact ⟨fun ⟨p, hp, e⟩ => ⟨p, (hmem p).mp hp, e⟩, fun ⟨p, hp, e⟩ => ⟨p, (hmem p).mpr hp, e⟩⟩

/-! ### simulation of the in-memory writer -/

theorem nodup_snoc {α : Type} {l : List α} {a : α} (hn : l.Nodup) (ha : a ∉ l) : (l ++ [a]).Nodup :=
  List.nodup_append.mpr ⟨hn, List.pairwise_singleton .., fun _ hx _ hy e => ha (List.mem_singleton.mp hy ▸ e ▸ hx)⟩

theorem mem_insertKey (t : List Bytes) (k k' : Bytes) : k ∈ insertKey t k' ↔ k ∈ t ∨ k = k' := by
  unfold insertKey
  split
  · next h => exact ⟨.inl, fun h' => h'.elim id fun e => e ▸ List.contains_iff_mem.mp h⟩
  · rw [List.mem_append, List.mem_singleton]

theorem insertKey_nodup (t : List Bytes) (k : Bytes) (hn : t.Nodup) : (insertKey t k).Nodup := by
  unfold insertKey
  split
  · exact hn
  · next h => exact nodup_snoc hn (mt List.contains_iff_mem.mpr h)

section
variable (H : Bytes → UInt64)

theorem big_addPair_fold_next (k : Nat) (r : Row) (w : BigWriter) :
    (r.foldl (BigWriter.addPair H k) w).next = w.next :=
  List.foldlRecOn (motive := fun (w' : BigWriter) => w'.next = w.next) r _ rfl fun _ h _ _ => h

theorem big_addPair_fold_temp (n : Nat) (r : Row) (w : BigWriter) (k : Bytes) :
    k ∈ (r.foldl (BigWriter.addPair H n) w).temp
      ↔ k ∈ w.temp ∨ ∃ kv ∈ r, k = tempKey (hashOf H kv).toNat n := by
  induction r generalizing w with
  | nil => simp
  | cons kv r ih =>
    rw [List.foldl, ih]
    simp only [BigWriter.addPair, mem_insertKey, List.mem_cons, exists_eq_or_imp, hashOf, or_assoc]

theorem big_addPair_fold_nodup (n : Nat) (r : Row) (w : BigWriter) (hn : w.temp.Nodup) :
    (r.foldl (BigWriter.addPair H n) w).temp.Nodup :=
  List.foldlRecOn (motive := fun (w' : BigWriter) => w'.temp.Nodup) r _ hn fun _ h _ _ => insertKey_nodup _ _ h

theorem big_addRows_nodup (rows : List Row) (w : BigWriter) (hn : w.temp.Nodup) :
    (BigWriter.addRows H w rows).temp.Nodup :=
  List.foldlRecOn (motive := fun (w' : BigWriter) => w'.temp.Nodup) rows (BigWriter.addRow H) hn
    fun w' h r _ => big_addPair_fold_nodup H w'.next r w' h

/-- both writers build the schema by the same `Schema.add` calls -/
theorem big_addRows_schema (rows : List Row) (bw : BigWriter) (w : Writer) (hs : bw.schema = w.schema) :
    (BigWriter.addRows H bw rows).schema = (Writer.addRows H w rows).schema :=
  List.foldl_rel (r := fun (bw : BigWriter) (w : Writer) => bw.schema = w.schema) hs fun _ _ _ _ h =>
    List.foldl_rel (r := fun (bw : BigWriter) (w : Writer) => bw.schema = w.schema) h fun kv _ _ _ h =>
      congrArg (Schema.add · kv.1 kv.2 _) h

/-- the temp bucket holds exactly the keys `(h, j)` such that row `j` has a pair hashing to `h` -/
structure BInv (w : BigWriter) (rows : List Row) : Prop where
  next : w.next = rows.length
  temp : ∀ k, k ∈ w.temp ↔ ∃ h j, rowHas H rows h j = true ∧ k = tempKey h.toNat j

theorem BInv.init : BInv H {} [] := ⟨rfl, fun k => by simp [rowHas]⟩

theorem BInv.addRow {w : BigWriter} {rows : List Row} (hw : BInv H w rows) (r : Row) :
    BInv H (BigWriter.addRow H w r) (rows ++ [r]) := by
  constructor
  · simp [BigWriter.addRow, hw.next]
  · intro k
    simp only [BigWriter.addRow]
    rw [big_addPair_fold_temp, hw.temp, hw.next]
    simp only [rowHas_append, Bool.or_eq_true, Bool.and_eq_true, decide_eq_true_eq, List.any_eq_true, beq_iff_eq]
    constructor
    · rintro (⟨h, j, h1, h2⟩ | ⟨kv, h1, h2⟩)
      · exact ⟨h, j, .inl h1, h2⟩
      · exact ⟨hashOf H kv, rows.length, .inr ⟨rfl, kv, h1, rfl⟩, h2⟩
    · rintro ⟨h, j, (h1 | ⟨h1, kv, h3, h4⟩), h2⟩
      · exact .inl ⟨h, j, h1, h2⟩
      · subst h1 h4; exact .inr ⟨kv, h3, h2⟩

theorem BInv.addRows {w : BigWriter} {rows : List Row} (hw : BInv H w rows) (more : List Row) :
    BInv H (BigWriter.addRows H w more) (rows ++ more) :=
  foldl_snoc_inv more (fun _ _ r _ h => h.addRow H r) hw

theorem binv_addRows (rows : List Row) : BInv H (BigWriter.addRows H {} rows) rows :=
  (BInv.init H).addRows H rows

theorem rowHas_lt (rows : List Row) (h : UInt64) (j : Nat) (hr : rowHas H rows h j = true) : j < rows.length :=
  Nat.lt_of_not_le fun hle => by rw [rowHas, List.getElem?_eq_none hle] at hr; cases hr

/-- `Flush` finds only 12-byte keys -/
theorem BInv.all_length {w : BigWriter} {rows : List Row} (hw : BInv H w rows) :
    w.temp.all (·.length == 12) = true :=
  List.all_eq_true.mpr fun k hk => by obtain ⟨h, j, _, rfl⟩ := (hw.temp k).mp hk; rfl

theorem BInv.wf {w : BigWriter} {rows : List Row} (hw : BInv H w rows) (hlen : rows.length ≤ 2 ^ 32) :
    KeysWF w.temp := by
  intro k hk
  obtain ⟨h, j, h1, h2⟩ := (hw.temp k).mp hk
  have := rowHas_lt H rows h j h1
  exact ⟨h.toNat, j, h.toNat_lt, by omega, h2⟩

theorem BInv.mem_dec {w : BigWriter} {rows : List Row} (hw : BInv H w rows) (hlen : rows.length ≤ 2 ^ 32)
    (h : UInt64) (j : Nat) : (h.toNat, j) ∈ w.temp.map decKey ↔ rowHas H rows h j = true := by
  simp only [List.mem_map, hw.temp]
  constructor
  · rintro ⟨_, ⟨h', j', h1, rfl⟩, e⟩
    have := rowHas_lt H rows h' j' h1
    rw [decKey_tempKey _ _ h'.toNat_lt (by omega)] at e
    obtain ⟨e1, rfl⟩ := Prod.mk.inj e
    exact UInt64.toNat_inj.mp e1 ▸ h1
  · intro hr
    have := rowHas_lt H rows h j hr
    exact ⟨_, ⟨h, j, hr, rfl⟩, decKey_tempKey _ _ h.toNat_lt (by omega)⟩

theorem BInv.walk_testBit {w : BigWriter} {rows : List Row} (hw : BInv H w rows) (hlen : rows.length ≤ 2 ^ 32)
    (h : UInt64) (j : Nat) : (((walk (sortKeys w.temp)).get h).getD 0).testBit j = rowHas H rows h j := by
  rw [(walk_keys_spec _ (hw.wf H hlen) h).1 j, Bool.eq_iff_iff, decide_eq_true_iff]
  exact hw.mem_dec H hlen h j

theorem image_testBit (rows : List Row) (hlen : rows.length ≤ 2 ^ 32) (h : UInt64) (j : Nat) :
    (((BigWriter.image H rows).1.get h).getD 0).testBit j = rowHas H rows h j :=
  (binv_addRows H rows).walk_testBit H hlen h j

theorem image_isSome (rows : List Row) (hlen : rows.length ≤ 2 ^ 32) (h : UInt64) :
    ((BigWriter.image H rows).1.get h).isSome = hashIn H rows h := by
  have inv := binv_addRows H rows
  show ((walk (sortKeys (BigWriter.addRows H {} rows).temp)).get h).isSome = _
  rw [(walk_keys_spec _ (inv.wf H hlen) h).2, Bool.eq_iff_iff, hashIn_iff, List.any_eq_true]
  exact ⟨fun ⟨⟨a, j⟩, hp, e⟩ => ⟨j, (inv.mem_dec H hlen h j).mp ((beq_iff_eq.mp e : a = h.toNat) ▸ hp)⟩,
    fun ⟨j, hj⟩ => ⟨(h.toNat, j), (inv.mem_dec H hlen h j).mpr hj, beq_self_eq_true _⟩⟩

/-- the ids `BigIndexWriter.AddRow` returns, in call order -/
def BigWriter.addRowsIds (w : BigWriter) : List Row → List Nat
  | [] => []
  | r :: rs => w.next :: BigWriter.addRowsIds (BigWriter.addRow H w r) rs

theorem big_addRowsIds_eq (w : BigWriter) (rows : List Row) :
    BigWriter.addRowsIds H w rows = (List.range rows.length).map (w.next + ·) := by
  induction rows generalizing w with
  | nil => simp [BigWriter.addRowsIds]
  | cons r rs ih =>
    simp only [BigWriter.addRowsIds, ih, List.length_cons, List.range_succ_eq_map, List.map_cons, List.map_map]
    simp [BigWriter.addRow, Function.comp]
    intro a _; omega

theorem big_addRows_next (rows : List Row) (w : BigWriter) :
    (BigWriter.addRows H w rows).next = w.next + rows.length := by
  induction rows generalizing w with
  | nil => rfl
  | cons r rows ih =>
    simp only [BigWriter.addRows, List.foldl] at ih ⊢
    rw [ih]; simp [BigWriter.addRow]; omega

end
end Updog
