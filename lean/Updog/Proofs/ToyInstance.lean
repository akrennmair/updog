/-
A tiny concrete instance used by the non-vacuity examples of C03 and C04: a toy hash, an index of three rows,
two expressions sharing a sub-expression. Everything here is closed and evaluated by the kernel (`decide +kernel`).
-/
import Updog.Proofs.Universe
import Updog.Proofs.Sched
namespace Updog.Toy

instance (H : Bytes → UInt64) (S : List Bytes) : Decidable (InjOn H S) := by unfold InjOn; infer_instance
instance (H : Bytes → UInt64) (ix : Index) (P : List (Bytes × Bytes)) : Decidable (KnownAgree H ix P) := by
  unfold KnownAgree; infer_instance
instance (ix : Index) (e : Expr) : Decidable (ColsKnown ix e) := by unfold ColsKnown; infer_instance

/-- an FNV-style toy hash (any function would do; this one has no collision on the strings of the examples) -/
def toyH (b : Bytes) : UInt64 := b.foldl (fun a x => a * 1099511628211 + x.toUInt64 + 1) 14695981039346656037

/-- a hash under which all cache keys collide (their inputs have at least 9 bytes) while the value indexes of the
    examples (3-byte inputs) do not -/
def badH (b : Bytes) : UInt64 := if b.length ≥ 9 then 0 else toyH b

/-- rows `a=1,b=1`, `a=2,b=1`, `a=1,b=2` -/
def rows : List Row := [[([97], [49]), ([98], [49])], [([97], [50]), ([98], [49])], [([97], [49]), ([98], [50])]]

def tix (H : Bytes → UInt64) : Index := (Writer.addRows H {} rows).toIndex

/-- `a = 1` -/
def x : Expr := .eq [97] [49]
/-- `b = 1` -/
def y : Expr := .eq [98] [49]
/-- `a = 1 AND b = 1` -/
def e1 : Expr := .and [x, y]
/-- `a = 1 OR NOT b = 1`: shares `x` and `y` with `e1` -/
def e2 : Expr := .or [x, .not y]

def qs : List Query := [⟨e1, []⟩, ⟨e2, [[97]]⟩, ⟨e1, [[98]]⟩]

/-- a fresh LRU cache of the given capacity -/
def lru (max : Nat) : Lru := { max := max, ovh := 64 }

def sz (_ : Nat) : Nat := 8

/-- three goroutines (`e1`, `e2`, and `e1` again — they share `a=1`, `b=1`) -/
def es : List Expr := [e1, e2, e1]

/-- a schedule that interleaves them step by step and names a non-existing goroutine (7) and finished ones -/
def sched : List Nat :=
  [7, 0, 1, 1, 7, 0, 2, 1, 1, 2, 7, 0, 2, 2, 1, 0, 7, 0, 2, 0, 1, 1, 7, 0, 2, 1, 1, 2, 7, 0, 2, 2, 1, 0, 7, 0, 2]

theorem injOn_es : InjOn toyH (es.flatMap (preimages toyH)) := by decide +kernel

/-- all columns of `es` exist in the toy index -/
theorem knownAgree_es : KnownAgree toyH (tix toyH) (es.flatMap Expr.pairs) := by decide +kernel

/-- two different expressions with the same value index: column `a`, value `\0b` and column `a\0`, value `b` -/
def ea : Expr := .eq [97] [0, 98]
def eb : Expr := .eq [97, 0] [98]
def rowsAB : List Row := [[([97], [0, 98])], [([97, 0], [98])]]
def ixAB : Index := (Writer.addRows toyH {} rowsAB).toIndex

/-! ### a kernel-evaluable copy of the LRU

`evict` is defined by well-founded recursion, which the kernel does not unfold; the examples that *compute* with the
LRU go through a structurally recursive copy that is proved equal to the model. -/

def evictS (ovh max : Nat) : Nat → List Item → Nat → List Item × Nat
  | 0, items, cur => (items, cur)
  | n + 1, items, cur =>
    if h : cur > max ∧ items ≠ [] then
      evictS ovh max n items.dropLast (cur - ((items.getLast h.2).size + ovh))
    else (items, cur)

theorem evict_eq_evictS (ovh max : Nat) (items : List Item) (cur : Nat) :
    evict ovh max items cur = evictS ovh max items.length items cur := by
  fun_induction evict ovh max items cur with
  | case1 items cur h ih =>
    cases hl : items.length with
    | zero => exact absurd (List.eq_nil_of_length_eq_zero hl) h.2
    | succ n =>
      rw [evictS, dif_pos h, ih]
      congr 1
      simp [hl]
  | case2 items cur h =>
    cases hl : items.length with
    | zero => rfl
    | succ n => rw [evictS, dif_neg h]

def putS (c : Lru) (k bm size : Nat) : Lru :=
  match c.items.find? (·.key == k) with
  | some it =>
    let l := ⟨k, size, bm⟩ :: c.items.filter (·.key != k)
    let r := evictS c.ovh c.max l.length l (c.cur - it.size + size)
    { c with puts := c.puts + 1, items := r.1, cur := r.2 }
  | none =>
    let l := ⟨k, size, bm⟩ :: c.items
    let r := evictS c.ovh c.max l.length l (c.cur + size + c.ovh)
    { c with puts := c.puts + 1, items := r.1, cur := r.2 }

theorem put_eq_putS (c : Lru) (k bm size : Nat) : c.put k bm size = putS c k bm size := by
  unfold Lru.put putS
  cases c.items.find? (·.key == k) <;> simp only [evict_eq_evictS]

def lruS (sz : Nat → Nat) : CacheImpl Lru where
  get := fun c k => Lru.get c k.toNat
  put := fun c k bm => putS c k.toNat bm (sz bm)

theorem lruCacheImpl_eq_lruS (sz : Nat → Nat) : lruCacheImpl sz = lruS sz := by
  unfold lruCacheImpl lruS
  congr 1
  funext c k bm
  exact put_eq_putS c k.toNat bm (sz bm)

end Updog.Toy
