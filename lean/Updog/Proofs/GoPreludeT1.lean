/-
Lemmas about the primitives of `Updog/Basic/GoPreludeT1.lean`: the roaring operations on `Nat` bit sets are the
bit operations of the model (`Updog/Model/Index.lean`), and the lifted (pointer) versions on non-nil arguments.
-/
import Updog.Basic.GoPreludeT1
import Updog.Proofs.Bits
namespace Updog.Go

/-! ### bit-level characterisations (what the primitives mean) -/

theorem testBit_two_pow_sub_two_pow (lo hi i : Nat) :
    (2 ^ hi - 2 ^ lo).testBit i = (decide (lo ≤ i) && decide (i < hi)) := by
  by_cases h : lo ≤ hi
  · obtain ⟨d, rfl⟩ := Nat.exists_eq_add_of_le h
    rw [show 2 ^ (lo + d) - 2 ^ lo = 2 ^ lo * (2 ^ d - 1) by rw [Nat.pow_add, Nat.mul_sub_one],
      Nat.testBit_two_pow_mul, Nat.testBit_two_pow_sub_one]
    by_cases h1 : lo ≤ i
    · rw [decide_eq_true h1, Bool.true_and, Bool.true_and]
      exact decide_eq_decide.mpr (Nat.sub_lt_iff_lt_add' h1)
    · rw [decide_eq_false h1, Bool.false_and, Bool.false_and]
  · rw [Nat.sub_eq_zero_of_le (Nat.pow_le_pow_right Nat.two_pos (Nat.le_of_not_le h)), Nat.zero_testBit]
    by_cases h1 : lo ≤ i
    · rw [decide_eq_false fun h2 : i < hi => h (Nat.le_trans h1 (Nat.le_of_lt h2)), Bool.and_false]
    · rw [decide_eq_false h1, Bool.false_and]

theorem testBit_flipRange (b lo hi i : Nat) :
    (flipRange b lo hi).testBit i = (b.testBit i ^^ (decide (lo ≤ i) && decide (i < hi))) := by
  rw [flipRange, Nat.testBit_xor, testBit_two_pow_sub_two_pow]

theorem testBit_fastAnd (bs : List Nat) (i : Nat) :
    (fastAnd bs).testBit i = (!bs.isEmpty && bs.all (·.testBit i)) := by
  induction bs with
  | nil => simp [fastAnd]
  | cons b r ih =>
    cases r with
    | nil => simp [fastAnd]
    | cons c r =>
      rw [fastAnd, Nat.testBit_and, ih]
      · simp
      · simp

theorem testBit_fastOr (bs : List Nat) (i : Nat) : (fastOr bs).testBit i = bs.any (·.testBit i) := by
  induction bs with
  | nil => simp [fastOr]
  | cons b r ih => rw [fastOr, Nat.testBit_or, ih]; simp

/-! ### equality with the model's bit operations -/

theorem flipRange_zero (b n : Nat) : flipRange b 0 n = Updog.flip n b := by
  simp [flipRange, Updog.flip]

theorem fastAnd_eq (bs : List Nat) : fastAnd bs = Updog.andAll bs := by
  apply Nat.eq_of_testBit_eq
  intro i
  rw [testBit_fastAnd, Updog.testBit_andAll]

theorem fastOr_eq (bs : List Nat) : fastOr bs = Updog.orAll bs := by
  apply Nat.eq_of_testBit_eq
  intro i
  rw [testBit_fastOr, Updog.testBit_orAll]

theorem cardinality_eq (b : Nat) : cardinality b = Updog.popcount b := by
  rw [Updog.popcount_eq_countBelow (b.log2 + 1) b Nat.lt_log2_self]
  rfl

theorem bmCardinality_eq (b : Nat) : bmCardinality b = Updog.popcount b := cardinality_eq b

/-! ### pointers -/

theorem derefAll_map_some (bs : List Nat) : derefAll (bs.map some) = some bs := by
  induction bs with
  | nil => rfl
  | cons b r ih => simp [derefAll, ih]

theorem bmFlip_some (b : Nat) (n : UInt32) :
    bmFlip (some b) (0 : UInt64) n.toUInt64 = some (Updog.flip n.toNat b) := by
  simp [bmFlip, flipRange_zero]

theorem bmFastAnd_map_some (bs : List Nat) : bmFastAnd (bs.map some) = some (Updog.andAll bs) := by
  simp [bmFastAnd, derefAll_map_some, fastAnd_eq]

theorem bmFastOr_map_some (bs : List Nat) : bmFastOr (bs.map some) = some (Updog.orAll bs) := by
  simp [bmFastOr, derefAll_map_some, fastOr_eq]

theorem cachePut_some {σ : Type} (idx : IndexEnv σ) (st : σ) (k : UInt64) (b : Nat) :
    cachePut idx st k (some b) = idx.cachePut st k b := rfl

example : flipRange 0b0101 0 3 = 0b0010 := by decide
example : flipRange 0b0101 1 3 = 0b0011 := by decide
example : fastAnd [0b0111, 0b0110, 0b1100] = 0b0100 := by decide
example : fastOr [0b0001, 0b0100] = 0b0101 := by decide
example : cardinality 0b101101 = 4 := by decide

end Updog.Go
