import Updog.Model.Index
namespace Updog

theorem testBit_setBit (b i j : Nat) : (setBit b i).testBit j = (b.testBit j || decide (i = j)) := by
  unfold setBit
  rw [Nat.testBit_or, Nat.one_shiftLeft, Nat.testBit_two_pow]

theorem testBit_flip (n b i : Nat) : (flip n b).testBit i = (b.testBit i ^^ decide (i < n)) := by
  unfold flip
  rw [Nat.testBit_xor, Nat.testBit_two_pow_sub_one]

theorem testBit_foldl_and (bs : List Nat) (b i : Nat) :
    (bs.foldl (· &&& ·) b).testBit i = (b.testBit i && bs.all (·.testBit i)) := by
  induction bs generalizing b with
  | nil => simp
  | cons x xs ih => simp [ih, Nat.testBit_and, Bool.and_assoc]

theorem testBit_foldl_or (bs : List Nat) (b i : Nat) :
    (bs.foldl (· ||| ·) b).testBit i = (b.testBit i || bs.any (·.testBit i)) := by
  induction bs generalizing b with
  | nil => simp
  | cons x xs ih => simp [ih, Nat.testBit_or, Bool.or_assoc]

theorem testBit_andAll (bs : List Nat) (i : Nat) :
    (andAll bs).testBit i = (!bs.isEmpty && bs.all (·.testBit i)) := by
  cases bs with
  | nil => simp [andAll]
  | cons b bs => simp [andAll, testBit_foldl_and]

theorem testBit_orAll (bs : List Nat) (i : Nat) : (orAll bs).testBit i = bs.any (·.testBit i) := by
  simp [orAll, testBit_foldl_or]

def countBelow (b n : Nat) : Nat := ((List.range n).filter b.testBit).length

theorem popcount_zero : popcount 0 = 0 := by unfold popcount; simp

theorem popcount_step (n : Nat) : popcount n = n % 2 + popcount (n / 2) := by
  rw [popcount]
  split
  · next h => rw [h, popcount_zero]
  · rfl

theorem popcount_eq (n : Nat) (_ : n ≠ 0) : popcount n = n % 2 + popcount (n / 2) := popcount_step n

theorem popcount_eq_zero_iff (b : Nat) : popcount b = 0 ↔ b = 0 := by
  induction b using Nat.strongRecOn with
  | _ b ih =>
    by_cases hb : b = 0
    · rw [hb, popcount_zero]
    · rw [popcount_step, Nat.add_eq_zero_iff, ih (b / 2) (Nat.div_lt_self (Nat.pos_of_ne_zero hb) (by decide))]
      omega

theorem countBelow_succ_shift (b n : Nat) :
    countBelow b (n + 1) = (if b.testBit 0 then 1 else 0) + countBelow (b / 2) n := by
  unfold countBelow
  rw [List.range_succ_eq_map, List.filter_cons, List.filter_map]
  have : (b.testBit ∘ Nat.succ) = (b / 2).testBit := by
    funext i
    simp [Function.comp, Nat.testBit_succ]
  rw [this]
  split <;> simp <;> omega

theorem popcount_eq_countBelow (n b : Nat) (hb : b < 2 ^ n) : popcount b = countBelow b n := by
  induction n generalizing b with
  | zero =>
    have : b = 0 := by simpa using hb
    subst this; simp [popcount_zero, countBelow]
  | succ n ih =>
    rw [popcount_step, countBelow_succ_shift, ← ih (b / 2) (by rw [Nat.pow_succ] at hb; omega)]
    congr 1
    rw [Nat.testBit_zero]
    rcases Nat.mod_two_eq_zero_or_one b with h | h <;> simp [h]

theorem lt_two_pow_of_testBit (b n : Nat) (h : ∀ i, n ≤ i → b.testBit i = false) : b < 2 ^ n :=
  Nat.lt_pow_two_of_testBit b h

theorem countBelow_eq_of_testBit (b n : Nat) (p : Nat → Bool) (h : ∀ i, i < n → b.testBit i = p i) :
    countBelow b n = ((List.range n).filter p).length := by
  unfold countBelow
  congr 1
  apply List.filter_congr
  intro i hi
  exact h i (List.mem_range.mp hi)

end Updog
