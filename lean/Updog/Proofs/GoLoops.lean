/-
Translated `for … range` loops without `return` are `List.foldl`s. The lemmas here say what such a loop computes from
what one iteration does, so that they apply whatever the text of the loop body is.
-/
namespace Updog.Go

theorem foldl_filterMap_of {α β : Type} (step : List β → α → List β) (f : α → Option β) (xs : List α)
    (h : ∀ acc, ∀ x ∈ xs, step acc x = match f x with | none => acc | some y => acc ++ [y]) (acc : List β) :
    List.foldl step acc xs = acc ++ xs.filterMap f := by
  induction xs generalizing acc with
  | nil => simp
  | cons x r ih =>
    rw [List.foldl_cons, ih (fun acc y hy => h acc y (List.mem_cons_of_mem _ hy)), h acc x (by simp),
      List.filterMap_cons]
    cases f x <;> simp

theorem foldl_flatMap_of {α β : Type} (step : List β → α → List β) (g : α → List β) (xs : List α)
    (h : ∀ acc, ∀ x ∈ xs, step acc x = acc ++ g x) (acc : List β) :
    List.foldl step acc xs = acc ++ xs.flatMap g := by
  induction xs generalizing acc with
  | nil => simp
  | cons x r ih =>
    rw [List.foldl_cons, ih (fun acc y hy => h acc y (List.mem_cons_of_mem _ hy)), h acc x (by simp),
      List.flatMap_cons, List.append_assoc]

theorem foldl_map_of {α β : Type} (step : List β → α → List β) (g : α → β) (xs : List α)
    (h : ∀ acc, ∀ x ∈ xs, step acc x = acc ++ [g x]) (acc : List β) :
    List.foldl step acc xs = acc ++ xs.map g := by
  rw [foldl_flatMap_of step (fun x => [g x]) xs h, List.map_eq_flatMap]

/-- a loop that appends to one list-valued field of a record (`get`/`set` = that field) -/
theorem foldl_field_append {σ α β : Type} (get : σ → List β) (set : σ → List β → σ) (g : α → β)
    (hgs : ∀ s l, get (set s l) = l) (hss : ∀ s l l', set (set s l) l' = set s l') (hsg : ∀ s, set s (get s) = s)
    (xs : List α) (s : σ) :
    List.foldl (fun s x => set s (get s ++ [g x])) s xs = set s (get s ++ xs.map g) := by
  induction xs generalizing s with
  | nil => simp [hsg]
  | cons x xs ih => simp [ih, hgs, hss]

theorem foldl_sim {σ σ' α α' : Type} (R : σ → σ' → Prop) (fa : α → α') (step : σ → α → σ) (step' : σ' → α' → σ')
    (h : ∀ s s' a, R s s' → R (step s a) (step' s' (fa a))) (xs : List α) (s : σ) (s' : σ') (h0 : R s s') :
    R (List.foldl step s xs) (List.foldl step' s' (xs.map fa)) := by
  induction xs generalizing s s' with
  | nil => exact h0
  | cons x r ih => exact ih _ _ (h s s' x h0)

end Updog.Go
