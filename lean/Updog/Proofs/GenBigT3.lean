/-
The generated `bigIndexWriterAddRow` (writer_big.go) against `BigWriter.addRow` (Model/BigWriter.lean): the temp bucket
as a key set, the 12-byte key layout, the periodic commit.
-/
import Updog.Proofs.GenWriterT3
import Updog.Proofs.BigWriter
namespace Updog.GeneratedEq
open Updog.Go.T3

/-- the bucket name `[]byte("temp")` -/
def tempName : Bytes := [116, 101, 109, 112]

/-- `key[:8] = be64(valueIdx)`, `key[8:] = be32(rowID)`: the model's `tempKey` -/
theorem tempKey_bytes (v : UInt64) (r : UInt32) :
    bePutUint32 (bePutUint64 (zeroBytes 12) 0 8 v) 8 (Go.len (bePutUint64 (zeroBytes 12) 0 8 v)) r = tempKey v.toNat r.toNat := by
  simp [bePutUint64, bePutUint32, zeroBytes, Go.len, blit, be8, be4, tempKey, be64, be32]

theorem tempKey_nonempty (a b : Nat) : (tempKey a b).isEmpty = false := rfl

theorem dataPut_keys (d : BucketData) (k v k' : Bytes) :
    k' ∈ (dataPut d k v).map (·.1) ↔ k' = k ∨ k' ∈ d.map (·.1) := by
  induction d with
  | nil => simp [dataPut]
  | cons kv rest ih =>
    obtain ⟨k0, v0⟩ := kv
    by_cases h1 : k0 = k
    · subst h1; simp [dataPut]
    · have h1' : (k0 == k) = false := by simpa using h1
      by_cases h2 : bytesLt k k0 = true
      · simp [dataPut, h1', h2]
      · have h2' : bytesLt k k0 = false := by simpa using h2
        simp only [dataPut, h1', h2', Bool.false_eq_true, if_false, List.map_cons, List.mem_cons, ih]
        exact or_left_comm

section
variable (H : Bytes → UInt64)

/-- the temporary database as `AddRow` needs it: open, with the writer's transaction open and writable on it, the
    bucket `temp` holding `d` -/
def BigReady (bolt : Bolt) (idx : BigIndexWriter) (d : BucketData) : Prop :=
  bolt.closed = false ∧ idx.tempDB = some bolt.id ∧
  ∃ t, bolt.tx = some t ∧ idx.tempTx = some t.id ∧ t.writable = true ∧ bucketsGet t.buckets tempName = some d

abbrev BigSt := Bolt × Heap × BigIndexWriter

/-- one iteration of `for k, v := range values` of `AddRow` with the mutex held: `schema.add`, then one `Put` of the
    12-byte key into bucket `temp` of the writer's transaction -/
theorem big_step (values : List (Bytes × Bytes)) (rowID : UInt32) (i n tid : Nat) (c bs : Buckets) (cs : List (List PutRec))
    (lg : List PutRec) (hp : Heap) (idx : BigIndexWriter) (d : BucketData) (kv : Bytes × Bytes)
    (htx : idx.tempTx = some tid) (hh : idx.mtx.held = true) (hd : bucketsGet bs tempName = some d) :
    Gen.bigIndexWriterAddRow_loop1 H values rowID
        ({ id := i, closed := false, committed := c, tx := some { id := tid, writable := true, buckets := bs, log := lg },
           nextTx := n, commits := cs }, hp, idx) kv
      = .next ({ id := i, closed := false, committed := c,
                 tx := some { id := tid, writable := true,
                              buckets := bucketsSet bs tempName
                                (dataPut d (tempKey (Gen.schemaAdd H hp idx.schema kv.1 kv.2).2.2.toNat rowID.toNat) []),
                              log := lg ++ [(tempName, tempKey (Gen.schemaAdd H hp idx.schema kv.1 kv.2).2.2.toNat rowID.toNat, [])] },
                 nextTx := n, commits := cs },
               (Gen.schemaAdd H hp idx.schema kv.1 kv.2).1,
               { idx with schema := (Gen.schemaAdd H hp idx.schema kv.1 kv.2).2.1 }) := by
  have hn : ([116, 101, 109, 112] : Bytes) = tempName := rfl
  unfold Gen.bigIndexWriterAddRow_loop1
  simp only [mutexTouch_of_held _ hh, tempKey_bytes, hn, htx, txBucket_mk, hd, Option.isSome_some, if_true,
    bucketPut_mk _ _ _ _ _ _ _ _ _ _ d hd (tempKey_nonempty _ _), isErr_none, Bool.false_eq_true, if_false]

/-- the model state a `BigIndexWriter` with temp bucket content `d` stands for (the counter is stated separately) -/
def BigRel (hp : Heap) (idx : BigIndexWriter) (d : BucketData) (w : BigWriter) : Prop :=
  schemaValue hp idx.schema = w.schema ∧ ∀ k, k ∈ d.map (·.1) ↔ k ∈ w.temp

/-- loop invariant of `AddRow` after the pairs `done`: only the buckets and the log of the writer's transaction, the heap
    and the schema change -/
def BigInv (idx0 : BigIndexWriter) (i n tid : Nat) (c : Buckets) (cs : List (List PutRec)) (rowID : UInt32) (w : BigWriter)
    (done : List (Bytes × Bytes)) (st : BigSt) : Prop :=
  ∃ bs lg d,
    st.1 = { id := i, closed := false, committed := c, tx := some { id := tid, writable := true, buckets := bs, log := lg },
             nextTx := n, commits := cs } ∧
    bucketsGet bs tempName = some d ∧ SchemaWF H st.2.1 st.2.2.schema ∧
    BigRel st.2.1 st.2.2 d (done.foldl (BigWriter.addPair H rowID.toNat) w) ∧
    st.2.2 = { idx0 with schema := st.2.2.schema }

theorem big_loop (values rng : List (Bytes × Bytes)) (rowID : UInt32) (i n tid : Nat) (c : Buckets) (cs : List (List PutRec))
    (idx0 : BigIndexWriter) (htx : idx0.tempTx = some tid) (hh : idx0.mtx.held = true) (w : BigWriter) (st : BigSt)
    (h0 : BigInv H idx0 i n tid c cs rowID w [] st) :
    ∃ st', forRange rng st (Gen.bigIndexWriterAddRow_loop1 H values rowID) = .next st' ∧
      BigInv H idx0 i n tid c cs rowID w rng st' := by
  apply forRange_next (BigInv H idx0 i n tid c cs rowID w) _ rng _ h0
  rintro done x ⟨b, hp, ix⟩ ⟨bs, lg, d, rfl, hd, wf, rel, hix⟩
  simp only at hd wf rel hix
  obtain ⟨s1, s2, s3, _⟩ := schemaAdd_spec H hp ix.schema x.1 x.2 wf
  refine ⟨_, big_step H values rowID i n tid c bs cs lg hp ix d x (by rw [hix]; exact htx) (by rw [hix]; exact hh) hd,
    _, _, _, rfl, bucketsGet_set_same _ _ _, s3, ⟨?_, ?_⟩, by rw [hix]⟩
  · rw [List.foldl_append]
    exact s1.trans (by rw [rel.1]; rfl)
  · intro k
    rw [List.foldl_append, dataPut_keys, rel.2 k, s2]
    exact or_comm.trans (mem_insertKey _ k _).symm

/-- **`(*BigIndexWriter).AddRow` on explicit records.** The temporary database has the writer's transaction `tid` open with
    bucket `temp` = `d`. The call returns the counter and nil; schema and temp bucket follow the model's `addPair`s; and
    exactly when Go's `rowID > 0 && rowID%1000 == 0` holds the transaction is committed (its buckets become the committed
    ones, its log is appended to the commit log) and a new one is begun. -/
theorem bigIndexWriterAddRow_run (i n tid : Nat) (c bs : Buckets) (cs : List (List PutRec)) (lg : List PutRec) (hp : Heap)
    (idx : BigIndexWriter) (values : List (Bytes × Bytes)) (d : BucketData) (w : BigWriter)
    (htx : idx.tempTx = some tid) (hdb : idx.tempDB = some i) (hd : bucketsGet bs tempName = some d)
    (wf : SchemaWF H hp idx.schema) (rel : BigRel hp idx d w) :
    ∃ bs' lg' d' hp' sch', bucketsGet bs' tempName = some d' ∧ SchemaWF H hp' sch' ∧
      BigRel hp' { idx with schema := sch' } d' (values.foldl (BigWriter.addPair H idx.nextRowID.toNat) w) ∧
      Gen.bigIndexWriterAddRow H
          { id := i, closed := false, committed := c, tx := some { id := tid, writable := true, buckets := bs, log := lg },
            nextTx := n, commits := cs } hp idx values
        = (if (decide (idx.nextRowID > 0) && idx.nextRowID % 1000 == 0) = true then
             { id := i, closed := false, committed := bs', tx := some { id := n, writable := true, buckets := bs', log := [] },
               nextTx := n + 1, commits := cs ++ [lg'] }
           else
             { id := i, closed := false, committed := c, tx := some { id := tid, writable := true, buckets := bs', log := lg' },
               nextTx := n, commits := cs },
           hp',
           { idx with schema := sch', mtx := mutexUnlock (mutexLock idx.mtx), nextRowID := idx.nextRowID + 1,
                      tempTx := if (decide (idx.nextRowID > 0) && idx.nextRowID % 1000 == 0) = true then some n else some tid },
           idx.nextRowID, nilError) := by
  obtain ⟨⟨b', hp', ix'⟩, e, bs', lg', d', rfl, hd', wf', rel', hix⟩ :=
    big_loop H values values idx.nextRowID i n tid c cs { idx with mtx := mutexLock idx.mtx } htx (mutexLock_held _) w
      (_, hp, { idx with mtx := mutexLock idx.mtx }) ⟨bs, lg, d, rfl, hd, wf, rel, rfl⟩
  simp only at hd' wf' rel' hix
  refine ⟨bs', lg', d', hp', ix'.schema, hd', wf', rel', ?_⟩
  unfold Gen.bigIndexWriterAddRow
  simp only [mutexTouch_mutexLock, e]
  rw [hix]
  simp only [mutexTouch_mutexLock, htx, hdb]
  cases (decide (idx.nextRowID > 0) && idx.nextRowID % 1000 == 0) with
  | true => simp only [if_true, txCommit_mk, isErr_none, Bool.false_eq_true, if_false, verifPoint, dbBegin_mk]
  | false => simp only [Bool.false_eq_true, if_false]

theorem bigIndexWriterAddRow_spec (bolt : Bolt) (hp : Heap) (idx : BigIndexWriter) (values : List (Bytes × Bytes))
    (d : BucketData) (w : BigWriter) (hr : BigReady bolt idx d) (wf : SchemaWF H hp idx.schema) (rel : BigRel hp idx d w)
    (hnext : idx.nextRowID.toNat = w.next) (hroom : idx.nextRowID.toNat + 1 < 2 ^ 32)
    (r : Bolt × Heap × BigIndexWriter × UInt32 × Error) (hres : Gen.bigIndexWriterAddRow H bolt hp idx values = r) :
    r.2.2.2 = (idx.nextRowID, nilError) ∧
    ∃ d', BigReady r.1 r.2.2.1 d' ∧ SchemaWF H r.2.1 r.2.2.1.schema ∧
      BigRel r.2.1 r.2.2.1 d' (BigWriter.addRow H w values) ∧
      r.2.2.1.nextRowID.toNat = (BigWriter.addRow H w values).next ∧
      (idx.mtx = {} → r.2.2.1.mtx = {}) := by
  obtain ⟨h1, h2, t, h3, h4, h5, h6⟩ := hr
  obtain ⟨i, _, c, _, n, cs⟩ := bolt
  obtain ⟨tid, _, bs, lg⟩ := t
  simp only at h1 h2 h3 h4 h5 h6
  subst h1 h3 h5
  obtain ⟨bs', lg', d', hp', sch', hd', wf', rel', e⟩ :=
    bigIndexWriterAddRow_run H i n tid c bs cs lg hp idx values d w h4 h2 h6 wf rel
  rw [← hres, e]
  have hnx : (idx.nextRowID + 1).toNat = w.next + 1 := by
    rw [UInt32.toNat_add, ← hnext]; exact Nat.mod_eq_of_lt hroom
  refine ⟨rfl, d', ?_, wf', by rw [BigWriter.addRow, ← hnext]; exact rel', hnx, fun hm => by simp only [hm]; rfl⟩
  cases (decide (idx.nextRowID > 0) && idx.nextRowID % 1000 == 0)
  · exact ⟨rfl, h2, _, rfl, rfl, rfl, hd'⟩
  · exact ⟨rfl, h2, _, rfl, rfl, rfl, hd'⟩

end
end Updog.GeneratedEq
