/-
Lemmas about the T4 part of the Go prelude (`Updog/Basic/GoPreludeT4.lean`): `strings.ContainsRune` on an ASCII
literal, `utf8.DecodeRuneInString`, slices. Used by `Updog/Props/Gen/Lexer.lean`.
-/
import Updog.Basic.GoPreludeT4
namespace Updog.Go

/-! ### strings.ContainsRune -/

theorem containsRune_nil (r : Int) : containsRune [] r = false := rfl

/-- the runes `valid` contains are the codes of its bytes; in particular no negative rune (`eof = -1`) -/
theorem containsRune_iff (valid : Bytes) (r : Int) :
    containsRune valid r = true ↔ 0 ≤ r ∧ r.toNat ∈ valid.map UInt8.toNat := by
  simp only [containsRune, List.any_eq_true, List.mem_map, beq_iff_eq]
  constructor
  · rintro ⟨b, hb, rfl⟩
    exact ⟨Int.natCast_nonneg _, b, hb, (Int.toNat_natCast _).symm⟩
  · rintro ⟨h0, b, hb, e⟩
    exact ⟨b, hb, by omega⟩

theorem containsRune_neg (valid : Bytes) {r : Int} (h : r < 0) : containsRune valid r = false :=
  Bool.eq_false_iff.mpr fun hc => Int.not_le.mpr h ((containsRune_iff valid r).mp hc).1

/-- `ContainsRune(valid, ·)` is the rune class `validR`, given the list `cls` of the codes in `valid` (checked by
    evaluation for each literal) and that `validR` is membership in `cls` -/
theorem containsRune_eq_class {valid : Bytes} {cls : List Nat} {validR : Nat → Bool}
    (hl : valid.map UInt8.toNat = cls) (hc : ∀ n, validR n = true ↔ n ∈ cls) (r : Int) :
    containsRune valid r = (decide (0 ≤ r) && validR r.toNat) := by
  rw [Bool.eq_iff_iff, containsRune_iff, Bool.and_eq_true, decide_eq_true_iff, hc, hl]

/-! ### utf8.DecodeRuneInString -/

theorem decodeRuneInString_fst (s : Bytes) : (decodeRuneInString s).1 = ((decodeRune s).1 : Int) := rfl
theorem decodeRuneInString_snd (s : Bytes) : (decodeRuneInString s).2 = ((decodeRune s).2 : Int) := rfl

/-! ### slices -/

theorem slice_add (s : Bytes) {a : Int} (h : 0 ≤ a) (k : Nat) :
    slice s a (a + k) = (s.drop a.toNat).take k := by
  unfold slice
  rw [List.drop_take]
  congr 1
  omega

theorem sliceFrom_eq (s : Bytes) (a : Int) : sliceFrom s a = s.drop a.toNat := rfl

end Updog.Go
