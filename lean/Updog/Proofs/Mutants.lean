/-
Helper lemmas for `Updog/Props/Witnesses.lean` (the catalogue of repaired defects): algebra of the original XOR cache
keys, the mutant `evalCK` instantiated with the repaired key is `evalC`, persistence of the header in the original
writer's transactions, group-by resolution on schemas whose value lists are already sorted (`List.mergeSort` is not
evaluated by the kernel), the relation between the original and the repaired lexer, the stuck state of `openFile`.
-/
import Updog.Model.Mutants
import Updog.Proofs.Parser
import Updog.Props.C08
namespace Updog.Witnesses

/-! ### 1. XOR keys -/

theorem rotl1_xor (x y : UInt64) : rotl1 (x ^^^ y) = rotl1 x ^^^ rotl1 y := by
  apply UInt64.toBitVec_inj.1
  simp only [rotl1, UInt64.toBitVec_or, UInt64.toBitVec_xor, UInt64.toBitVec_shiftLeft, UInt64.toBitVec_shiftRight]
  ext i hi
  by_cases h0 : i = 0
  · subst h0; simp
  · have h1 : ∀ z : BitVec 64, z.getLsbD (63 + i) = false := fun z => BitVec.getLsbD_of_ge z _ (by omega)
    simp [h0, h1]

theorem xor_cancel_right (m a b p : UInt64) : m ^^^ (a ^^^ p) ^^^ (b ^^^ p) = m ^^^ a ^^^ b :=
  calc m ^^^ (a ^^^ p) ^^^ (b ^^^ p) = m ^^^ a ^^^ b ^^^ (p ^^^ p) := by ac_rfl
    _ = m ^^^ a ^^^ b := by rw [UInt64.xor_self, UInt64.xor_zero]

theorem xor_cancel_left (m a b p : UInt64) : m ^^^ (p ^^^ a) ^^^ (p ^^^ b) = m ^^^ a ^^^ b := by
  rw [UInt64.xor_comm p a, UInt64.xor_comm p b, xor_cancel_right]

/-- The algebra behind the first collision, for arbitrary words and masks: rotation distributes over xor, so the
rotated mask `o` of the two inner nodes and the twice-rotated common operand `kc` occur twice on the left, the rotated
mask `n` twice on the right; they cancel and both sides are `m ^^^ rotl1 (rotl1 ka) ^^^ rotl1 (rotl1 kb)`. -/
theorem xor_scheme_collision (m o n ka kb kc : UInt64) :
    xorKeys m [xorKeys o [ka, kc], xorKeys o [kb, kc]] = xorKeys m [rotl1 ka ^^^ n, rotl1 kb ^^^ n] := by
  -- unfolded by `show`: a `simp` that unfolds `xorKeys` and rewrites in one term is slow in the kernel
  show m ^^^ rotl1 (o ^^^ rotl1 ka ^^^ rotl1 kc) ^^^ rotl1 (o ^^^ rotl1 kb ^^^ rotl1 kc)
    = m ^^^ rotl1 (rotl1 ka ^^^ n) ^^^ rotl1 (rotl1 kb ^^^ n)
  simp only [rotl1_xor]
  rw [xor_cancel_right, xor_cancel_left, xor_cancel_right]

theorem xor_scheme_duplicate (m kx ky : UInt64) : xorKeys m [kx, kx, ky] = xorKeys m [ky] := by
  show m ^^^ rotl1 kx ^^^ rotl1 kx ^^^ rotl1 ky = m ^^^ rotl1 ky
  rw [UInt64.xor_assoc m, UInt64.xor_self, UInt64.xor_zero]

section
variable (H : Bytes → UInt64) {σ : Type} (C : CacheImpl σ) (ix : Index)
mutual
theorem evalCK_cacheKey : ∀ (s : σ) (e : Expr), evalCK H (cacheKey H) C ix s e = evalC H C ix s e
  | s, .eq c v => by
    simp only [evalCK, evalC]
    cases ix.schema.col c <;> rfl
  | s, .not e => by
    have ih := fun s1 => evalCK_cacheKey s1 e
    simp only [evalCK, evalC, ih]
  | s, .and es | s, .or es => by
    have ih := fun s1 => evalListCK_cacheKey s1 es
    simp only [evalCK, evalC, ih]
theorem evalListCK_cacheKey : ∀ (s : σ) (es : List Expr),
    evalListCK H (cacheKey H) C ix s es = evalListC H C ix s es
  | s, [] => by simp only [evalListCK, evalListC]
  | s, e :: es => by
    have ih := fun s1 => evalListCK_cacheKey s1 es
    simp only [evalListCK, evalListC, evalCK_cacheKey s e, ih]
    cases (evalC H C ix s e).snd <;> rfl
end
end

/-! ### 3. header puts in the first transaction -/

/-- the image looks like a complete index to `OpenIndex` -/
def Accepting (img : BoltImage) : Prop := img.bucket = true ∧ img.schema.isSome = true ∧ img.counter.isSome = true

theorem Accepting.applyPut {img : BoltImage} (h : Accepting img) (p : BoltPut) : Accepting (img.applyPut p) := by
  obtain ⟨h1, h2, h3⟩ := h
  cases p <;> simp [BoltImage.applyPut, Accepting, h1, h2, h3]

theorem Accepting.applyPuts {img : BoltImage} (h : Accepting img) (ps : Tx) :
    Accepting (ps.foldl BoltImage.applyPut img) := by
  induction ps generalizing img with
  | nil => exact h
  | cons p ps ih => exact ih (h.applyPut p)

theorem Accepting.applyTx {img : BoltImage} (h : Accepting img) (tx : Tx) : Accepting (img.applyTx tx) := by
  have h' : Accepting { img with bucket := true } := ⟨rfl, h.2.1, h.2.2⟩
  exact h'.applyPuts tx

theorem Accepting.applyTxs {img : BoltImage} (h : Accepting img) (txs : List Tx) :
    Accepting (txs.foldl BoltImage.applyTx img) := by
  induction txs generalizing img with
  | nil => exact h
  | cons t ts ih => exact ih (h.applyTx t)

theorem Accepting.opens {img : BoltImage} (h : Accepting img) (o : OpenOpts) :
    openIndex (stateOf img) o = (.ok (), true) := by
  obtain ⟨h1, h2, h3⟩ := h
  simp [stateOf, openIndex, h1, h2, h3]

/-- the first transaction starts with the two header puts -/
def HeaderFirst (s : Schema) (n : Nat) (txs : List Tx) : Prop :=
  ∃ rest tl, txs = ([BoltPut.schema s, BoltPut.counter n] ++ rest) :: tl

theorem headerFirst_snoc {s : Schema} {n : Nat} {done : List Tx} {cur : Tx}
    (h : HeaderFirst s n (done ++ [cur])) (v : BoltPut) (extra : List Tx) :
    HeaderFirst s n (done ++ [cur ++ [v]] ++ extra) := by
  obtain ⟨rest, tl, h⟩ := h
  cases done with
  | nil =>
    simp only [List.nil_append, List.cons.injEq] at h
    exact ⟨rest ++ [v], extra, by simp [h.1]⟩
  | cons d ds =>
    simp only [List.cons_append, List.cons.injEq] at h
    exact ⟨rest, ds ++ [cur ++ [v]] ++ extra, by simp [h.1]⟩

theorem headerFirst_step {s : Schema} {n : Nat} (batch : Nat) (st : BatchState) (kv : UInt64 × Nat)
    (h : HeaderFirst s n (st.done ++ [st.cur])) :
    HeaderFirst s n ((batchStep batch st kv).done ++ [(batchStep batch st kv).cur]) := by
  unfold batchStep
  simp only
  split
  · simpa using headerFirst_snoc h (BoltPut.val kv.1 kv.2) [[]]
  · simpa using headerFirst_snoc h (BoltPut.val kv.1 kv.2) []

theorem headerFirst_fold {s : Schema} {n : Nat} (batch : Nat) (perm : ValMap) (st : BatchState)
    (h : HeaderFirst s n (st.done ++ [st.cur])) :
    HeaderFirst s n ((perm.foldl (batchStep batch) st).done ++ [(perm.foldl (batchStep batch) st).cur]) := by
  induction perm generalizing st with
  | nil => exact h
  | cons kv rest ih => exact ih _ (headerFirst_step batch st kv h)

theorem accepting_writeTxsOrig (s : Schema) (n : Nat) (perm : ValMap) (batch k : Nat) (hk : 1 ≤ k) :
    Accepting (imageAfter (writeTxsOrig s n perm batch) k) := by
  have hf : HeaderFirst s n (writeTxsOrig s n perm batch) :=
    headerFirst_fold batch perm { cur := [BoltPut.schema s, BoltPut.counter n] } ⟨[], [], rfl⟩
  obtain ⟨rest, tl, hf⟩ := hf
  obtain ⟨k', rfl⟩ : ∃ k', k = k' + 1 := ⟨k - 1, by omega⟩
  have h1 : Accepting (BoltImage.applyTx {} ([BoltPut.schema s, BoltPut.counter n] ++ rest)) := by
    rw [BoltImage.applyTx, List.foldl_append]
    exact Accepting.applyPuts ⟨rfl, rfl, rfl⟩ rest
  rw [imageAfter, hf, List.take_succ_cons, List.foldl_cons]
  exact h1.applyTxs _

/-! ### 4. lexer -/

/-- `a` is `b`, or `b` with its final `error` item replaced by `eof` -/
def SameOrSwallowed (a b : List Tok) : Prop := a = b ∨ ∃ pre, b = pre ++ [.error] ∧ a = pre ++ [.eof]

theorem SameOrSwallowed.cons (t : Tok) {a b : List Tok} (h : SameOrSwallowed a b) :
    SameOrSwallowed (t :: a) (t :: b) := by
  rcases h with h | ⟨pre, h1, h2⟩
  · exact .inl (by rw [h])
  · exact .inr ⟨t :: pre, by simp [h1], by simp [h2]⟩

theorem lexAllOrig_quote_none {rest : Bytes} (h : scanStr rest = none) : lexAllOrig (34 :: rest) = [.eof] := by
  rw [lexAllOrig]
  simp +decide only [↓reduceIte]
  split
  · rfl
  · rename_i h'; rw [h] at h'; cases h'

theorem lexAllOrig_quote_some {rest b r : Bytes} (h : scanStr rest = some (b, r)) :
    lexAllOrig (34 :: rest) = .value b :: lexAllOrig r := by
  rw [lexAllOrig]
  simp +decide only [↓reduceIte]
  split
  · rename_i h'; rw [h] at h'; cases h'
  · rename_i h'; rw [h] at h'; cases h'; rfl

theorem lexAllOrig_sameOrSwallowed (s : Bytes) : SameOrSwallowed (lexAllOrig s) (lexAll s) := by
  induction s using lexAll.induct with
  | case1 => left; rw [lexAllOrig, lexAll]
  | case2 c rest h ih => rw [lexAllOrig, lexAll]; simp only [h, ↓reduceIte]; exact ih
  | case12 c rest _ _ _ _ _ _ _ _ _ _ h hs =>
    have : c = 34 := by simpa using h
    subst this
    rw [lexAllOrig_quote_none hs, lexAll_quote_none hs]
    exact .inr ⟨[], rfl, rfl⟩
  | case13 c rest _ _ _ _ _ _ _ _ _ _ h body rest' hs _ ih =>
    have : c = 34 := by simpa using h
    subst this
    rw [lexAllOrig_quote_some hs, lexAll_quote_some hs]
    exact ih.cons _
  | case15 c rest => left; rw [lexAllOrig, lexAll]; simp only [*, Bool.false_eq_true, ↓reduceIte]
  | _ c rest =>
    rw [lexAllOrig, lexAll]; simp only [*, ↓reduceIte]
    rename_i ih
    exact SameOrSwallowed.cons _ ih

theorem parserPulled_le (ts : List Tok) : parserPulled ts ≤ ts.length := by
  unfold parserPulled
  split
  · split <;> omega
  · omega

/-! ### 5. group-by on schemas whose value lists are already sorted -/

/-- every value list of the schema is already in `sort.Slice` order -/
def SortedSchema (s : Schema) : Prop := ∀ cv ∈ s, cv.2.Pairwise fun a b => bytesLe a.1 b.1 = true

instance (s : Schema) : Decidable (SortedSchema s) := by unfold SortedSchema; infer_instance

/-- `populateGroupByQ` without the sort (`List.mergeSort` is not evaluated by the kernel) -/
def popU (s : Schema) (cols : List Bytes) (acc : List GBField) : Option (List GBField) × List GBField :=
  match cols with
  | [] => (some acc, acc)
  | c :: cs =>
    match s.col c with
    | none => (none, acc)
    | some vs => popU s cs (acc ++ [⟨c, vs⟩])

theorem col_mem {s : Schema} {c : Bytes} {vs : List (Bytes × UInt64)} (h : s.col c = some vs) :
    ∃ cv ∈ s, cv.2 = vs := by
  induction s with
  | nil => simp [Schema.col] at h
  | cons kv rest ih =>
    obtain ⟨k, vs'⟩ := kv
    simp only [Schema.col] at h
    split at h
    · simp only [Option.some.injEq] at h
      exact ⟨(k, vs'), by simp, h⟩
    · obtain ⟨cv, hm, he⟩ := ih h
      exact ⟨cv, by simp [hm], he⟩

theorem populateGroupByQ_sorted {s : Schema} (hs : SortedSchema s) (cols : List Bytes) (acc : List GBField) :
    populateGroupByQ s cols acc = popU s cols acc := by
  induction cols generalizing acc with
  | nil => rfl
  | cons c cs ih =>
    simp only [populateGroupByQ, popU]
    cases hc : s.col c with
    | none => rfl
    | some vs =>
      obtain ⟨cv, hm, he⟩ := col_mem hc
      have : sortVals vs = vs := by
        subst he
        exact List.mergeSort_of_pairwise (le := fun (a b : Bytes × UInt64) => bytesLe a.1 b.1) (hs cv hm)
      simp only [this, ih]

theorem populateGroupBy_sorted {s : Schema} (hs : SortedSchema s) (cols : List Bytes) :
    populateGroupBy s cols = (popU s cols []).1 := by
  rw [← C08.populateQ_fst_nil, populateGroupByQ_sorted hs]

/-! ### 6. the stuck state of the original `openFile` -/

/-- goroutine 0 has returned and holds the file; goroutine 1 waits in `OpenIndex` for the exclusive lock:
    no continuation of the schedule changes anything -/
theorem stuck_forever (s : OpenSys) (k k' : DKey) (hl : s.flock k'.file > 0) (rest : List Nat) :
    runOpens true s [(k, .done), (k', .openIdx)] rest = (s, [(k, .done), (k', .openIdx)]) := by
  induction rest with
  | nil => rfl
  | cons i rest ih =>
    match i with
    | 0 => simpa [runOpens, openStep] using ih
    | 1 => simpa [runOpens, openStep, hl] using ih
    | n + 2 => simpa [runOpens] using ih

/-! ### 9. cursor walk -/

theorem foldl_walkStepOrig_panic (ks : List Bytes) : ks.foldl walkStepOrig .panic = .panic := by
  induction ks with
  | nil => rfl
  | cons k ks ih => simpa [List.foldl_cons, walkStepOrig, Outcome.bind] using ih

end Updog.Witnesses
