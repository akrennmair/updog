/-
Sorting by the bytewise order (its laws: Proofs/BytesOrder): two strictly sorted lists with the same elements are
equal; `sortVals` sorts strictly when the values are distinct; `sortedDistinct`; `lexLt` is core's `<` on lists of
byte strings, so its order laws are those of a linear order.
-/
import Updog.Proofs.Schema
namespace Updog

/-- strictly ascending w.r.t. `bytesLt` -/
def StrictSorted (l : List Bytes) : Prop := l.Pairwise fun a b => bytesLt a b = true

theorem StrictSorted.nodup {l : List Bytes} (h : StrictSorted l) : l.Nodup :=
  List.Pairwise.imp (fun hab => bytesLt_ne hab) h

theorem StrictSorted.eq_of_mem_iff {l₁ l₂ : List Bytes} (h₁ : StrictSorted l₁) (h₂ : StrictSorted l₂)
    (hm : ∀ x, x ∈ l₁ ↔ x ∈ l₂) : l₁ = l₂ :=
  ((List.perm_ext_iff_of_nodup h₁.nodup h₂.nodup).mpr hm).eq_of_pairwise
    (fun _ _ _ _ hab hba => absurd hba (Bool.eq_false_iff.mp (bytesLt_asymm hab))) h₁ h₂

theorem pairwise_lt_mergeSort_key {α} (key : α → Bytes) {l : List α} (hnd : (l.map key).Nodup) :
    (l.mergeSort fun a b => bytesLe (key a) (key b)).Pairwise fun a b => bytesLt (key a) (key b) = true := by
  have hs := List.pairwise_mergeSort (le := fun a b : α => bytesLe (key a) (key b))
    (fun a b c => bytesLe_trans) (fun a b => bytesLe_total (key a) (key b)) l
  have hne : (l.mergeSort fun a b => bytesLe (key a) (key b)).Pairwise fun a b => key a ≠ key b :=
    List.pairwise_map.mp (((List.mergeSort_perm l _).map key).symm.nodup hnd)
  exact List.Pairwise.imp₂ (fun a b hle hne => bytesLt_of_le_of_ne hle hne) hs hne

theorem strictSorted_mergeSort {l : List Bytes} (hnd : l.Nodup) :
    StrictSorted (l.mergeSort fun a b => bytesLe a b) :=
  pairwise_lt_mergeSort_key id (by rwa [List.map_id])

theorem sortVals_perm (vs : List (Bytes × UInt64)) : (sortVals vs).Perm vs := List.mergeSort_perm _ _

theorem mem_sortVals {vs : List (Bytes × UInt64)} {x : Bytes × UInt64} : x ∈ sortVals vs ↔ x ∈ vs :=
  List.mem_mergeSort

theorem sortVals_strictSorted {vs : List (Bytes × UInt64)} (hnd : (vs.map (·.1)).Nodup) :
    StrictSorted ((sortVals vs).map (·.1)) :=
  List.pairwise_map.mpr (pairwise_lt_mergeSort_key (fun v : Bytes × UInt64 => v.1) hnd)

theorem nodup_eraseDups {α} [BEq α] [LawfulBEq α] (l : List α) : l.eraseDups.Nodup := by
  generalize hn : l.length = n
  induction n using Nat.strongRecOn generalizing l with
  | _ n ih =>
    cases l with
    | nil => simp
    | cons a as =>
      rw [List.eraseDups_cons, List.nodup_cons]
      constructor
      · rw [List.mem_eraseDups]
        simp
      · apply ih ((as.filter fun b => !b == a).length) _ _ rfl
        subst hn
        exact Nat.lt_succ_of_le (List.length_filter_le _ _)

theorem mem_sortedDistinct {rows : List Row} {c v : Bytes} :
    v ∈ sortedDistinct rows c ↔ (c, v) ∈ pairsOf rows := by
  unfold sortedDistinct
  rw [List.mem_mergeSort, List.mem_eraseDups, List.mem_filterMap]
  constructor
  · rintro ⟨kv, hkv, h⟩
    split at h
    · next hc => rw [← Option.some.inj h, ← eq_of_beq hc]; exact hkv
    · cases h
  · exact fun h => ⟨(c, v), h, if_pos (beq_self_eq_true c)⟩

theorem sortedDistinct_strictSorted (rows : List Row) (c : Bytes) : StrictSorted (sortedDistinct rows c) :=
  strictSorted_mergeSort (nodup_eraseDups _)

/-- a way to compute `sortedDistinct` on concrete data: any strictly ascending list with the right elements -/
theorem sortedDistinct_eq_of {rows : List Row} {c : Bytes} {l : List Bytes} (hs : StrictSorted l)
    (h1 : ∀ v ∈ l, (c, v) ∈ pairsOf rows) (h2 : ∀ p ∈ pairsOf rows, p.1 = c → p.2 ∈ l) :
    sortedDistinct rows c = l := by
  apply StrictSorted.eq_of_mem_iff (sortedDistinct_strictSorted rows c) hs
  intro x
  rw [mem_sortedDistinct]
  exact ⟨fun h => h2 (c, x) h rfl, h1 x⟩

section
variable (H : Bytes → UInt64)

/-- the sorted value list `populateGroupBy` builds for a column is the column's distinct values in
ascending order -/
theorem sortVals_eq_sortedDistinct (rows : List Row) (c : Bytes) (vs : List (Bytes × UInt64))
    (h : (Writer.addRows H {} rows).schema.col c = some vs) :
    (sortVals vs).map (·.1) = sortedDistinct rows c := by
  have hok := schema_col_some H rows c vs h
  apply StrictSorted.eq_of_mem_iff (sortVals_strictSorted hok.nodup) (sortedDistinct_strictSorted rows c)
  intro x
  rw [mem_sortedDistinct, ← hok.mem x]
  exact ((sortVals_perm vs).map (·.1)).mem_iff

end

/-- lexicographic `<` on tuples of byte strings, component order `bytesLt` -/
def lexLt : List Bytes → List Bytes → Bool
  | [], [] => false
  | [], _ :: _ => true
  | _ :: _, [] => false
  | a :: as, b :: bs => bytesLt a b || (a == b && lexLt as bs)

theorem lexLt_iff {t u : List Bytes} : lexLt t u = true ↔ t < u := by
  induction t generalizing u with
  | nil => cases u <;> simp [lexLt]
  | cons a as ih =>
    cases u with
    | nil => simp [lexLt]
    | cons b bs => rw [lexLt, List.cons_lt_cons_iff, Bool.or_eq_true, Bool.and_eq_true, beq_iff_eq, bytesLt_iff, ih]

theorem lexLt_irrefl (t : List Bytes) : lexLt t t = false :=
  Bool.eq_false_iff.mpr fun h => List.lt_irrefl t (lexLt_iff.mp h)

theorem lexLt_asymm {a b : List Bytes} (h : lexLt a b = true) : lexLt b a = false :=
  Bool.eq_false_iff.mpr fun h' => List.lt_asymm (lexLt_iff.mp h) (lexLt_iff.mp h')

/-- `lexLt` is total, on tuples of any lengths (`hl` is not needed) -/
theorem lexLt_total {a b : List Bytes} (hl : a.length = b.length) (hne : a ≠ b) :
    lexLt a b = true ∨ lexLt b a = true :=
  (Std.le_total (a := a) (b := b)).imp (fun h => lexLt_iff.mpr (Std.lt_of_le_of_ne h hne))
    (fun h => lexLt_iff.mpr (Std.lt_of_le_of_ne h hne.symm))

end Updog
