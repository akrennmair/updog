/-
Helper lemmas for `Updog.Props.C09Runes`: the rune-level lexer (`Updog.Model.RuneLexer`) and the
byte-level lexer (`Updog.Model.Parser`) agree on every byte string.
-/
import Updog.Model.RuneLexer
namespace Updog.RuneLexer

/-! ### `decodeRune` on ASCII and non-ASCII lead bytes -/

theorem toNat_lt_of_lt {b : UInt8} (h : b < 128) : b.toNat < 128 := by
  simpa [UInt8.lt_iff_toNat_lt] using h

theorem toNat_ge_of_ge {b : UInt8} (h : b ≥ 128) : b.toNat ≥ 128 := by
  have : (128 : UInt8) ≤ b := h
  simpa [UInt8.le_iff_toNat_le] using this

theorem lt_or_toNat_ge (b : UInt8) : b < 128 ∨ b.toNat ≥ 128 := by
  rcases Nat.lt_or_ge b.toNat 128 with h | h
  · left; simpa [UInt8.lt_iff_toNat_lt] using h
  · right; exact h

theorem decodeRune_ascii {b : UInt8} (rest : Bytes) (h : b < 128) :
    decodeRune (b :: rest) = (b.toNat, 1) := by
  unfold decodeRune
  exact if_pos (toNat_lt_of_lt h)

/-- Overlong three-byte forms are excluded by the raised lower bound `0xA0` on the byte after `0xE0`. -/
private theorem rune3_ge {x y z lo : Nat} (hx : 0xE0 ≤ x) (hlo : (if x = 0xE0 then 0xA0 else 0x80) = lo)
    (hy : lo ≤ y) : 128 ≤ lo ∧ 128 ≤ (x - 0xE0) * 4096 + (y - 0x80) * 64 + z := by
  split at hlo <;> omega

/-- Likewise `0x90` after `0xF0` for four bytes. -/
private theorem rune4_ge {x y z lo : Nat} (hx : 0xF0 ≤ x) (hlo : (if x = 0xF0 then 0x90 else 0x80) = lo)
    (hy : lo ≤ y) : 128 ≤ lo ∧ 128 ≤ (x - 0xF0) * 262144 + (y - 0x80) * 4096 + z := by
  split at hlo <;> omega

/-- `decodeRune` on a lead byte ≥ 0x80, read off the definition branch by branch: U+FFFD of width 1, or
    a rune ≥ 0x80 made of the lead byte and one to three continuation bytes, each ≥ 0x80 -/
theorem decodeRune_nonascii_shape (b : UInt8) (rest : Bytes) (h : b.toNat ≥ 128) :
    decodeRune (b :: rest) = (0xFFFD, 1) ∨
    ∃ r cont tail, rest = cont ++ tail ∧ (∀ x ∈ cont, x.toNat ≥ 128) ∧ r ≥ 128 ∧
      decodeRune (b :: rest) = (r, cont.length + 1) := by
  -- the definition is unfolded once, in a hypothesis, and each branch is taken by `rw`: `split` on a goal
  -- that mentions `decodeRune` several times abstracts over the whole definition at every step
  generalize hp : decodeRune (b :: rest) = p
  unfold decodeRune at hp
  simp only [] at hp
  rw [if_neg (Nat.not_lt.mpr h)] at hp
  by_cases h1 : b.toNat < 0xC2
  · rw [if_pos h1] at hp; exact .inl hp.symm
  rw [if_neg h1] at hp
  by_cases h2 : b.toNat < 0xE0
  · rw [if_pos h2] at hp
    rcases rest with _ | ⟨b1, t⟩
    · exact .inl hp.symm
    simp only [] at hp
    split at hp
    · rename_i hc
      exact .inr ⟨_, [b1], t, rfl, by simpa using hc.1, by omega, hp.symm⟩
    · exact .inl hp.symm
  rw [if_neg h2] at hp
  by_cases h3 : b.toNat < 0xF0
  · rw [if_pos h3] at hp
    rcases rest with _ | ⟨b1, _ | ⟨b2, t⟩⟩
    · exact .inl hp.symm
    · exact .inl hp.symm
    simp only [] at hp
    generalize hlo : (if b.toNat = 0xE0 then 0xA0 else 0x80) = lo at hp
    generalize (if b.toNat = 0xED then 0x9F else 0xBF) = hi at hp
    split at hp
    · rename_i hc
      have hg := rune3_ge (z := b2.toNat - 0x80) (Nat.le_of_not_lt h2) hlo hc.1
      exact .inr ⟨_, [b1, b2], t, rfl, by simpa using ⟨Nat.le_trans hg.1 hc.1, hc.2.2.1⟩, hg.2, hp.symm⟩
    · exact .inl hp.symm
  rw [if_neg h3] at hp
  by_cases h4 : b.toNat < 0xF5
  · rw [if_pos h4] at hp
    rcases rest with _ | ⟨b1, _ | ⟨b2, _ | ⟨b3, t⟩⟩⟩
    · exact .inl hp.symm
    · exact .inl hp.symm
    · exact .inl hp.symm
    simp only [] at hp
    generalize hlo : (if b.toNat = 0xF0 then 0x90 else 0x80) = lo at hp
    generalize (if b.toNat = 0xF4 then 0x8F else 0xBF) = hi at hp
    split at hp
    · rename_i hc
      have hg := rune4_ge (z := (b2.toNat - 0x80) * 64 + (b3.toNat - 0x80)) (Nat.le_of_not_lt h3) hlo hc.1
      exact .inr ⟨_, [b1, b2, b3], t, rfl,
        by simpa using ⟨Nat.le_trans hg.1 hc.1, hc.2.2.1, hc.2.2.2.2.1⟩, by simpa [Nat.add_assoc] using hg.2, hp.symm⟩
    · exact .inl hp.symm
  · rw [if_neg h4] at hp; exact .inl hp.symm

/-- the Nat-level content of `decodeRune_nonascii`: a lead byte ≥ 0x80 gives a rune ≥ 0x80 whose
    encoding (or the single invalid byte) lies inside the input and consists of bytes ≥ 0x80 only -/
theorem decodeRune_nonascii_nat (b : UInt8) (rest : Bytes) (h : b.toNat ≥ 128) :
    (decodeRune (b :: rest)).1 ≥ 128 ∧ 1 ≤ (decodeRune (b :: rest)).2 ∧
    (decodeRune (b :: rest)).2 ≤ (b :: rest).length ∧
    ∀ x ∈ (b :: rest).take (decodeRune (b :: rest)).2, x.toNat ≥ 128 := by
  rcases decodeRune_nonascii_shape b rest h with hd | ⟨r, cont, tail, rfl, hc, hr, hd⟩
  · rw [hd]; simpa using h
  · rw [hd]
    refine ⟨hr, by omega, by simp, ?_⟩
    rw [List.take_succ_cons, List.take_left']
    · intro x hx
      rcases List.mem_cons.mp hx with rfl | hx
      · exact h
      · exact hc x hx
    · rfl

theorem decodeRune_width (b : UInt8) (rest : Bytes) :
    1 ≤ (decodeRune (b :: rest)).2 ∧ (decodeRune (b :: rest)).2 ≤ (b :: rest).length := by
  rcases lt_or_toNat_ge b with h | h
  · rw [decodeRune_ascii rest h]; simp
  · have := decodeRune_nonascii_nat b rest h
    exact ⟨this.2.1, this.2.2.1⟩

/-! ### byte classes versus rune classes -/

theorem beq_lit (b c : UInt8) : (b == c) = (b.toNat == c.toNat) := by
  rw [Bool.eq_iff_iff]; simp [← UInt8.toNat_inj]

theorem isSpace_toNat (b : UInt8) : isSpace b = isSpaceRune b.toNat := by
  simp only [isSpace, isSpaceRune, beq_lit]; rfl

theorem isAlpha_toNat (b : UInt8) : isAlpha b = isAlphaRune b.toNat := by
  simp only [isAlpha, isAlphaRune, UInt8.le_iff_toNat_le]; rfl

theorem isDigit_toNat (b : UInt8) : isDigit b = isDigitRune b.toNat := by
  simp only [isDigit, isDigitRune, UInt8.le_iff_toNat_le]; rfl

theorem isFieldChar_toNat (b : UInt8) : isFieldChar b = isFieldRune b.toNat := by
  simp only [isFieldChar, isFieldRune, isDigit_toNat, isAlpha_toNat, beq_lit]; rfl

theorem isSpaceRune_lt {r : Nat} (h : isSpaceRune r = true) : r < 128 := by
  simp [isSpaceRune] at h; omega
theorem isDigitRune_lt {r : Nat} (h : isDigitRune r = true) : r < 128 := by
  simp [isDigitRune] at h; omega
theorem isAlphaRune_lt {r : Nat} (h : isAlphaRune r = true) : r < 128 := by
  simp [isAlphaRune] at h; omega
theorem isFieldRune_lt {r : Nat} (h : isFieldRune r = true) : r < 128 := by
  simp only [isFieldRune, Bool.or_eq_true, beq_iff_eq] at h
  rcases h with (h | h) | h
  · exact isDigitRune_lt h
  · exact isAlphaRune_lt h
  · omega

theorem false_of_ge {valid : Nat → Bool} (hv : ∀ r, valid r = true → r < 128) {r : Nat} (h : r ≥ 128) :
    valid r = false :=
  Bool.eq_false_iff.mpr fun hc => absurd (hv r hc) (by omega)

/-! ### `acceptRun` -/

theorem acceptRunR_eq (valid : Nat → Bool) (p : UInt8 → Bool)
    (hp : ∀ b, p b = valid b.toNat) (hv : ∀ r, valid r = true → r < 128) :
    ∀ (fuel : Nat) (s : Bytes), s.length ≤ fuel →
      acceptRunR valid fuel s = (s.takeWhile p, s.dropWhile p) := by
  intro fuel
  induction fuel with
  | zero =>
    intro s hs
    have : s = [] := List.length_eq_zero_iff.mp (Nat.le_zero.mp hs)
    subst this; simp [acceptRunR]
  | succ f ih =>
    intro s hs
    cases s with
    | nil => simp [acceptRunR]
    | cons b rest =>
      simp only [List.length_cons] at hs
      rcases lt_or_toNat_ge b with h | h
      · simp only [acceptRunR, decodeRune_ascii rest h, List.take_succ_cons, List.take_zero,
          List.drop_succ_cons, List.drop_zero, List.takeWhile_cons, List.dropWhile_cons, hp b]
        split
        · rw [ih rest (by omega)]; simp
        · rfl
      · have hr := (decodeRune_nonascii_nat b rest h).1
        have hv1 : valid (decodeRune (b :: rest)).1 = false := false_of_ge hv hr
        have hv2 : p b = false := (hp b).trans (false_of_ge hv h)
        simp [acceptRunR, hv1, hv2]

theorem acceptRunR_space (s : Bytes) :
    acceptRunR isSpaceRune s.length s = (s.takeWhile isSpace, s.dropWhile isSpace) :=
  acceptRunR_eq _ _ isSpace_toNat (fun _ => isSpaceRune_lt) _ _ (Nat.le_refl _)

theorem acceptRunR_field (s : Bytes) :
    acceptRunR isFieldRune s.length s = (s.takeWhile isFieldChar, s.dropWhile isFieldChar) :=
  acceptRunR_eq _ _ isFieldChar_toNat (fun _ => isFieldRune_lt) _ _ (Nat.le_refl _)

theorem acceptRunR_digit (s : Bytes) :
    acceptRunR isDigitRune s.length s = (s.takeWhile isDigit, s.dropWhile isDigit) :=
  acceptRunR_eq _ _ isDigit_toNat (fun _ => isDigitRune_lt) _ _ (Nat.le_refl _)

/-! ### `lexValue` -/

theorem scanStr_cons_ne {x : UInt8} (r : Bytes) (hx : x ≠ 34) :
    scanStr (x :: r) = (scanStr r).map fun br => (x :: br.1, br.2) := by
  rw [scanStr]
  all_goals (intros; contradiction)

theorem scanStr_quote_ne {c : UInt8} (r : Bytes) (hc : c ≠ 34) :
    scanStr (34 :: c :: r) = some ([], c :: r) := by
  rw [scanStr]
  intro r' h; cases h; exact hc rfl

theorem scanStr_append (pre rest : Bytes) (hpre : ∀ x ∈ pre, x ≠ 34) :
    scanStr (pre ++ rest) = (scanStr rest).map fun br => (pre ++ br.1, br.2) := by
  induction pre with
  | nil => simp
  | cons x pre ih =>
    have hx : x ≠ 34 := hpre x (by simp)
    have ih' := ih (fun y hy => hpre y (by simp [hy]))
    rw [List.cons_append, scanStr_cons_ne _ hx, ih']
    cases scanStr rest <;> simp

theorem ne34_of_ge {x : UInt8} (h : x.toNat ≥ 128) : x ≠ 34 := by
  intro hx; subst hx; simp at h

theorem decodeRune_not_quote {b : UInt8} (rest : Bytes) (hb : b ≠ 34) :
    ((decodeRune (b :: rest)).1 == 34) = false ∧ 1 ≤ (decodeRune (b :: rest)).2 ∧
    (decodeRune (b :: rest)).2 ≤ (b :: rest).length ∧
    ∀ x ∈ (b :: rest).take (decodeRune (b :: rest)).2, x ≠ 34 := by
  rcases lt_or_toNat_ge b with h | h
  · rw [decodeRune_ascii rest h]
    refine ⟨?_, Nat.le_refl _, Nat.succ_le_succ (Nat.zero_le _), ?_⟩
    · exact beq_eq_false_iff_ne.mpr fun e => hb (UInt8.toNat_inj.mp e)
    · intro x hx
      rw [List.take_succ_cons, List.take_zero, List.mem_singleton] at hx
      rwa [hx]
  · obtain ⟨hr, hw1, hw2, hall⟩ := decodeRune_nonascii_nat b rest h
    exact ⟨beq_eq_false_iff_ne.mpr (by omega), hw1, hw2, fun x hx => ne34_of_ge (hall x hx)⟩

theorem scanStrR_eq : ∀ (fuel : Nat) (s : Bytes), s.length ≤ fuel → scanStrR fuel s = scanStr s := by
  intro fuel
  induction fuel with
  | zero =>
    intro s hs
    have : s = [] := List.length_eq_zero_iff.mp (Nat.le_zero.mp hs)
    subst this; rfl
  | succ f ih =>
    intro s hs
    cases s with
    | nil => rfl
    | cons b rest =>
      rw [List.length_cons] at hs
      by_cases hb : b = 34
      · -- a quote: the next rune decides between an escaped quote and the end of the string
        subst hb
        rw [scanStrR, decodeRune_ascii rest (by decide)]
        cases rest with
        | nil => rfl
        | cons c rest' =>
          rw [List.length_cons] at hs
          by_cases hc : c = 34
          · subst hc
            simp only [List.drop_succ_cons, List.drop_zero, List.take_succ_cons, List.take_zero,
              decodeRune_ascii rest' (by decide : (34 : UInt8) < 128), UInt8.reduceToNat, beq_self_eq_true,
              if_true]
            rw [ih rest' (by omega), scanStr]
            rfl
          · simp only [List.drop_succ_cons, List.drop_zero, UInt8.reduceToNat, beq_self_eq_true, if_true,
              (decodeRune_not_quote rest' hc).1, Bool.false_eq_true, if_false]
            rw [scanStr_quote_ne _ hc]
      · -- any other rune: both scanners skip its bytes, none of which is a quote
        obtain ⟨hne, hw1, hw2, hall⟩ := decodeRune_not_quote rest hb
        rw [scanStrR]
        simp only [hne, Bool.false_eq_true, if_false]
        rw [ih _ (by rw [List.length_drop, List.length_cons]; omega)]
        conv => rhs; rw [← List.take_append_drop (decodeRune (b :: rest)).2 (b :: rest)]
        rw [scanStr_append _ _ hall]

/-! ### `lexText` -/

theorem lexAll_nonascii (b : UInt8) (rest : Bytes) (h : b.toNat ≥ 128) : lexAll (b :: rest) = [.error] := by
  rw [lexAll]
  have h1 : isSpace b = false := (isSpace_toNat b).trans (false_of_ge (fun _ => isSpaceRune_lt) h)
  have h2 : isAlpha b = false := (isAlpha_toNat b).trans (false_of_ge (fun _ => isAlphaRune_lt) h)
  have hne : ∀ c : UInt8, c.toNat < 128 → (b == c) = false := by
    intro c hc; rw [beq_lit]; simp only [beq_eq_false_iff_ne]; omega
  simp [h1, h2, hne]

theorem lexTextR_nonascii (f : Nat) (b : UInt8) (rest : Bytes) (h : b.toNat ≥ 128) :
    lexTextR (f + 1) (b :: rest) = [.error] := by
  have hr := (decodeRune_nonascii_nat b rest h).1
  have h1 : isSpaceRune (decodeRune (b :: rest)).1 = false := false_of_ge (fun _ => isSpaceRune_lt) hr
  have h2 : isAlphaRune (decodeRune (b :: rest)).1 = false := false_of_ge (fun _ => isAlphaRune_lt) hr
  have hne : ∀ c : Nat, c < 128 → ((decodeRune (b :: rest)).1 == c) = false := by
    intro c hc; simp only [beq_eq_false_iff_ne]; omega
  simp [lexTextR, h1, h2, hne]

theorem dropWhile_length_le (p : UInt8 → Bool) (l : Bytes) : (l.dropWhile p).length ≤ l.length :=
  (List.dropWhile_sublist p).length_le

theorem ite_both {α : Type} (c : Prop) [Decidable c] {a a' b b' : α}
    (h1 : c → a = a') (h2 : ¬c → b = b') : (if c then a else b) = (if c then a' else b') := by
  split
  · exact h1 ‹_›
  · exact h2 ‹_›

theorem lexTextR_eq : ∀ (fuel : Nat) (s : Bytes), s.length ≤ fuel → lexTextR fuel s = lexAll s := by
  intro fuel
  induction fuel with
  | zero =>
    intro s hs
    have : s = [] := List.length_eq_zero_iff.mp (Nat.le_zero.mp hs)
    subst this; simp [lexTextR, lexAll]
  | succ f ih =>
    intro s hs
    cases s with
    | nil => simp [lexTextR, lexAll]
    | cons b rest =>
      simp only [List.length_cons] at hs
      rcases lt_or_toNat_ge b with h | h
      · rw [lexAll]
        simp only [lexTextR, decodeRune_ascii rest h, List.drop_succ_cons, List.drop_zero,
          acceptRunR_space, acceptRunR_field, acceptRunR_digit, scanStrR_eq _ _ (Nat.le_refl _),
          isSpace_toNat b, isAlpha_toNat b, beq_lit b]
        simp only [UInt8.reduceToNat]
        have hrest : ∀ t : Bytes, t.length ≤ rest.length → lexTextR f t = lexAll t :=
          fun t ht => ih t (by omega)
        refine ite_both _ (fun hsp => ?_) (fun _ => ?_)
        · rw [← isSpace_toNat] at hsp
          rw [List.dropWhile_cons_of_pos hsp]
          exact hrest _ (dropWhile_length_le _ _)
        iterate 8 refine ite_both _ (fun _ => by rw [hrest rest (Nat.le_refl _)]) (fun _ => ?_)
        refine ite_both _ (fun hal => ?_) (fun _ => ?_)
        · rw [← isAlpha_toNat] at hal
          have hfc : isFieldChar b = true := by simp [isFieldChar, hal]
          rw [List.takeWhile_cons_of_pos hfc, List.dropWhile_cons_of_pos hfc]
          rw [hrest _ (dropWhile_length_le _ _)]
        refine ite_both _ (fun _ => ?_) (fun _ => ?_)
        · cases hsc : scanStr rest with
          | none => rfl
          | some br =>
            obtain ⟨body, rest'⟩ := br
            have hl := scanStr_length hsc
            simp only []
            rw [hrest rest' (by omega)]
        refine ite_both _ (fun _ => ?_) (fun _ => rfl)
        rw [hrest _ (dropWhile_length_le _ _)]
      · rw [lexAll_nonascii b rest h, lexTextR_nonascii f b rest h]

end Updog.RuneLexer
