/-
The generated `bigIndexWriterAddRow` (writer_big.go) against the TRANSACTION model `addRowTx` (Model/BigWriterTx.lean):
besides what `bigIndexWriterAddRow_spec` shows (schema, the bucket the writer sees, the counter), the generated call commits
the temporary database exactly when the model does, and what is then committed in the bolt model is the model's committed
bucket. Both are read off `bigIndexWriterAddRow_run`.
-/
import Updog.Proofs.GenBigT3
import Updog.Proofs.C18Big
namespace Updog.GeneratedEq
open Updog.Go.T3

/-- Go's `rowID > 0 && rowID%1000 == 0` on `uint32` is the model's test on the id as a natural number -/
theorem commitCond_eq (x : UInt32) :
    ((decide (x > (0 : UInt32))) && ((x % (1000 : UInt32)) == (0 : UInt32))) = commitsAt x.toNat := by
  have h1 : (x > (0 : UInt32)) ↔ x.toNat > 0 := by
    show (0 : UInt32) < x ↔ _
    rw [UInt32.lt_iff_toNat_lt]; rfl
  have h2 : ((x % (1000 : UInt32)) == (0 : UInt32)) = (x.toNat % 1000 == 0) := by
    rw [Bool.eq_iff_iff, beq_iff_eq, beq_iff_eq, ← UInt32.toNat_inj, UInt32.toNat_mod]
    rfl
  unfold commitsAt
  rw [h2, decide_eq_decide.mpr h1]

section
variable (H : Bytes → UInt64)

/-- The Go state stands for the transaction model's state `st`: the bucket the writer's transaction sees is
    `committed ∪ pending` (`BigRel … st.toBig`), the bucket `temp` COMMITTED in the database holds exactly `st.committed`,
    and the database has performed `c0 + st.commits` commits (`c0` = those before the first `AddRow`: the `Update` of
    `NewBigIndexWriter`). -/
def TxRel (bolt : Bolt) (hp : Heap) (idx : BigIndexWriter) (d : BucketData) (c0 : Nat) (st : BigWriterTx) : Prop :=
  BigRel hp idx d st.toBig ∧
  (∃ dc, bucketsGet bolt.committed tempName = some dc ∧ ∀ k, k ∈ dc.map (·.1) ↔ k ∈ st.committed) ∧
  bolt.commits.length = c0 + st.commits

theorem bigIndexWriterAddRow_tx_spec (bolt : Bolt) (hp : Heap) (idx : BigIndexWriter) (values : List (Bytes × Bytes))
    (d : BucketData) (c0 : Nat) (st : BigWriterTx) (hr : BigReady bolt idx d) (wf : SchemaWF H hp idx.schema)
    (rel : TxRel bolt hp idx d c0 st)
    (hnext : idx.nextRowID.toNat = st.next) (hroom : idx.nextRowID.toNat + 1 < 2 ^ 32)
    (r : Bolt × Heap × BigIndexWriter × UInt32 × Error) (hres : Gen.bigIndexWriterAddRow H bolt hp idx values = r) :
    r.2.2.2 = (idx.nextRowID, nilError) ∧ idx.nextRowID.toNat = (addRowTx H st values).1 ∧
    ∃ d', BigReady r.1 r.2.2.1 d' ∧ SchemaWF H r.2.1 r.2.2.1.schema ∧
      TxRel r.1 r.2.1 r.2.2.1 d' c0 (addRowTx H st values).2 ∧
      r.2.2.1.nextRowID.toNat = (addRowTx H st values).2.next ∧
      (idx.mtx = {} → r.2.2.1.mtx = {}) := by
  obtain ⟨rel1, ⟨dc, rel2, rel3⟩, rel4⟩ := rel
  obtain ⟨h1, h2, t, h3, h4, h5, h6⟩ := hr
  obtain ⟨i, _, c, _, n, cs⟩ := bolt
  obtain ⟨tid, _, bs, lg⟩ := t
  simp only at h1 h2 h3 h4 h5 h6 rel2 rel4
  subst h1 h3 h5
  obtain ⟨bs', lg', d', hp', sch', hd', wf', rel', e⟩ :=
    bigIndexWriterAddRow_run H i n tid c bs cs lg hp idx values d st.toBig h4 h2 h6 wf rel1
  rw [← hres, e, commitCond_eq, hnext]
  have hnx : (idx.nextRowID + 1).toNat = st.next + 1 := by
    rw [UInt32.toNat_add, ← hnext]; exact Nat.mod_eq_of_lt hroom
  have hrel : BigRel hp' { idx with schema := sch' } d' (addRowTx H st values).2.toBig := by
    rw [toBig_addRowTx, BigWriter.addRow, show st.toBig.next = idx.nextRowID.toNat from hnext.symm]
    exact rel'
  refine ⟨rfl, rfl, d', ?_, wf', ?_, hnx, fun hm => by simp only [hm]; rfl⟩
  · cases commitsAt st.next <;> exact ⟨rfl, h2, _, rfl, rfl, rfl, hd'⟩
  · cases hc : commitsAt st.next with
    | true =>
      -- every 1000 rows: what the transaction saw is now committed
      obtain ⟨c1, _, c3⟩ := addRowTx_commit H st values hc
      refine ⟨hrel, ⟨d', hd', fun k => by rw [c1, hrel.2 k, toBig_addRowTx]⟩, ?_⟩
      show (cs ++ [lg']).length = _
      rw [c3, List.length_append, List.length_singleton, rel4]
      omega
    | false =>
      obtain ⟨c1, c2⟩ := addRowTx_no_commit H st values hc
      exact ⟨hrel, ⟨dc, rel2, fun k => by rw [c1]; exact rel3 k⟩, by rw [c2]; exact rel4⟩

end
end Updog.GeneratedEq
