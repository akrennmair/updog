/-
Helper lemmas for `Props/C11Parsed.lean`, execution side:

* `eval` — the index's evaluation, ERRORS INCLUDED, on an arbitrary `Index` — is invariant under the normal form
  `norm` on trees whose AND/OR nodes are non-empty (`NE`); hence trees with equal normal forms evaluate alike;
* a column the index's schema does not have makes `eval` fail, a group-by column it does not have makes
  `execute` fail.
-/
import Updog.Proofs.Norm
import Updog.Model.Stmt
import Updog.Spec.Sat
namespace Updog

/-! ### non-empty AND/OR nodes -/

mutual
/-- every AND/OR node of the tree has at least one operand -/
def NE : PExpr → Prop
  | .eq _ _ _ => True
  | .not e => NE e
  | .and es => es ≠ [] ∧ NEL es
  | .or es => es ≠ [] ∧ NEL es
def NEL : List PExpr → Prop
  | [] => True
  | e :: es => NE e ∧ NEL es
end

theorem NE_mkOp (o : Bool) (es : List PExpr) : NE (mkOp o es) ↔ es ≠ [] ∧ NEL es := by
  cases o <;> rw [mkOp, NE]

theorem NE_of_WFE : (∀ e, WFE e → NE e) ∧ (∀ es, WFL es → NEL es) := by
  refine PExpr.induction ?_ ?_ ?_ ?_ ?_
  · exact fun _ _ _ _ => trivial
  · exact fun e ih h => ih h
  · exact fun o es ih h => (NE_mkOp o es).mpr ⟨((WFE_mkOp o es).mp h).1, ih ((WFE_mkOp o es).mp h).2⟩
  · exact fun _ => trivial
  · exact fun e es ihe ihs h => ⟨ihe h.1, ihs h.2⟩

theorem NEL_append {xs ys : List PExpr} (hx : NEL xs) (hy : NEL ys) : NEL (xs ++ ys) := by
  induction xs with
  | nil => exact hy
  | cons x xs ih => exact ⟨hx.1, ih hx.2⟩

theorem NEL_spliceOp {o : Bool} {x : PExpr} (h : NE x) : NEL (spliceOp o x) ∧ spliceOp o x ≠ [] :=
  spliceOp_rec (C := fun x l => NE x → NEL l ∧ l ≠ [])
    (fun xs h => ⟨((NE_mkOp o xs).mp h).2, ((NE_mkOp o xs).mp h).1⟩)
    (fun _ _ h => ⟨⟨h, trivial⟩, List.cons_ne_nil _ _⟩) x h

theorem NE_mk1 {o : Bool} {l : List PExpr} (hne : l ≠ []) (h : NEL l) : NE (mk1 o l) :=
  mk1_rec (C := fun l e => l ≠ [] → NEL l → NE e) (fun _ _ h => h.1)
    (fun l _ hne h => (NE_mkOp o l).mpr ⟨hne, h⟩) l hne h

theorem NE_norm : (∀ e, NE e → NE (norm e)) ∧
    (∀ es, NEL es → ∀ o, NEL (normCh o es) ∧ (es ≠ [] → normCh o es ≠ [])) := by
  refine PExpr.induction ?_ ?_ ?_ ?_ ?_
  · exact fun c v ph _ => by rw [norm, rpLeaf]; split <;> trivial
  · exact fun e ih h => by rw [norm]; exact ih h
  · intro o es ih h
    obtain ⟨h1, h2⟩ := (NE_mkOp o es).mp h
    rw [norm_mkOp]
    exact NE_mk1 ((ih h2 o).2 h1) (ih h2 o).1
  · exact fun _ o => ⟨by rw [normCh]; trivial, fun h => absurd rfl h⟩
  · intro e es ihe ihs h o
    have hs := NEL_spliceOp (o := o) (ihe h.1)
    rw [normCh]
    exact ⟨NEL_append hs.1 (ihs h.2 o).1, fun _ hcon => hs.2 (List.append_eq_nil_iff.mp hcon).1⟩

/-! ### the algebra of `FastAnd` / `FastOr` -/

/-- `andAll` (`o = false`) / `orAll` (`o = true`) -/
def opAll : Bool → List Nat → Nat
  | false => andAll
  | true => orAll

/-- the binary operation behind `opAll` -/
def op2 : Bool → Nat → Nat → Nat
  | false, a, b => a &&& b
  | true, a, b => a ||| b

theorem op2_assoc (o : Bool) (a b c : Nat) : op2 o (op2 o a b) c = op2 o a (op2 o b c) := by
  cases o
  · exact Nat.and_assoc a b c
  · exact Nat.or_assoc a b c

theorem foldl_op2 (o : Bool) (x y : Nat) (l : List Nat) :
    l.foldl (op2 o) (op2 o x y) = op2 o x (l.foldl (op2 o) y) := by
  induction l generalizing y with
  | nil => rfl
  | cons a l ih => rw [List.foldl_cons, List.foldl_cons, op2_assoc, ih]

theorem opAll_cons (o : Bool) (x : Nat) (l : List Nat) : opAll o (x :: l) = l.foldl (op2 o) x := by
  cases o
  · rfl
  · show l.foldl (· ||| ·) (0 ||| x) = _
    rw [Nat.zero_or]; rfl

theorem opAll_single (o : Bool) (b : Nat) : opAll o [b] = b := opAll_cons o b []

/-- `FastAnd` / `FastOr` of two non-empty blocks of operands is the operation on their results
    (`andAll [] = 0` is not neutral, hence the side conditions) -/
theorem opAll_append (o : Bool) {a b : List Nat} (ha : a ≠ []) (hb : b ≠ []) :
    opAll o (a ++ b) = op2 o (opAll o a) (opAll o b) := by
  obtain ⟨x, a, rfl⟩ := List.exists_cons_of_ne_nil ha
  obtain ⟨y, b, rfl⟩ := List.exists_cons_of_ne_nil hb
  rw [List.cons_append, opAll_cons, opAll_cons, opAll_cons, List.foldl_append, List.foldl_cons, foldl_op2]

/-! ### evaluation of bound trees -/

section
variable (H : Bytes → UInt64) (ix : Index) (args : List Bytes)

/-- the bitmap (`none` = error) `Execute` computes for `e` once `args` are bound to its placeholders -/
def evs (e : PExpr) : Option Nat := eval H ix (toExpr (subst args e))
/-- the operand bitmaps of a list of operands -/
def evl (es : List PExpr) : Option (List Nat) := evalList H ix (toExprs (substList args es))
/-- the combined bitmap of an `o`-chain of operands -/
def evc (o : Bool) (es : List PExpr) : Option Nat := (evl H ix args es).map (opAll o)

theorem evs_mkOp (o : Bool) (es : List PExpr) : evs H ix args (mkOp o es) = evc H ix args o es := by
  cases o <;> simp [evs, evc, evl, mkOp, subst, toExpr, eval, opAll]

theorem evl_cons (e : PExpr) (es : List PExpr) :
    evl H ix args (e :: es) = (evs H ix args e).bind fun b => (evl H ix args es).map (b :: ·) := by
  simp only [evl, evs, substList, toExprs, evalList]
  cases eval H ix (toExpr (subst args e)) <;> rfl

theorem evc_single (o : Bool) (x : PExpr) : evc H ix args o [x] = evs H ix args x := by
  rw [evc, evl_cons]
  cases evs H ix args x with
  | none => rfl
  | some b => exact congrArg some (opAll_single o b)

theorem evc_append (o : Bool) {xs ys : List PExpr} (hx : xs ≠ []) (hy : ys ≠ []) :
    evc H ix args o (xs ++ ys) =
      (evc H ix args o xs).bind fun a => (evc H ix args o ys).map (op2 o a) := by
  have key : ∀ xs : List PExpr, evl H ix args (xs ++ ys) =
      (evl H ix args xs).bind fun a => (evl H ix args ys).map (a ++ ·) := by
    intro xs
    induction xs with
    | nil => cases h : evl H ix args ys <;> simp [evl, substList, toExprs, evalList, ← h]
    | cons x xs ih =>
      rw [List.cons_append, evl_cons, evl_cons, ih]
      cases evs H ix args x <;> cases evl H ix args xs <;> cases evl H ix args ys <;> rfl
  have len : ∀ (zs : List PExpr) (c : List Nat), zs ≠ [] → evl H ix args zs = some c → c ≠ [] := by
    intro zs c hz h
    obtain ⟨z, zs, rfl⟩ := List.exists_cons_of_ne_nil hz
    simp only [evl_cons, Option.bind_eq_some_iff, Option.map_eq_some_iff] at h
    obtain ⟨b, _, c', _, rfl⟩ := h
    exact List.cons_ne_nil _ _
  rw [evc, evc, evc, key]
  cases ha : evl H ix args xs with
  | none => rfl
  | some a =>
    cases hb : evl H ix args ys with
    | none => rfl
    | some b => exact congrArg some (opAll_append o (len xs a hx ha) (len ys b hy hb))

theorem evs_mk1 (o : Bool) {l : List PExpr} : evs H ix args (mk1 o l) = evc H ix args o l :=
  mk1_rec (C := fun l e => evs H ix args e = evc H ix args o l) (fun x => (evc_single H ix args o x).symm)
    (fun l _ => evs_mkOp H ix args o l) l

theorem evc_spliceOp (o : Bool) (x : PExpr) : evc H ix args o (spliceOp o x) = evs H ix args x :=
  spliceOp_rec (C := fun x l => evc H ix args o l = evs H ix args x) (fun xs => (evs_mkOp H ix args o xs).symm)
    (fun x _ => evc_single H ix args o x) x

theorem evs_rpLeaf (c v : Bytes) (ph : Nat) : evs H ix args (rpLeaf c v ph) = evs H ix args (.eq c v ph) := by
  unfold rpLeaf
  split
  · rename_i h; simp [evs, subst, h]
  · rename_i h; simp [evs, subst, h]

theorem evs_norm : (∀ e, NE e → evs H ix args (norm e) = evs H ix args e) ∧
    (∀ es, NEL es → es ≠ [] → ∀ o, evc H ix args o (normCh o es) = evc H ix args o es) := by
  refine PExpr.induction ?_ ?_ ?_ ?_ ?_
  · exact fun c v ph _ => by rw [norm, evs_rpLeaf]
  · intro e ih h
    have := ih h
    simp only [evs] at this
    simp [norm, evs, subst, toExpr, eval, this]
  · intro o es ih h
    obtain ⟨h1, h2⟩ := (NE_mkOp o es).mp h
    rw [norm_mkOp, evs_mk1, ih h2 h1, evs_mkOp]
  · exact fun _ h => absurd rfl h
  · intro e es ihe ihs h _ o
    have hs := NEL_spliceOp (o := o) (NE_norm.1 e h.1)
    have he : evc H ix args o (spliceOp o (norm e)) = evc H ix args o [e] := by
      rw [evc_spliceOp, ihe h.1, evc_single]
    rw [normCh]
    cases es with
    | nil => rw [normCh, List.append_nil]; exact he
    | cons e' es' =>
      have hne : e' :: es' ≠ [] := List.cons_ne_nil _ _
      rw [evc_append H ix args o hs.2 ((NE_norm.2 _ h.2 o).2 hne), he, ihs h.2 hne o,
        ← evc_append H ix args o (List.cons_ne_nil e []) hne]
      rfl

theorem evs_eq_of_norm_eq {e₁ e₂ : PExpr} (h1 : NE e₁) (h2 : NE e₂) (h : norm e₁ = norm e₂) :
    evs H ix args e₁ = evs H ix args e₂ := by
  rw [← (evs_norm H ix args).1 e₁ h1, h, (evs_norm H ix args).1 e₂ h2]

end

/-! ### unknown columns -/

mutual
theorem columns_subst (args : List Bytes) (e : PExpr) : (toExpr (subst args e)).columns = (toExpr e).columns := by
  match e with
  | .eq c v ph => simp only [subst]; split <;> rfl
  | .not e' => simp [subst, toExpr, Expr.columns, columns_subst args e']
  | .and es => simp [subst, toExpr, Expr.columns, columnsList_subst args es]
  | .or es => simp [subst, toExpr, Expr.columns, columnsList_subst args es]
theorem columnsList_subst (args : List Bytes) (es : List PExpr) :
    Expr.columnsList (toExprs (substList args es)) = Expr.columnsList (toExprs es) := by
  match es with
  | [] => rfl
  | e :: es' => simp [substList, toExprs, Expr.columnsList, columns_subst args e, columnsList_subst args es']
end

section
variable (H : Bytes → UInt64)

mutual
theorem eval_unknown_col (ix : Index) (e : Expr) (c : Bytes) (hc : c ∈ e.columns)
    (hno : ix.schema.col c = none) : eval H ix e = none := by
  match e with
  | .eq c' v =>
    simp only [Expr.columns, List.mem_singleton] at hc
    subst hc
    simp [eval, hno]
  | .not e' =>
    simp only [eval, eval_unknown_col ix e' c (by simpa [Expr.columns] using hc) hno, Option.map_none]
  | .and es =>
    simp only [eval, evalList_unknown_col ix es c (by simpa [Expr.columns] using hc) hno, Option.map_none]
  | .or es =>
    simp only [eval, evalList_unknown_col ix es c (by simpa [Expr.columns] using hc) hno, Option.map_none]
theorem evalList_unknown_col (ix : Index) (es : List Expr) (c : Bytes) (hc : c ∈ Expr.columnsList es)
    (hno : ix.schema.col c = none) : evalList H ix es = none := by
  match es with
  | [] => simp [Expr.columnsList] at hc
  | e :: es' =>
    simp only [Expr.columnsList, List.mem_append] at hc
    simp only [evalList]
    cases hc with
    | inl h => simp [eval_unknown_col ix e c h hno]
    | inr h =>
      cases eval H ix e with
      | none => rfl
      | some b => simp [evalList_unknown_col ix es' c h hno]
end

theorem populateGroupBy_unknown (s : Schema) (fs : List Bytes) (c : Bytes) (hc : c ∈ fs) (hno : s.col c = none) :
    populateGroupBy s fs = none := by
  induction fs with
  | nil => cases hc
  | cons f fs ih =>
    simp only [populateGroupBy]
    rcases List.mem_cons.mp hc with rfl | hc
    · simp [hno]
    · cases s.col f with
      | none => rfl
      | some vs => simp [ih hc]

theorem execute_unknown_col (ix : Index) (q : Query) (c : Bytes) (hc : c ∈ q.expr.columns ∨ c ∈ q.groupBy)
    (hno : ix.schema.col c = none) : execute H ix q = none := by
  unfold execute
  rcases hc with hc | hc
  · simp only [eval_unknown_col H ix q.expr c hc hno]
    cases populateGroupBy ix.schema q.groupBy <;> rfl
  · simp [populateGroupBy_unknown ix.schema q.groupBy c hc hno]

end
end Updog
