/-
Quoting of values: `quoteValue` doubles quotes, `unescape` undoes it, and the escaped text is a
`{ string-character }` body of the grammar, so the lexer reads it back as one `value` item.
-/
import Updog.Model.Formatter
import Updog.Proofs.Parser
namespace Updog
open Grammar

/-- the text `quoteValue` puts between the outer quotes -/
def escape (v : Bytes) : Bytes := v.flatMap fun c => if c == 34 then [34, 34] else [c]

theorem quoteValue_eq (v : Bytes) : quoteValue v = 34 :: escape v ++ [34] := rfl

@[simp] theorem escape_nil : escape [] = [] := rfl

theorem escape_cons_quote (v : Bytes) : escape (34 :: v) = 34 :: 34 :: escape v := rfl

theorem escape_cons_other {c : UInt8} (h : c ≠ 34) (v : Bytes) : escape (c :: v) = c :: escape v := by
  simp [escape, h]

theorem unescape_escape (v : Bytes) : unescape (escape v) = v := by
  induction v with
  | nil => simp [unescape]
  | cons c v ih =>
    by_cases h : c = 34
    · subst h; rw [escape_cons_quote, unescape, ih]
    · rw [escape_cons_other h, unescape.eq_2 _ _ (fun _ hc _ => h hc), ih]

theorem strBody_escape (v : Bytes) : StrBody (escape v) := by
  induction v with
  | nil => exact .nil
  | cons c v ih =>
    by_cases h : c = 34
    · subst h; exact .quote ih
    · rw [escape_cons_other h]; exact .char h ih

end Updog
