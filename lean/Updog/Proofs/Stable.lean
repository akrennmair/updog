/-
Second-generation stability: on a well-formed tree whose AND/OR nodes all have at least two operands
(`N2`), formatting the parse result `rp e` reproduces the text of `e`.
-/
import Updog.Proofs.Norm
namespace Updog
open Grammar

/-- every AND/OR node has at least two operands: the grammar's `nary2` as a proposition -/
def N2 (e : PExpr) : Prop := nary2 e = true

theorem N2_mkOp (o : Bool) (es : List PExpr) : N2 (mkOp o es) ↔ 2 ≤ es.length ∧ nary2List es = true := by
  cases o <;> simp [N2, mkOp, nary2]

/-! ### sizes: every operand of a well-formed chain contributes at least one parsed operand -/

theorem rp_length : (∀ e, WFE e → ∀ o, 1 ≤ (rpItem o e).length) ∧
    (∀ es, WFL es → ∀ o, es.length ≤ (rpCh o es).length) := by
  refine PExpr.induction ?_ ?_ ?_ ?_ ?_
  · exact fun c v ph _ o => by rw [rpItem]; exact Nat.le_refl _
  · exact fun e _ _ o => by rw [rpItem]; exact Nat.le_refl _
  · intro o es ih hw o'
    rw [WFE_mkOp] at hw
    rcases eq_or_eq_not o' o with rfl | rfl
    · rw [rpItem_mkOp]
      exact Nat.le_trans (List.length_pos_iff.mpr hw.1) (ih hw.2 o')
    · rw [rpItem_of_not_op (isOp_not_mkOp o es)]; exact Nat.le_refl _
  · exact fun _ o => Nat.zero_le _
  · intro e es ihe ihs hw o
    rw [rpCh, List.length_append, List.length_cons, Nat.add_comm]
    exact Nat.add_le_add (ihe hw.1 o) (ihs hw.2 o)

theorem mk1_of_two_le {o : Bool} {l : List PExpr} (h : 2 ≤ l.length) : mk1 o l = mkOp o l :=
  mk1_of_length_ne_one (by omega)

/-! ### on `N2` trees re-parsing does not change the text -/

theorem fmtCh_append (o : Bool) (xs ys : List PExpr) (hx : xs ≠ []) (hy : ys ≠ []) :
    fmtCh o (xs ++ ys) = fmtCh o xs ++ sepBytes o ++ fmtCh o ys := by
  induction xs with
  | nil => exact absurd rfl hx
  | cons x xs ih =>
    cases xs with
    | nil =>
      obtain ⟨y, ys', rfl⟩ := List.exists_cons_of_ne_nil hy
      rfl
    | cons x' xs' =>
      rw [List.cons_append, List.cons_append, fmtCh_cons2, fmtCh_cons2, ← List.cons_append,
        ih (List.cons_ne_nil _ _)]
      simp only [List.append_assoc]

theorem isOp_rp {e : PExpr} (hw : WFE e) (hn : N2 e) (o : Bool) : isOp o (rp e) = isOp o e := by
  have op : ∀ o' es, WFE (mkOp o' es) → N2 (mkOp o' es) → isOp o (rp (mkOp o' es)) = isOp o (mkOp o' es) := by
    intro o' es hw hn
    have h2 := Nat.le_trans ((N2_mkOp o' es).mp hn).1 (rp_length.2 es ((WFE_mkOp o' es).mp hw).2 o')
    rw [rp_mkOp, mk1_of_two_le h2]; cases o <;> cases o' <;> rfl
  cases e with
  | eq c v ph => rw [rp, rpLeaf]; split <;> cases o <;> rfl
  | not e => cases o <;> rfl
  | and es => exact op false es hw hn
  | or es => exact op true es hw hn

theorem isAndOr_rp {e : PExpr} (hw : WFE e) (hn : N2 e) :
    (isAnd (rp e) || isOr (rp e)) = (isAnd e || isOr e) :=
  congr (congrArg _ (isOp_rp hw hn false)) (isOp_rp hw hn true)

/-- statement for one tree: same text, and same text as operand of either chain -/
def FS (e : PExpr) : Prop :=
  WFE e → N2 e → fmtExpr (rp e) = fmtExpr e ∧ ∀ o, fmtCh o (rpItem o e) = fmtCh o [e]
def FSL (es : List PExpr) : Prop :=
  WFL es → nary2List es = true → ∀ o, fmtCh o (rpCh o es) = fmtCh o es

theorem FS_of_not_op {e : PExpr} (hw : WFE e) (hn : N2 e) (h : fmtExpr (rp e) = fmtExpr e) {o : Bool}
    (hop : isOp o e = false) : fmtCh o (rpItem o e) = fmtCh o [e] := by
  rw [rpItem_of_not_op hop, fmtCh_single, fmtCh_single, isOp_rp hw hn, h]

theorem fmt_rp : (∀ e, FS e) ∧ (∀ es, FSL es) := by
  refine PExpr.induction ?_ ?_ ?_ ?_ ?_
  · intro c v ph hw hn
    have h : fmtExpr (rp (.eq c v ph)) = fmtExpr (.eq c v ph) := by
      rw [rp, rpLeaf]
      split
      · rename_i h; rw [fmtExpr, fmtExpr, if_pos h, if_pos h]
      · rename_i h; rw [Nat.eq_zero_of_not_pos h]
    exact ⟨h, fun o => FS_of_not_op hw hn h (by cases o <;> rfl)⟩
  · intro e ih hw hn
    have hw' : WFE e := hw
    have hn' : N2 e := hn
    have h : fmtExpr (rp (.not e)) = fmtExpr (.not e) := by
      rw [rp, fmtExpr, fmtExpr, isAndOr_rp hw' hn', (ih hw' hn').1]
    exact ⟨h, fun o => FS_of_not_op hw hn h (by cases o <;> rfl)⟩
  · intro o es ih hw hn
    have hw' := (WFE_mkOp o es).mp hw
    have hn' := (N2_mkOp o es).mp hn
    have h2 : 2 ≤ (rpCh o es).length := Nat.le_trans hn'.1 (rp_length.2 es hw'.2 o)
    have h : fmtExpr (rp (mkOp o es)) = fmtExpr (mkOp o es) := by
      rw [rp_mkOp, mk1_of_two_le h2, fmtExpr_mkOp, fmtExpr_mkOp, ih hw'.2 hn'.2]
    refine ⟨h, fun o' => ?_⟩
    rcases eq_or_eq_not o' o with rfl | rfl
    · rw [rpItem_mkOp, ih hw'.2 hn'.2, fmtCh_single, isOp_not_mkOp, fmtExpr_mkOp]; rfl
    · exact FS_of_not_op hw hn h (isOp_not_mkOp o es)
  · exact fun _ _ o => by rw [rpCh]
  · intro e es ihe ihs hw hn o
    rw [nary2List, Bool.and_eq_true] at hn
    have hi := (ihe hw.1 hn.1).2 o
    cases es with
    | nil => rw [rpCh, rpCh, List.append_nil]; exact hi
    | cons e' es' =>
      have hne1 : rpItem o e ≠ [] := List.length_pos_iff.mp (rp_length.1 e hw.1 o)
      have hne2 : rpCh o (e' :: es') ≠ [] :=
        List.length_pos_iff.mp (Nat.lt_of_lt_of_le (Nat.succ_pos _) (rp_length.2 (e' :: es') hw.2 o))
      rw [rpCh, fmtCh_append o _ _ hne1 hne2, hi, ihs hw.2 hn.2 o, fmtCh_single, fmtCh_cons2]

end Updog
