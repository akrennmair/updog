/-
Lemmas about the Go prelude part T6 (`Updog/Basic/GoPreludeT6.lean`) that connect its primitives to the forms used by
the hand-written model (`List.mergeSort`, `popcount`, `filterMap`/`flatMap`/`map`). Used by `Updog/Props/Gen/GroupBy.lean`.
-/
import Updog.Basic.GoPreludeT6
import Updog.Proofs.GoLoops
import Updog.Proofs.Bits
import Updog.Proofs.Sort
namespace Updog.Go

/-! ### make + copy: the copy idiom yields the source -/

theorem copy_makeSlice {α : Type} (z : α) (xs : List α) : copy (makeSlice z (len xs)) xs = xs := by
  simp [copy, makeSlice, len]

/-! ### loops that append ↦ filterMap / flatMap / map -/

theorem foldl_snoc_filterMap {α β : Type} (f : α → Option β) (acc : List β) (xs : List α) :
    List.foldl (fun (acc : List β) (x : α) => match f x with | none => acc | some y => acc ++ [y]) acc xs
      = acc ++ xs.filterMap f :=
  foldl_filterMap_of _ f xs (fun _ _ _ => rfl) acc

theorem foldl_append_flatMap {α β : Type} (g : α → List β) (acc : List β) (xs : List α) :
    List.foldl (fun (acc : List β) (x : α) => acc ++ g x) acc xs = acc ++ xs.flatMap g :=
  foldl_flatMap_of _ g xs (fun _ _ _ => rfl) acc

theorem foldl_snoc_map {α β : Type} (g : α → β) (acc : List β) (xs : List α) :
    List.foldl (fun (acc : List β) (x : α) => acc ++ [g x]) acc xs = acc ++ xs.map g :=
  foldl_map_of _ g xs (fun _ _ _ => rfl) acc

/-! ### sort.Slice: insertion sort = the merge sort of the model -/

theorem insertBy_append {α : Type} (less : α → α → Bool) (a : α) (l₁ l₂ : List α)
    (h₁ : ∀ b ∈ l₁, less b a = true) (h₂ : ∀ b ∈ l₂, less b a = false) :
    insertBy less a (l₁ ++ l₂) = l₁ ++ a :: l₂ := by
  induction l₁ with
  | nil =>
    cases l₂ with
    | nil => rfl
    | cons b r => simp [insertBy, h₂ b (by simp)]
  | cons b r ih =>
    simp only [List.cons_append, insertBy, h₁ b (by simp), if_true]
    rw [ih (fun x hx => h₁ x (List.mem_cons_of_mem _ hx))]

/-- `sort.Slice` as translated (insertion sort by `less`) is the stable merge sort by `fun a b => !less b a`,
    whenever that relation is transitive and total (no assumption about duplicates is needed) -/
theorem sortSlice_eq_mergeSort {α : Type} (less : α → α → Bool)
    (trans : ∀ a b c : α, (!less b a) = true → (!less c b) = true → (!less c a) = true)
    (total : ∀ a b : α, (!less b a || !less a b) = true) (xs : List α) :
    sortSlice less xs = xs.mergeSort (fun a b => !less b a) := by
  induction xs with
  | nil => simp [sortSlice]
  | cons a l ih =>
    obtain ⟨l₁, l₂, h1, h2, h3⟩ := List.mergeSort_cons (le := fun a b => !less b a) trans total a l
    have hs : (l₁ ++ a :: l₂).Pairwise (fun x y => (!less y x) = true) := by
      rw [← h1]; exact List.pairwise_mergeSort trans total (a :: l)
    have hl2 : ∀ b ∈ l₂, less b a = false := by
      intro b hb
      have := (List.pairwise_append.mp hs).2.1
      have h := (List.pairwise_cons.mp this).1 b hb
      simpa using h
    have hl1 : ∀ b ∈ l₁, less b a = true := by
      intro b hb
      have := h3 b hb
      simpa using this
    have : sortSlice less (a :: l) = insertBy less a (sortSlice less l) := by simp [sortSlice]
    rw [this, ih, h2, h1]
    exact insertBy_append less a l₁ l₂ hl1 hl2

theorem sortSlice_bytesLt_key {α : Type} (key : α → Bytes) (xs : List α) :
    sortSlice (fun a b => bytesLt (key a) (key b)) xs = xs.mergeSort (fun a b => bytesLe (key a) (key b)) := by
  rw [sortSlice_eq_mergeSort]
  · rfl
  · intro a b c h1 h2
    exact bytesLe_trans (a := key a) (b := key b) (c := key c) h1 h2
  · intro a b
    exact bytesLe_total (key a) (key b)

theorem sortSlice_perm {α : Type} (less : α → α → Bool) (xs : List α) : (sortSlice less xs).Perm xs := by
  have hins : ∀ (a : α) (l : List α), (insertBy less a l).Perm (a :: l) := by
    intro a l
    induction l with
    | nil => exact List.Perm.refl _
    | cons b r ih =>
      simp only [insertBy]
      split
      · exact ((List.Perm.cons b ih).trans (List.Perm.swap a b r))
      · exact List.Perm.refl _
  induction xs with
  | nil => exact List.Perm.refl _
  | cons a l ih =>
    have : sortSlice less (a :: l) = insertBy less a (sortSlice less l) := by simp [sortSlice]
    rw [this]
    exact (hins a _).trans (List.Perm.cons a ih)

/-! ### bitmaps -/

theorem bmPopcountAux_eq (fuel n : Nat) (h : n ≤ fuel) : bmPopcountAux fuel n = popcount n := by
  induction fuel generalizing n with
  | zero => rw [Nat.le_zero.mp h, popcount_zero]; rfl
  | succ f ih =>
    rw [bmPopcountAux]
    split
    · next hn => rw [hn, popcount_zero]
    · next hn => rw [popcount_eq n hn, ih (n / 2) (by omega)]

theorem bmPopcount_eq (n : Nat) : bmPopcount n = popcount n := bmPopcountAux_eq n n (Nat.le_refl n)

theorem popcount_and_le (a b : Nat) : popcount (a &&& b) ≤ popcount a := by
  have ha : a < 2 ^ a := Nat.lt_two_pow_self
  have hab : a &&& b < 2 ^ a := Nat.lt_of_le_of_lt Nat.and_le_left ha
  rw [popcount_eq_countBelow a _ hab, popcount_eq_countBelow a _ ha]
  unfold countBelow
  rw [← List.countP_eq_length_filter, ← List.countP_eq_length_filter]
  exact List.countP_mono_left fun i _ hi => by rw [Nat.testBit_and, Bool.and_eq_true] at hi; exact hi.1

theorem bmCard_toNat (b : Nat) (h : popcount b < 2 ^ 64) : (bmCard b).toNat = popcount b := by
  unfold bmCard
  rw [bmPopcount_eq, Nat.toUInt64, UInt64.toNat_ofNat', Nat.mod_eq_of_lt h]

theorem bmCard_eq_zero (b : Nat) (h : popcount b < 2 ^ 64) : (bmCard b == (0 : UInt64)) = decide (popcount b = 0) := by
  rw [← bmCard_toNat b h]
  exact Bool.eq_iff_iff.mpr (by rw [beq_iff_eq, decide_eq_true_eq]; exact UInt64.toNat_inj.symm)

/-! ### sorting commutes with a map that respects the order -/

theorem insertBy_map {α β : Type} (f : α → β) (less : β → β → Bool) (a : α) (l : List α) :
    insertBy less (f a) (l.map f) = (insertBy (fun x y => less (f x) (f y)) a l).map f := by
  induction l with
  | nil => rfl
  | cons b r ih =>
    simp only [List.map_cons, insertBy]
    split
    · rw [ih]; rfl
    · rfl

theorem sortSlice_map {α β : Type} (f : α → β) (less : β → β → Bool) (xs : List α) :
    sortSlice less (xs.map f) = (sortSlice (fun x y => less (f x) (f y)) xs).map f := by
  induction xs with
  | nil => rfl
  | cons a l ih =>
    have h1 : sortSlice less ((a :: l).map f) = insertBy less (f a) (sortSlice less (l.map f)) := by simp [sortSlice]
    have h2 : sortSlice (fun x y => less (f x) (f y)) (a :: l)
        = insertBy (fun x y => less (f x) (f y)) a (sortSlice (fun x y => less (f x) (f y)) l) := by simp [sortSlice]
    rw [h1, h2, ih, insertBy_map]

/-! ### why insertion sort may stand for `sort.Slice`: with distinct keys the sorted permutation is unique -/

theorem key_inj_of_nodup {α : Type} (key : α → Bytes) (xs : List α) (hnd : (xs.map key).Nodup) :
    ∀ a ∈ xs, ∀ b ∈ xs, key a = key b → a = b := by
  induction xs with
  | nil => intro a ha; simp at ha
  | cons x r ih =>
    rw [List.map_cons, List.nodup_cons] at hnd
    intro a ha b hb hk
    rcases List.mem_cons.mp ha with rfl | ha' <;> rcases List.mem_cons.mp hb with rfl | hb'
    · rfl
    · exact absurd (hk ▸ List.mem_map_of_mem hb') hnd.1
    · exact absurd (hk ▸ List.mem_map_of_mem ha') hnd.1
    · exact ih hnd.2 a ha' b hb' hk

/-- ANY outcome `ys` of `sort.Slice(xs, less)` with `less a b = key a < key b` — a permutation of `xs` in which no
    element is less than an earlier one — is the list `sortSlice` computes, provided the keys are pairwise distinct.
    So the choice of insertion sort in the prelude is no assumption about Go's (unstable) algorithm. -/
theorem sortSlice_unique {α : Type} (key : α → Bytes) (xs ys : List α) (hnd : (xs.map key).Nodup)
    (hperm : ys.Perm xs) (hsorted : ys.Pairwise (fun a b => bytesLt (key b) (key a) = false)) :
    ys = sortSlice (fun a b => bytesLt (key a) (key b)) xs := by
  rw [sortSlice_bytesLt_key]
  have hinj := key_inj_of_nodup key xs hnd
  apply List.Perm.eq_of_pairwise (le := fun a b => bytesLe (key a) (key b) = true)
  · intro a b ha hb h1 h2
    exact hinj a (hperm.subset ha) b ((List.mergeSort_perm xs _).subset hb) (bytesLe_antisymm h1 h2)
  · exact hsorted.imp (fun {a b} h => by simp [bytesLe, h])
  · exact List.pairwise_mergeSort (le := fun a b : α => bytesLe (key a) (key b))
      (fun a b c => bytesLe_trans) (fun a b => bytesLe_total (key a) (key b)) xs
  · exact hperm.trans (List.mergeSort_perm xs _).symm

end Updog.Go
