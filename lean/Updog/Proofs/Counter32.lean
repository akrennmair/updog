/-
Helper lemmas for Props/C05Counter.lean: the writers with the 32-bit row counter (Model/Counter32.lean) against the
writers with the unbounded counter (Model/Index.lean, Model/BigWriter.lean).
-/
import Updog.Model.Counter32
import Updog.Proofs.BigWriter
namespace Updog

theorem toNat_succ32 (n : UInt32) : (n + 1).toNat = (n.toNat + 1) % 4294967296 := by
  rw [UInt32.toNat_add]; rfl

theorem toNat_succ32_of_lt (n : UInt32) (h : n.toNat + 1 < 2 ^ 32) : (n + 1).toNat = n.toNat + 1 := by
  rw [toNat_succ32]; exact Nat.mod_eq_of_lt h

theorem beDecode_counterBytes (n : UInt32) : beDecode (counterBytes n) = n.toNat :=
  be32_roundtrip n.toNat n.toNat_lt

theorem counterOfBytes_counterBytes (n : UInt32) : counterOfBytes (counterBytes n) = n := by
  unfold counterOfBytes
  rw [beDecode_counterBytes]
  exact UInt32.ofNat_toNat

/-- States with a `uint32` counter `next`, a step that increments it, and an abstraction `abs` to states with an
    unbounded counter that the step commutes with as long as the increment does not wrap. Then after any number of
    steps the counter is the sum modulo 2^32, and with room for all increments the run commutes with `abs`. -/
theorem foldl_counter32 {σ σ' α : Type} (next : σ → UInt32) (abs : σ → σ') (step : σ → α → σ) (step' : σ' → α → σ')
    (hnext : ∀ w a, next (step w a) = next w + 1)
    (habs : ∀ w a, (next w).toNat + 1 < 2 ^ 32 → abs (step w a) = step' (abs w) a) (l : List α) (w : σ) :
    (next (l.foldl step w)).toNat = ((next w).toNat + l.length) % 4294967296 ∧
    ((next w).toNat + l.length < 2 ^ 32 → abs (l.foldl step w) = l.foldl step' (abs w)) := by
  induction l generalizing w with
  | nil => exact ⟨(Nat.mod_eq_of_lt (next w).toNat_lt).symm, fun _ => rfl⟩
  | cons a l ih =>
    obtain ⟨h1, h2⟩ := ih (step w a)
    rw [hnext] at h1 h2
    rw [List.foldl_cons, List.foldl_cons, List.length_cons]
    constructor
    · rw [h1, toNat_succ32, Nat.mod_add_mod, Nat.add_assoc, Nat.add_comm 1]
    · intro h
      have h' : (next w).toNat + 1 < 2 ^ 32 := by omega
      rw [← habs w a h']
      exact h2 (by rw [toNat_succ32_of_lt _ h']; omega)

section
variable (H : Bytes → UInt64)

/-! ### in-memory writer -/

/-- the unbounded-counter state a 32-bit state stands for -/
def Writer32.abs (w : Writer32) : Writer := { schema := w.schema, vals := w.vals, next := w.next.toNat }

theorem fold32_abs (id : UInt32) (r : Row) (w : Writer32) :
    (r.foldl (Writer32.addPair H id) w).abs = r.foldl (Writer.addPair H id.toNat) w.abs :=
  (List.foldl_hom Writer32.abs fun _ _ => rfl).symm

theorem fold32_next (id : UInt32) (r : Row) (w : Writer32) : (r.foldl (Writer32.addPair H id) w).next = w.next :=
  List.foldlRecOn (motive := fun (w' : Writer32) => w'.next = w.next) r _ rfl fun _ h _ _ => h

/-- one `AddRow`: the bitmaps and the schema are those of the unbounded model, whatever the counter is -/
theorem addRow32_schema_vals (w : Writer32) (r : Row) :
    (Writer32.addRow H w r).1.schema = (Writer.addRow H w.abs r).schema ∧
    (Writer32.addRow H w r).1.vals = (Writer.addRow H w.abs r).vals :=
  have h := fold32_abs H w.next r w
  ⟨congrArg Writer.schema h, congrArg Writer.vals h⟩

theorem addRow32_next (w : Writer32) (r : Row) : (Writer32.addRow H w r).1.next = w.next + 1 := rfl
theorem addRow32_id (w : Writer32) (r : Row) : (Writer32.addRow H w r).2 = w.next := rfl

/-- … and with room for the increment the whole state is -/
theorem addRow32_abs (w : Writer32) (r : Row) (h : w.next.toNat + 1 < 2 ^ 32) :
    (Writer32.addRow H w r).1.abs = Writer.addRow H w.abs r := by
  obtain ⟨h1, h2⟩ := addRow32_schema_vals H w r
  show Writer.mk _ _ (w.next + 1).toNat = _
  rw [h1, h2, toNat_succ32_of_lt _ h]; rfl

theorem addRows32_next (w : Writer32) (rows : List Row) :
    (Writer32.addRows H w rows).next.toNat = (w.next.toNat + rows.length) % 4294967296 :=
  (foldl_counter32 Writer32.next Writer32.abs _ _ (addRow32_next H) (addRow32_abs H) rows w).1

/-- with fewer than 2^32 rows in total the 32-bit writer IS the unbounded writer -/
theorem addRows32_abs (w : Writer32) (rows : List Row) (h : w.next.toNat + rows.length < 2 ^ 32) :
    (Writer32.addRows H w rows).abs = Writer.addRows H w.abs rows :=
  (foldl_counter32 Writer32.next Writer32.abs _ _ (addRow32_next H) (addRow32_abs H) rows w).2 h

/-- with AT MOST 2^32 rows the bitmaps and the schema are still those of the unbounded writer (all row ids fit) -/
theorem addRows32_schema_vals (w : Writer32) (rows : List Row) (h : w.next.toNat + rows.length ≤ 2 ^ 32) :
    (Writer32.addRows H w rows).schema = (Writer.addRows H w.abs rows).schema ∧
    (Writer32.addRows H w rows).vals = (Writer.addRows H w.abs rows).vals := by
  rcases List.eq_nil_or_concat rows with rfl | ⟨init, r, rfl⟩
  · exact ⟨rfl, rfl⟩
  · simp only [List.concat_eq_append, List.length_append, List.length_cons, List.length_nil] at h
    have e : Writer.addRows H w.abs (init ++ [r]) = Writer.addRow H (Writer.addRows H w.abs init) r :=
      List.foldl_append ..
    have e32 : Writer32.addRows H w (init ++ [r]) = (Writer32.addRow H (Writer32.addRows H w init) r).1 :=
      List.foldl_append ..
    rw [List.concat_eq_append, e, e32, ← addRows32_abs H w init (by omega)]
    exact addRow32_schema_vals H _ r

theorem addRowsIds32_toNat (w : Writer32) (rows : List Row) (h : w.next.toNat + rows.length ≤ 2 ^ 32) :
    (Writer32.addRowsIds H w rows).map (·.toNat) = Writer.addRowsIds H w.abs rows := by
  induction rows generalizing w with
  | nil => rfl
  | cons r rs ih =>
    simp only [Writer32.addRowsIds, Writer.addRowsIds, List.map_cons, addRow32_id]
    congr 1
    cases rs with
    | nil => rfl
    | cons r2 rs2 =>
      simp only [List.length_cons] at h
      have h1 : w.next.toNat + 1 < 2 ^ 32 := by omega
      rw [← addRow32_abs H w r h1]
      apply ih
      rw [addRow32_next, toNat_succ32_of_lt _ h1]
      simp only [List.length_cons]
      omega

/-! ### big writer -/

def BigWriter32.abs (w : BigWriter32) : BigWriter := { schema := w.schema, temp := w.temp, next := w.next.toNat }

theorem bigFold32_abs (id : UInt32) (r : Row) (w : BigWriter32) :
    (r.foldl (BigWriter32.addPair H id) w).abs = r.foldl (BigWriter.addPair H id.toNat) w.abs :=
  (List.foldl_hom BigWriter32.abs fun _ _ => rfl).symm

theorem bigAddRow32_schema_temp (w : BigWriter32) (r : Row) :
    (BigWriter32.addRow H w r).1.schema = (BigWriter.addRow H w.abs r).schema ∧
    (BigWriter32.addRow H w r).1.temp = (BigWriter.addRow H w.abs r).temp :=
  have h := bigFold32_abs H w.next r w
  ⟨congrArg BigWriter.schema h, congrArg BigWriter.temp h⟩

theorem bigAddRow32_next (w : BigWriter32) (r : Row) : (BigWriter32.addRow H w r).1.next = w.next + 1 := rfl
theorem bigAddRow32_id (w : BigWriter32) (r : Row) : (BigWriter32.addRow H w r).2 = w.next := rfl

theorem bigAddRow32_abs (w : BigWriter32) (r : Row) (h : w.next.toNat + 1 < 2 ^ 32) :
    (BigWriter32.addRow H w r).1.abs = BigWriter.addRow H w.abs r := by
  obtain ⟨h1, h2⟩ := bigAddRow32_schema_temp H w r
  show BigWriter.mk _ _ (w.next + 1).toNat = _
  rw [h1, h2, toNat_succ32_of_lt _ h]; rfl

theorem bigAddRows32_next (w : BigWriter32) (rows : List Row) :
    (BigWriter32.addRows H w rows).next.toNat = (w.next.toNat + rows.length) % 4294967296 :=
  (foldl_counter32 BigWriter32.next BigWriter32.abs _ _ (bigAddRow32_next H) (bigAddRow32_abs H) rows w).1

theorem bigAddRows32_abs (w : BigWriter32) (rows : List Row) (h : w.next.toNat + rows.length < 2 ^ 32) :
    (BigWriter32.addRows H w rows).abs = BigWriter.addRows H w.abs rows :=
  (foldl_counter32 BigWriter32.next BigWriter32.abs _ _ (bigAddRow32_next H) (bigAddRow32_abs H) rows w).2 h

theorem bigAddRows32_schema_temp (w : BigWriter32) (rows : List Row) (h : w.next.toNat + rows.length ≤ 2 ^ 32) :
    (BigWriter32.addRows H w rows).schema = (BigWriter.addRows H w.abs rows).schema ∧
    (BigWriter32.addRows H w rows).temp = (BigWriter.addRows H w.abs rows).temp := by
  rcases List.eq_nil_or_concat rows with rfl | ⟨init, r, rfl⟩
  · exact ⟨rfl, rfl⟩
  · simp only [List.concat_eq_append, List.length_append, List.length_cons, List.length_nil] at h
    have e : BigWriter.addRows H w.abs (init ++ [r]) = BigWriter.addRow H (BigWriter.addRows H w.abs init) r :=
      List.foldl_append ..
    have e32 : BigWriter32.addRows H w (init ++ [r]) = (BigWriter32.addRow H (BigWriter32.addRows H w init) r).1 :=
      List.foldl_append ..
    rw [List.concat_eq_append, e, e32, ← bigAddRows32_abs H w init (by omega)]
    exact bigAddRow32_schema_temp H _ r

theorem bigAddRowsIds32_toNat (w : BigWriter32) (rows : List Row) (h : w.next.toNat + rows.length ≤ 2 ^ 32) :
    (BigWriter32.addRowsIds H w rows).map (·.toNat) = BigWriter.addRowsIds H w.abs rows := by
  induction rows generalizing w with
  | nil => rfl
  | cons r rs ih =>
    simp only [BigWriter32.addRowsIds, BigWriter.addRowsIds, List.map_cons, bigAddRow32_id]
    congr 1
    cases rs with
    | nil => rfl
    | cons r2 rs2 =>
      simp only [List.length_cons] at h
      have h1 : w.next.toNat + 1 < 2 ^ 32 := by omega
      rw [← bigAddRow32_abs H w r h1]
      apply ih
      rw [bigAddRow32_next, toNat_succ32_of_lt _ h1]
      simp only [List.length_cons]
      omega

end

/-! ### `NOT` over an empty universe -/

theorem flip_zero (b : Nat) : flip 0 b = b := by simp [flip]

end Updog
