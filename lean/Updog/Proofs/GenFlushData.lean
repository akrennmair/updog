/-
What the reader finds in bucket `data` after the generated `writeToBoltDatabase` (`fileData` of Proofs/GenFlushT3.lean):
`dataPut` against `dataGet`, cursor order, key shape — the hypotheses of the reader's abstraction `imageOfData`
(Proofs/GenOpenT3.lean).
-/
import Updog.Proofs.GenFlushT3
import Updog.Proofs.GenOpenT3
import Updog.Proofs.GenWriterT3
import Updog.Proofs.Sort
import Updog.Proofs.Getters
namespace Updog.GeneratedEq
open Updog.Go.T3

/-! ### `dataPut` / `dataGet` -/

theorem dataGet_dataPut (d : BucketData) (k v k' : Bytes) :
    dataGet (dataPut d k v) k' = if k' = k then some v else dataGet d k' := by
  induction d with
  | nil =>
    by_cases e : k' = k
    · subst e; simp [dataPut, dataGet]
    · have : (k == k') = false := by simpa using fun h => e h.symm
      simp [dataPut, dataGet, this, e]
  | cons kv rest ih =>
    obtain ⟨k0, v0⟩ := kv
    unfold dataPut
    by_cases e0 : k0 = k
    · subst e0
      simp only [BEq.rfl, if_true, dataGet]
      by_cases e : k' = k0
      · subst e; simp
      · have : (k0 == k') = false := by simpa using fun h => e h.symm
        simp [this, e]
    · have h0 : (k0 == k) = false := by simpa using e0
      simp only [h0, Bool.false_eq_true, if_false]
      by_cases hlt : bytesLt k k0 = true
      · simp only [hlt, if_true, dataGet]
        by_cases e : k' = k
        · subst e; simp
        · have : (k == k') = false := by simpa using fun h => e h.symm
          simp [this, e]
      · simp only [hlt, Bool.false_eq_true, if_false, dataGet, ih]
        by_cases e : k' = k
        · subst e
          have : (k0 == k') = false := by simpa using e0
          simp [this]
        · simp [e]

theorem mem_dataPut (d : BucketData) (k v : Bytes) (kv : Bytes × Bytes) (h : kv ∈ dataPut d k v) :
    kv = (k, v) ∨ kv ∈ d := by
  induction d with
  | nil => simp [dataPut] at h; exact Or.inl h
  | cons a rest ih =>
    obtain ⟨k0, v0⟩ := a
    unfold dataPut at h
    by_cases e0 : (k0 == k) = true
    · simp only [e0, if_true, List.mem_cons] at h
      rcases h with h | h
      · exact Or.inl h
      · exact Or.inr (List.mem_cons_of_mem _ h)
    · simp only [e0, Bool.false_eq_true, if_false] at h
      by_cases hlt : bytesLt k k0 = true
      · simp only [hlt, if_true, List.mem_cons] at h
        rcases h with h | h | h
        · exact Or.inl h
        · exact Or.inr (by rw [h]; exact List.mem_cons_self)
        · exact Or.inr (List.mem_cons_of_mem _ h)
      · simp only [hlt, Bool.false_eq_true, if_false, List.mem_cons] at h
        rcases h with h | h
        · exact Or.inr (by rw [h]; exact List.mem_cons_self)
        · rcases ih h with h | h
          · exact Or.inl h
          · exact Or.inr (List.mem_cons_of_mem _ h)

theorem sorted_dataPut (d : BucketData) (k v : Bytes) (hs : SortedData d) : SortedData (dataPut d k v) := by
  induction d with
  | nil => simp [dataPut, SortedData]
  | cons a rest ih =>
    obtain ⟨k0, v0⟩ := a
    unfold SortedData at hs ih ⊢
    rw [List.pairwise_cons] at hs
    unfold dataPut
    by_cases e0 : k0 = k
    · subst e0
      simp only [BEq.rfl, if_true]
      exact List.pairwise_cons.2 ⟨hs.1, hs.2⟩
    · have h0 : (k0 == k) = false := by simpa using e0
      simp only [h0, Bool.false_eq_true, if_false]
      by_cases hlt : bytesLt k k0 = true
      · simp only [hlt, if_true]
        refine List.pairwise_cons.2 ⟨?_, List.pairwise_cons.2 hs⟩
        intro b hb
        rcases List.mem_cons.1 hb with rfl | hb
        · exact hlt
        · exact bytesLt_trans hlt (hs.1 b hb)
      · simp only [hlt, Bool.false_eq_true, if_false]
        have hgt : bytesLt k0 k = true := by
          rcases bytesLt_total e0 with h | h
          · exact h
          · exact absurd h hlt
        refine List.pairwise_cons.2 ⟨?_, ih hs.2⟩
        intro b hb
        rcases mem_dataPut rest k v b hb with rfl | hb
        · exact hgt
        · exact hs.1 b hb

/-! ### the content of bucket `data` -/

theorem vKey_inj (a b : UInt64) (h : vKey a = vKey b) : a = b := by
  unfold vKey at h
  exact be64_inj a b (List.cons.inj h).2

theorem sorted_valFold (X : Ext) (d0 : BucketData) (vs : ValMap) (hs : SortedData d0) : SortedData (valFold X d0 vs) := by
  induction vs generalizing d0 with
  | nil => exact hs
  | cons kb vs ih => exact ih _ (sorted_dataPut _ _ _ hs)

theorem mem_valFold (X : Ext) (d0 : BucketData) (vs : ValMap) (kv : Bytes × Bytes) (h : kv ∈ valFold X d0 vs) :
    kv ∈ d0 ∨ ∃ kb ∈ vs, kv.1 = vKey kb.1 := by
  induction vs generalizing d0 with
  | nil => exact Or.inl h
  | cons kb vs ih =>
    rcases ih _ h with h | ⟨kb', hm, e⟩
    · rcases mem_dataPut _ _ _ _ h with h | h
      · exact Or.inr ⟨kb, List.mem_cons_self, by rw [h]⟩
      · exact Or.inl h
    · exact Or.inr ⟨kb', List.mem_cons_of_mem _ hm, e⟩

theorem dataGet_valFold (X : Ext) (vs : ValMap) (d0 : BucketData) (m0 : ValMap)
    (h0 : ∀ h, dataGet d0 (vKey h) = (m0.get h).map X.roaringToBytes) (h : UInt64) :
    dataGet (valFold X d0 vs) (vKey h) = ((vs.foldl (fun m kb => m.put kb.1 kb.2) m0).get h).map X.roaringToBytes := by
  induction vs generalizing d0 m0 with
  | nil => exact h0 h
  | cons kb vs ih =>
    apply ih
    intro h'
    rw [dataGet_dataPut, ValMap.get_put]
    by_cases e : h' = kb.1
    · subst e; simp
    · have : ¬ vKey h' = vKey kb.1 := fun e2 => e (vKey_inj _ _ e2)
      simp only [this, e, if_false]
      exact h0 h'

theorem dataGet_valFold_nil (X : Ext) (vs : ValMap) (hn : KeysNodup vs) (h : UInt64) :
    dataGet (valFold X [] vs) (vKey h) = (vs.get h).map X.roaringToBytes := by
  rw [dataGet_valFold X vs [] [] (fun _ => rfl), foldl_put_get vs hn]
  simp [ValMap.get]

/-- what the reader finds in a bucket that got the bitmaps `vs` and then two header entries under different keys `a`, `b`
    without the prefix `'V'`: cursor order, key shape, and the three kinds of lookup -/
theorem headerData_spec (X : Ext) (vs : ValMap) (hn : KeysNodup vs) (a b x y : Bytes)
    (ha : hasPrefix a [86] = false) (hb : hasPrefix b [86] = false) (hab : a ≠ b) :
    SortedData (dataPut (dataPut (valFold X [] vs) a x) b y) ∧ WellKeyed (dataPut (dataPut (valFold X [] vs) a x) b y) ∧
    dataGet (dataPut (dataPut (valFold X [] vs) a x) b y) a = some x ∧
    dataGet (dataPut (dataPut (valFold X [] vs) a x) b y) b = some y ∧
    ∀ h, dataGet (dataPut (dataPut (valFold X [] vs) a x) b y) (86 :: be64 h.toNat) = (vs.get h).map X.roaringToBytes := by
  have hv : ∀ (h : UInt64) (k : Bytes), hasPrefix k [86] = false → ¬ vKey h = k := by
    intro h k hk e; rw [← e] at hk; simp [hasPrefix, vKey] at hk
  refine ⟨?_, ?_, ?_, ?_, ?_⟩
  · exact sorted_dataPut _ _ _ (sorted_dataPut _ _ _ (sorted_valFold X [] vs (by simp [SortedData])))
  · intro kv hkv hpre
    rcases mem_dataPut _ _ _ _ hkv with h | h
    · rw [h, hb] at hpre; cases hpre
    · rcases mem_dataPut _ _ _ _ h with h | h
      · rw [h, ha] at hpre; cases hpre
      · rcases mem_valFold X [] vs kv h with h | ⟨kb, _, e⟩
        · cases h
        · exact ⟨kb.1, e⟩
  · rw [dataGet_dataPut, dataGet_dataPut, if_neg hab, if_pos rfl]
  · rw [dataGet_dataPut, if_pos rfl]
  · intro h
    rw [show (86 :: be64 h.toNat) = vKey h from rfl, dataGet_dataPut, dataGet_dataPut, if_neg (hv h b hb), if_neg (hv h a ha)]
    exact dataGet_valFold_nil X vs hn h

/-- what the reader finds in a complete file written into an empty bucket -/
theorem fileData_spec (X : Ext) (vs : ValMap) (hn : KeysNodup vs) (s : SchemaVal) (n : UInt32) :
    SortedData (fileData X [] vs s n) ∧ WellKeyed (fileData X [] vs s n) ∧
    dataGet (fileData X [] vs s n) [83] = some (X.gobEncode s) ∧
    dataGet (fileData X [] vs s n) [73] = some (be32 n.toNat) ∧
    ∀ h, dataGet (fileData X [] vs s n) (86 :: be64 h.toNat) = (vs.get h).map X.roaringToBytes :=
  headerData_spec X vs hn [83] [73] _ _ rfl rfl (by decide)

/-- **the file after `WriteToBoltDatabase`**: bucket `data` of the committed state holds exactly `fileData`: the
    bitmaps `Put` in `range` order on top of what the bucket held before (`[]` if it did not exist), then the gob schema
    under `'S'`, then the big-endian 4-byte `nextRowID` under `'I'`. -/
theorem writeToBoltDatabase_data (X : Ext) (rng : List (UInt64 × Ptr)) (bolt : Bolt) (hp : Heap) (idx : IndexWriter)
    (db : DBRef) (hdb : db = some bolt.id) (hopen : bolt.closed = false) (hnotx : bolt.tx = none) :
    bucketsGet (Gen.writeToBoltDatabase X rng bolt hp idx db).1.committed dataName
      = some (fileData X ((bucketsGet bolt.committed dataName).getD []) (absVals hp rng)
          (schemaValue hp idx.schema) idx.nextRowID) := by
  obtain ⟨i, _, c, _, n, cs⟩ := bolt
  subst hdb hopen hnotx
  obtain ⟨n', e⟩ := writeToBoltDatabase_run X rng i n c cs hp idx
  rw [e]
  exact bucketsGet_set_same _ _ _

end Updog.GeneratedEq
