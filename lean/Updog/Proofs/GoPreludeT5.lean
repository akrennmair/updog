/-
Lemmas about the primitives of `Updog/Basic/GoPreludeT5.lean`: appending loops over its record types, `forRange`,
`enumFrom`.
-/
import Updog.Basic.GoPreludeT5
import Updog.Proofs.GoLoops
namespace Updog.Go

/-! ### loops that append -/

theorem foldl_append_map {α β : Type} (g : α → β) (xs : List α) (init : List β) :
    List.foldl (fun acc x => acc ++ [g x]) init xs = init ++ xs.map g :=
  foldl_map_of _ g xs (fun _ _ _ => rfl) init

/-- the form `simp` brings an appending loop to -/
theorem flatten_map_single {α β : Type} (g : α → β) (xs : List α) : (xs.map fun x => [g x]).flatten = xs.map g := by
  induction xs with
  | nil => rfl
  | cons x xs ih => simp [ih]

/-- `foldl_field_append` for the record types of the prelude, in the form `simp` brings the generated loops to -/
theorem foldl_ExprAnd {α : Type} (g : α → Lib.Expression) (xs : List α) (s : Lib.ExprAnd) :
    List.foldl (fun (s : Lib.ExprAnd) x => ({ Exprs := s.Exprs ++ [g x] } : Lib.ExprAnd)) s xs
      = { Exprs := s.Exprs ++ xs.map g } :=
  foldl_field_append Lib.ExprAnd.Exprs (fun _ l => { Exprs := l }) g (fun _ _ => rfl) (fun _ _ _ => rfl) (fun _ => rfl) xs s

theorem foldl_ExprOr {α : Type} (g : α → Lib.Expression) (xs : List α) (s : Lib.ExprOr) :
    List.foldl (fun (s : Lib.ExprOr) x => ({ Exprs := s.Exprs ++ [g x] } : Lib.ExprOr)) s xs
      = { Exprs := s.Exprs ++ xs.map g } :=
  foldl_field_append Lib.ExprOr.Exprs (fun _ l => { Exprs := l }) g (fun _ _ => rfl) (fun _ _ _ => rfl) (fun _ => rfl) xs s

theorem foldl_PbResult_Groups {α : Type} (g : α → Pb.Result_Group) (xs : List α) (s : Pb.Result) :
    List.foldl (fun (s : Pb.Result) x => ({ QueryId := s.QueryId, TotalCount := s.TotalCount, Groups := s.Groups ++ [g x] } : Pb.Result)) s xs
      = { QueryId := s.QueryId, TotalCount := s.TotalCount, Groups := s.Groups ++ xs.map g } :=
  foldl_field_append Pb.Result.Groups (fun s l => { s with Groups := l }) g (fun _ _ => rfl) (fun _ _ _ => rfl) (fun _ => rfl) xs s

theorem foldl_LibResult_Groups {α : Type} (g : α → Lib.ResultGroup) (xs : List α) (s : Lib.Result) :
    List.foldl (fun (s : Lib.Result) x => ({ Count := s.Count, Groups := s.Groups ++ [g x] } : Lib.Result)) s xs
      = { Count := s.Count, Groups := s.Groups ++ xs.map g } :=
  foldl_field_append Lib.Result.Groups (fun s l => { s with Groups := l }) g (fun _ _ => rfl) (fun _ _ _ => rfl) (fun _ => rfl) xs s

theorem foldl_LibResultGroup_Fields {α : Type} (g : α → Lib.ResultField) (xs : List α) (s : Lib.ResultGroup) :
    List.foldl (fun (s : Lib.ResultGroup) x => ({ Fields := s.Fields ++ [g x], Count := s.Count } : Lib.ResultGroup)) s xs
      = { Fields := s.Fields ++ xs.map g, Count := s.Count } :=
  foldl_field_append Lib.ResultGroup.Fields (fun s l => { s with Fields := l }) g (fun _ _ => rfl) (fun _ _ _ => rfl) (fun _ => rfl) xs s

theorem foldl_DrvRows_rows {α : Type} (g : α → Drv.row) (xs : List α) (s : Drv.rows) :
    List.foldl (fun (s : Drv.rows) x => ({ cols := s.cols, rows := s.rows ++ [g x], closed := s.closed, idx := s.idx } : Drv.rows)) s xs
      = { cols := s.cols, rows := s.rows ++ xs.map g, closed := s.closed, idx := s.idx } :=
  foldl_field_append Drv.rows.rows (fun s l => { s with rows := l }) g (fun _ _ => rfl) (fun _ _ _ => rfl) (fun _ => rfl) xs s

/-! ### Go.forRange -/

theorem forRange_nil {α ρ σ : Type} (init : σ) (body : σ → α → Loop ρ σ) : forRange [] init body = .go init := rfl

theorem forRange_ret_fold {α ρ σ : Type} (xs : List α) (r : ρ) (body : σ → α → Loop ρ σ) :
    xs.foldl (fun st x => match st with | .ret r => .ret r | .go s => body s x) (Loop.ret r) = .ret r := by
  induction xs with
  | nil => rfl
  | cons x xs ih => simpa using ih

theorem forRange_cons {α ρ σ : Type} (x : α) (xs : List α) (init : σ) (body : σ → α → Loop ρ σ) :
    forRange (x :: xs) init body = match body init x with | .ret r => .ret r | .go s => forRange xs s body := by
  unfold forRange
  simp only [List.foldl_cons]
  cases h : body init x with
  | ret r => exact forRange_ret_fold xs r body
  | go s => simp

/-! ### enum -/

theorem enumFrom_length {α : Type} (xs : List α) (i : Int) : (enumFrom i xs).length = xs.length := by
  induction xs generalizing i with
  | nil => rfl
  | cons x xs ih => simp [enumFrom, ih]

theorem enumFrom_map_snd {α : Type} (xs : List α) (i : Int) : (enumFrom i xs).map (·.2) = xs := by
  induction xs generalizing i with
  | nil => rfl
  | cons x xs ih => simp [enumFrom, ih]

end Updog.Go
