import Updog.Proofs.Bits
import Updog.Proofs.BytesOrder
import Updog.Spec.Sat
namespace Updog

/-- a property indexed by the elements consumed so far is kept by a fold when every step keeps it -/
theorem foldl_snoc_inv {α β : Type} {P : β → List α → Prop} {f : β → α → β} (l : List α)
    (step : ∀ b xs a, a ∈ l → P b xs → P (f b a) (xs ++ [a])) {b : β} {xs : List α} (h : P b xs) :
    P (l.foldl f b) (xs ++ l) := by
  induction l generalizing b xs with
  | nil => rwa [List.append_nil]
  | cons a l ih =>
    rw [List.append_cons]
    exact ih (fun b xs c hc => step b xs c (List.mem_cons_of_mem _ hc)) (step b xs a (List.mem_cons_self ..) h)

/-! ### assoc-list lemmas -/

theorem ValMap.get_addBit (m : ValMap) (h h' : UInt64) (i : Nat) :
    (m.addBit h i).get h' = if h = h' then some (setBit ((m.get h).getD 0) i) else m.get h' := by
  fun_induction ValMap.addBit m h i with
  | case1 => simp only [ValMap.get, beq_iff_eq, Option.getD_none]
  | case2 k b rest hk =>
    rw [eq_of_beq hk]
    simp only [ValMap.get, beq_self_eq_true, if_true, Option.getD_some, beq_iff_eq]
    split <;> rfl
  | case3 k b rest hk ih =>
    have hk' : ¬ k = h := fun e => hk (beq_iff_eq.mpr e)
    simp only [ValMap.get, ih, beq_iff_eq, if_neg hk']
    by_cases hh : h = h'
    · rw [if_pos hh, if_pos hh, if_neg (hh ▸ hk')]
    · rw [if_neg hh, if_neg hh]

theorem ValMap.isSome_get_addBit (m : ValMap) (h h' : UInt64) (i : Nat) :
    ((m.addBit h i).get h').isSome = (decide (h' = h) || (m.get h').isSome) := by
  rw [ValMap.get_addBit]
  split
  · next e => simp only [e, Option.isSome_some, decide_true, Bool.true_or]
  · next e => rw [decide_eq_false fun e' => e e'.symm, Bool.false_or]

theorem Schema.col_add (s : Schema) (k v : Bytes) (h : UInt64) (c : Bytes) :
    (s.add k v h).col c = if c = k then some (addVal ((s.col k).getD []) v h) else s.col c := by
  fun_induction Schema.add s k v h with
  | case1 => simp only [Schema.col, beq_iff_eq, Option.getD_none, eq_comm (a := c)]; rfl
  | case2 k' vs rest hk =>
    rw [eq_of_beq hk]
    simp only [Schema.col, beq_self_eq_true, if_true, Option.getD_some, beq_iff_eq, eq_comm (a := c)]
    split <;> rfl
  | case3 k' vs rest hk ih =>
    have hk' : ¬ k' = k := fun e => hk (beq_iff_eq.mpr e)
    simp only [Schema.col, ih, beq_iff_eq, if_neg hk']
    by_cases hc : c = k
    · rw [if_pos hc, if_pos hc, if_neg (hc ▸ hk')]
    · rw [if_neg hc, if_neg hc]

theorem Schema.add_eq_self (s : Schema) (k v : Bytes) (h : UInt64)
    (hv : ((s.col k).getD []).any (·.1 == v) = true) : s.add k v h = s := by
  fun_induction Schema.add s k v h with
  | case1 => cases hv
  | case2 k' vs rest hk =>
    rw [eq_of_beq hk] at hv ⊢
    rw [Schema.col, beq_self_eq_true, if_pos rfl, Option.getD_some] at hv
    rw [addVal, if_pos hv]
  | case3 k' vs rest hk ih =>
    rw [Schema.col, if_neg hk] at hv
    rw [ih hv]

theorem Schema.keys_add (s : Schema) (k v : Bytes) (h : UInt64) :
    (s.add k v h).map (·.1) = if (s.col k).isSome then s.map (·.1) else s.map (·.1) ++ [k] := by
  fun_induction Schema.add s k v h with
  | case1 => rfl
  | case2 k' vs rest hk => rw [Schema.col, if_pos hk]; rfl
  | case3 k' vs rest hk ih =>
    rw [Schema.col, if_neg hk, List.map_cons, ih]
    split <;> rfl

theorem Schema.col_eq_none_iff (s : Schema) (k : Bytes) : s.col k = none ↔ k ∉ s.map (·.1) := by
  fun_induction Schema.col s k with
  | case1 => exact ⟨fun _ h => (nomatch h), fun _ => rfl⟩
  | case2 k' vs rest hk =>
    exact ⟨fun h => (nomatch h), fun h => absurd (List.mem_cons.mpr (.inl (eq_of_beq hk).symm)) h⟩
  | case3 k' vs rest hk ih =>
    rw [ih, List.map_cons, List.mem_cons, not_or]
    exact ⟨fun h => ⟨fun e => hk (beq_iff_eq.mpr e.symm), h⟩, fun h => h.2⟩

/-- a schema with distinct column names is determined by its column names and `col` -/
theorem Schema.eq_of_nodup_keys (s : Schema) (hn : (s.map (·.1)).Nodup) :
    (s.map (·.1)).map (fun c => (c, (s.col c).getD [])) = s := by
  induction s with
  | nil => rfl
  | cons p rest ih =>
    obtain ⟨c, vs⟩ := p
    rw [List.map_cons, List.nodup_cons] at hn
    rw [List.map_cons, List.map_cons, Schema.col, beq_self_eq_true, if_pos rfl, Option.getD_some]
    refine congrArg _ (Eq.trans (List.map_congr_left fun q hq => ?_) (ih hn.2))
    rw [Schema.col, if_neg fun e : (c == q) = true => hn.1 (eq_of_beq e ▸ hq)]

section
variable (H : Bytes → UInt64)

def hashOf (kv : Bytes × Bytes) : UInt64 := H (encodePair kv.1 kv.2)

/-- row `i` was added with some pair hashing to `h` -/
def rowHas (rows : List Row) (h : UInt64) (i : Nat) : Bool :=
  match rows[i]? with
  | none => false
  | some r => r.any fun kv => hashOf H kv == h

/-! ### bitmaps written by the writer -/

theorem addPair_fold_next (k : Nat) (r : Row) (w : Writer) : (r.foldl (Writer.addPair H k) w).next = w.next := by
  induction r generalizing w with
  | nil => rfl
  | cons kv r ih => simp [List.foldl, ih, Writer.addPair]

theorem addPair_fold_vals (k : Nat) (r : Row) (w : Writer) (h : UInt64) (j : Nat) :
    (((r.foldl (Writer.addPair H k) w).vals.get h).getD 0).testBit j
      = (((w.vals.get h).getD 0).testBit j || (decide (k = j) && r.any fun kv => hashOf H kv == h)) := by
  induction r generalizing w with
  | nil => simp
  | cons kv r ih =>
    rw [List.foldl, ih]
    simp only [Writer.addPair, ValMap.get_addBit, List.any_cons]
    show _ = (_ || (_ && (H (encodePair kv.1 kv.2) == h || _)))
    generalize H (encodePair kv.1 kv.2) = x
    by_cases hh : x = h
    · subst hh
      rw [if_pos rfl, Option.getD_some, testBit_setBit, beq_self_eq_true, Bool.true_or, Bool.and_true]
      cases ((w.vals.get x).getD 0).testBit j <;> cases decide (k = j) <;> rfl
    · rw [if_neg hh, beq_false_of_ne hh, Bool.false_or]

structure WInv (w : Writer) (rows : List Row) : Prop where
  next : w.next = rows.length
  vals : ∀ h j, ((w.vals.get h).getD 0).testBit j = rowHas H rows h j

theorem rowHas_append (rows : List Row) (r : Row) (h : UInt64) (j : Nat) :
    rowHas H (rows ++ [r]) h j = (rowHas H rows h j || (decide (rows.length = j) && r.any fun kv => hashOf H kv == h)) := by
  unfold rowHas
  by_cases hj : j < rows.length
  · have : ¬ rows.length = j := by omega
    simp [List.getElem?_append_left hj, this]
  · by_cases hj' : j = rows.length
    · subst hj'
      simp
    · have h1 : ¬ rows.length = j := fun e => hj' e.symm
      have h2 : (rows ++ [r])[j]? = none := by
        apply List.getElem?_eq_none; simp; omega
      have h3 : rows[j]? = none := by
        apply List.getElem?_eq_none; omega
      simp [h1, h2, h3]

theorem WInv.addRow {w : Writer} {rows : List Row} (hw : WInv H w rows) (r : Row) :
    WInv H (Writer.addRow H w r) (rows ++ [r]) := by
  constructor
  · simp [Writer.addRow, hw.next]
  · intro h j
    simp only [Writer.addRow]
    rw [addPair_fold_vals, hw.vals, rowHas_append, hw.next]

theorem WInv.addRows {w : Writer} {rows : List Row} (hw : WInv H w rows) (more : List Row) :
    WInv H (Writer.addRows H w more) (rows ++ more) :=
  foldl_snoc_inv more (fun _ _ r _ h => h.addRow H r) hw

theorem WInv.init : WInv H {} [] := by
  constructor
  · rfl
  · intro h j; simp [rowHas, ValMap.get]

theorem winv_addRows (rows : List Row) : WInv H (Writer.addRows H {} rows) rows := by
  simpa using (WInv.init H).addRows H rows

/-! ### keys of the in-memory writer's map -/

/-- some row has a pair hashing to `h` -/
def hashIn (rows : List Row) (h : UInt64) : Bool := rows.any fun r => r.any fun kv => hashOf H kv == h

theorem addPair_fold_isSome (k : Nat) (r : Row) (w : Writer) (h : UInt64) :
    ((r.foldl (Writer.addPair H k) w).vals.get h).isSome
      = ((w.vals.get h).isSome || r.any fun kv => hashOf H kv == h) := by
  induction r generalizing w with
  | nil => simp
  | cons kv r ih =>
    rw [List.foldl, ih]
    simp only [Writer.addPair, ValMap.isSome_get_addBit, List.any_cons, hashOf, Bool.beq_eq_decide_eq,
      eq_comm (a := h)]
    cases (w.vals.get h).isSome <;> cases decide (H (encodePair kv.1 kv.2) = h) <;> simp

theorem addRows_isSome (rows : List Row) (w : Writer) (h : UInt64) :
    ((Writer.addRows H w rows).vals.get h).isSome = ((w.vals.get h).isSome || hashIn H rows h) := by
  induction rows generalizing w with
  | nil => simp [Writer.addRows, hashIn]
  | cons r rows ih =>
    simp only [Writer.addRows, List.foldl] at ih ⊢
    rw [ih]
    simp only [Writer.addRow, addPair_fold_isSome, hashIn, List.any_cons, Bool.or_assoc]

theorem hashIn_iff (rows : List Row) (h : UInt64) : hashIn H rows h = true ↔ ∃ j, rowHas H rows h j = true := by
  unfold hashIn rowHas
  rw [List.any_eq_true]
  constructor
  · rintro ⟨r, hr, h1⟩
    obtain ⟨j, hj, e⟩ := List.getElem_of_mem hr
    exact ⟨j, by simp [List.getElem?_eq_getElem hj, e, h1]⟩
  · rintro ⟨j, hj⟩
    cases e : rows[j]? with
    | none => simp [e] at hj
    | some r =>
      simp only [e] at hj
      exact ⟨r, List.mem_of_getElem? e, hj⟩

/-! ### ids returned by AddRow (C05) -/

/-- the ids `AddRow` returns, in call order -/
def Writer.addRowsIds (w : Writer) : List Row → List Nat
  | [] => []
  | r :: rs => w.next :: Writer.addRowsIds (Writer.addRow H w r) rs

theorem addRowsIds_eq (w : Writer) (rows : List Row) :
    Writer.addRowsIds H w rows = (List.range rows.length).map (w.next + ·) := by
  induction rows generalizing w with
  | nil => simp [Writer.addRowsIds]
  | cons r rs ih =>
    simp only [Writer.addRowsIds, ih, List.length_cons, List.range_succ_eq_map, List.map_cons, List.map_map]
    simp [Writer.addRow, Function.comp]
    intro a _; omega

/-! ### schema written by the writer -/

theorem addPair_fold_schema_col (k : Nat) (r : Row) (w : Writer) (c : Bytes) :
    ((r.foldl (Writer.addPair H k) w).schema.col c).isSome
      = ((w.schema.col c).isSome || r.any fun kv => kv.1 == c) := by
  induction r generalizing w with
  | nil => simp
  | cons kv r ih =>
    rw [List.foldl, ih]
    simp only [Writer.addPair, Schema.col_add, List.any_cons]
    by_cases hc : c = kv.1
    · rw [if_pos hc, Option.isSome_some, Bool.true_or, hc, beq_self_eq_true, Bool.true_or, Bool.or_true]
    · rw [if_neg hc, beq_false_of_ne (Ne.symm hc), Bool.false_or]

theorem schema_col_isSome (rows : List Row) (w : Writer) (c : Bytes) :
    ((Writer.addRows H w rows).schema.col c).isSome = ((w.schema.col c).isSome || (columnsOf rows).contains c) := by
  induction rows generalizing w with
  | nil => simp [Writer.addRows, columnsOf]
  | cons r rows ih =>
    simp only [Writer.addRows, List.foldl] at ih ⊢
    rw [ih]
    simp only [Writer.addRow, addPair_fold_schema_col, columnsOf, List.flatMap_cons]
    rw [Bool.or_assoc]
    congr 1
    simp only [List.contains_eq_mem, List.mem_append, List.mem_map, List.mem_flatMap]
    rw [Bool.eq_iff_iff]
    simp only [Bool.or_eq_true, List.any_eq_true, beq_iff_eq, decide_eq_true_eq]

end
end Updog
