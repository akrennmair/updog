/-
The parser inverts the token-level formatter: the tokens of a well-formed tree `t` are a phrase of the
documented grammar (`Updog.Grammar`) denoting `rp t`, the tree with same-operator nesting flattened and
single-operand AND/OR unwrapped exactly as far as the printed text shows.  Since the parser accepts
exactly the grammar (`parseToks_iff`), it returns `rp t`.
-/
import Updog.Proofs.FmtToks
namespace Updog
open Grammar

/-! ### what the parser returns for formatted text -/

/-- an AND/OR node unless there is exactly one operand -/
def mk1 (o : Bool) : List PExpr → PExpr
  | [x] => x
  | xs => mkOp o xs

/-- a leaf as the parser rebuilds it: the value of a placeholder leaf is not printed -/
def rpLeaf (c v : Bytes) (ph : Nat) : PExpr := if ph > 0 then .eq c [] ph else .eq c v 0

mutual
/-- the parse result of `fmtExpr e` -/
def rp : PExpr → PExpr
  | .eq c v ph => rpLeaf c v ph
  | .not e => .not (rp e)
  | .and es => mk1 false (rpCh false es)
  | .or es => mk1 true (rpCh true es)
/-- the operands the parser collects for the chain `fmtCh o es` -/
def rpCh (o : Bool) : List PExpr → List PExpr
  | [] => []
  | e :: es => rpItem o e ++ rpCh o es
/-- the operands contributed by one operand of an `o`-chain: a nested `o`-node prints without
    parentheses and is therefore spliced -/
def rpItem (o : Bool) : PExpr → List PExpr
  | .eq c v ph => [rpLeaf c v ph]
  | .not e => [.not (rp e)]
  | .and es => if o then [mk1 false (rpCh false es)] else rpCh false es
  | .or es => if o then rpCh true es else [mk1 true (rpCh true es)]
end

theorem mk1_of_length_ne_one {o : Bool} {l : List PExpr} (h : l.length ≠ 1) : mk1 o l = mkOp o l := by
  rw [mk1]; rintro x rfl; exact h rfl

/-- to get through `mk1`: the single operand, or the node -/
theorem mk1_rec {o : Bool} {C : List PExpr → PExpr → Prop} (single : ∀ x, C [x] x)
    (op : ∀ l, l.length ≠ 1 → C l (mkOp o l)) (l : List PExpr) : C l (mk1 o l) := by
  by_cases h : l.length = 1
  · obtain ⟨x, rfl⟩ := List.length_eq_one_iff.mp h; exact single x
  · rw [mk1_of_length_ne_one h]; exact op l h

theorem rp_mkOp (o : Bool) (es : List PExpr) : rp (mkOp o es) = mk1 o (rpCh o es) := by
  cases o <;> rw [mkOp, rp]

theorem rpItem_mkOp (o : Bool) (es : List PExpr) : rpItem o (mkOp o es) = rpCh o es := by
  cases o <;> rw [mkOp, rpItem] <;> rfl

theorem rpItem_of_not_op {o : Bool} {e : PExpr} (h : isOp o e = false) : rpItem o e = [rp e] := by
  cases e <;> cases o <;> simp_all [isOp, isAnd, isOr, rpItem, rp]

theorem isOp_not_of_not_op {o : Bool} {e : PExpr} (h : isOp o e = false) :
    isOp (!o) e = (isAnd e || isOr e) := by
  cases e <;> cases o <;> simp_all [isOp, isAnd, isOr]

theorem isOp_mkOp (o : Bool) (es : List PExpr) : isOp o (mkOp o es) = true := by
  cases o <;> rfl
theorem isOp_not_mkOp (o : Bool) (es : List PExpr) : isOp (!o) (mkOp o es) = false := by
  cases o <;> rfl
theorem isAndOr_mkOp (o : Bool) (es : List PExpr) : (isAnd (mkOp o es) || isOr (mkOp o es)) = true := by
  cases o <;> rfl

theorem eq_or_eq_not (o' o : Bool) : o' = o ∨ o' = !o := by
  cases o <;> cases o' <;> simp

/-! ### chains seen from an operand -/

/-- how an `sep`-chain goes on behind an operand: it stops in front of `rest`, or `rest` continues it
    with a separator and a further chain -/
inductive ChainTail (sep : Tok) : List Tok → List PExpr → List Tok → Prop
  | stop {rest : List Tok} (h : rest.head? ≠ some sep) : ChainTail sep rest [] rest
  | more {rest : List Tok} {es : List PExpr} {r : List Tok} (h : Chain sep rest es r) :
      ChainTail sep (sep :: rest) es r

theorem ChainTail.cons {sep : Tok} {ts rest r : List Tok} {e : PExpr} {ys : List PExpr}
    (h : Simple ts e rest) (ht : ChainTail sep rest ys r) : Chain sep ts (e :: ys) r := by
  cases ht with
  | stop hs => exact .last h hs
  | more hc => exact .more h hc

theorem expr_of_chain {o : Bool} {ts : List Tok} {xs : List PExpr} {r : List Tok}
    (h : Chain (sepTok o) ts xs r) (h1 : r.head? ≠ some .and) (h2 : r.head? ≠ some .or) :
    Expr ts (mk1 o xs) r := by
  cases h with
  | last h _ => exact .single h h1 h2
  | more h hc =>
    rw [mk1_of_length_ne_one (by
      obtain ⟨y, ys, rfl⟩ := List.exists_cons_of_ne_nil hc.ne_nil
      simp)]
    cases o
    · exact .and h hc
    · exact .or h hc

/-! ### the four statements proved together by induction on the tree -/

/-- in operand position of `^` (parenthesised iff AND/OR) the tokens are a simple-expr denoting `rp e` -/
def GS (e : PExpr) : Prop := SimplePhrase (ptoks (isAnd e || isOr e) (toksE e)) (rp e)

/-- at expression level, followed by a token that is not `&` / `|`, they are an expr denoting `rp e` -/
def ES (e : PExpr) : Prop :=
  ∀ rest, rest.head? ≠ some .and → rest.head? ≠ some .or → Expr (toksE e ++ rest) (rp e) rest

/-- as operand of an `o`-chain they contribute the operands `rpItem o e` -/
def ITS (o : Bool) (e : PExpr) : Prop :=
  ∀ rest ys r, ChainTail (sepTok o) rest ys r →
    Chain (sepTok o) (ptoks (isOp (!o) e) (toksE e) ++ rest) (rpItem o e ++ ys) r

/-- a whole `o`-chain -/
def CHS (o : Bool) (es : List PExpr) : Prop :=
  ∀ rest ys r, ChainTail (sepTok o) rest ys r →
    Chain (sepTok o) (toksCh o es ++ rest) (rpCh o es ++ ys) r

theorem ES_of_GS {e : PExpr} (hop : (isAnd e || isOr e) = false) (h : GS e) : ES e := by
  intro rest h1 h2
  have := h rest
  rw [hop] at this
  exact .single this h1 h2

theorem ITS_of_GS {o : Bool} {e : PExpr} (hop : isOp o e = false) (h : GS e) : ITS o e := by
  intro rest ys r ht
  rw [isOp_not_of_not_op hop, rpItem_of_not_op hop]
  exact ht.cons (h rest)

theorem GS_of_ES {e : PExpr} (hop : (isAnd e || isOr e) = true) (h : ES e) : GS e := by
  intro rest
  have := h (.rparen :: rest) (by simp) (by simp)
  simp only [hop, ptoks, ↓reduceIte, List.cons_append, List.append_assoc, List.nil_append]
  exact .group this

theorem ES_of_CHS (o : Bool) (es : List PExpr) (h : CHS o es) : ES (mkOp o es) := by
  intro rest h1 h2
  have := h rest [] rest (.stop (by cases o <;> assumption))
  rw [List.append_nil] at this
  rw [toksE_mkOp, rp_mkOp]
  exact expr_of_chain this h1 h2

theorem ITS_of_CHS (o : Bool) (es : List PExpr) (h : CHS o es) : ITS o (mkOp o es) := by
  intro rest ys r ht
  rw [isOp_not_mkOp, toksE_mkOp, rpItem_mkOp]
  exact h rest ys r ht

/-! ### the induction -/

/-- everything we know about the tokens of one well-formed tree -/
def PS (e : PExpr) : Prop := WFE e → GS e ∧ ES e ∧ ∀ o, ITS o e
def QS (es : List PExpr) : Prop := WFL es → es ≠ [] → ∀ o, CHS o es

theorem GS_leaf (c v : Bytes) (ph : Nat) (hph : ph ≤ 2147483647) : GS (.eq c v ph) := by
  intro rest
  show Simple (Tok.field c :: Tok.eq :: leafTok v ph :: rest) (rpLeaf c v ph) rest
  unfold leafTok rpLeaf
  split
  · have hd := decodePlaceholder_natDigits hph
    have := Simple.cmpPlaceholder c (natDigits ph) rest (by omega)
    rwa [hd] at this
  · have := Simple.cmpValue c (escape v) rest
    rwa [unescape_escape] at this

theorem PS_of_GS {e : PExpr} (hop : ∀ o, isOp o e = false) (hg : GS e) : GS e ∧ ES e ∧ ∀ o, ITS o e :=
  ⟨hg, ES_of_GS (by have := hop false; have := hop true; simp_all [isOp]) hg, fun o => ITS_of_GS (hop o) hg⟩

theorem PS_mkOp (o : Bool) (es : List PExpr) (ih : QS es) : PS (mkOp o es) := by
  intro hw
  rw [WFE_mkOp] at hw
  have hc := ih hw.2 hw.1
  have he := ES_of_CHS o es (hc o)
  have hg := GS_of_ES (isAndOr_mkOp o es) he
  refine ⟨hg, he, fun o' => ?_⟩
  rcases eq_or_eq_not o' o with rfl | rfl
  · exact ITS_of_CHS _ es (hc _)
  · exact ITS_of_GS (isOp_not_mkOp o es) hg

theorem QS_cons (e : PExpr) (es : List PExpr) (ihe : PS e) (ihs : QS es) : QS (e :: es) := by
  intro hw _ o rest ys r ht
  have hit := (ihe hw.1).2.2 o
  cases es with
  | nil =>
    rw [toksCh_single, rpCh, rpCh, List.append_nil]
    exact hit rest ys r ht
  | cons e' es' =>
    rw [toksCh_cons2, rpCh, List.append_assoc, List.append_assoc]
    exact hit _ _ _ (.more (ihs hw.2 (List.cons_ne_nil _ _) o rest ys r ht))

theorem parse_inverts_toks : (∀ e, PS e) ∧ (∀ es, QS es) := by
  refine PExpr.induction ?_ ?_ PS_mkOp ?_ QS_cons
  · exact fun c v ph hw => PS_of_GS (fun o => by cases o <;> rfl) (GS_leaf c v ph hw.2)
  · exact fun e ih hw => PS_of_GS (fun o => by cases o <;> rfl) (fun rest => .not ((ih hw).1 rest))
  · exact fun _ h => absurd rfl h

theorem expr_toksE {e : PExpr} (hw : WFE e) {rest : List Tok} (h1 : rest.head? ≠ some .and)
    (h2 : rest.head? ≠ some .or) : Expr (toksE e ++ rest) (rp e) rest :=
  (parse_inverts_toks.1 e hw).2.1 rest h1 h2

/-! ### group-by list and whole queries -/

theorem fieldsRest_toksFields (f : Bytes) (fs : List Bytes) :
    ∃ ts, toksFields (f :: fs) = .field f :: ts ∧ FieldsRest (ts ++ [.eof]) fs [.eof] := by
  induction fs generalizing f with
  | nil => exact ⟨[], rfl, .done (by simp)⟩
  | cons g gs ih =>
    obtain ⟨ts, h1, h2⟩ := ih g
    refine ⟨.comma :: toksFields (g :: gs), by rw [toksFields]; simp, ?_⟩
    rw [h1]
    exact .more h2

theorem fieldList_toksFields (f : Bytes) (fs : List Bytes) :
    FieldList (toksFields (f :: fs) ++ [.eof]) (f :: fs) [.eof] := by
  obtain ⟨ts, h1, h2⟩ := fieldsRest_toksFields f fs
  rw [h1]
  exact .mk h2

/-- the parse result of `fmtQuery q` -/
def rpQ (q : PQuery) : PQuery := ⟨rp q.expr, q.groupBy⟩

theorem sentence_toksQ (q : PQuery) (hw : WFE q.expr) : Sentence (toksQ q ++ [.eof]) (rpQ q) := by
  unfold toksQ rpQ
  cases hg : q.groupBy with
  | nil =>
    rw [List.isEmpty_nil, if_pos rfl, List.append_nil]
    exact .plain (expr_toksE hw (by simp) (by simp))
  | cons g gs =>
    rw [List.isEmpty_cons, if_neg (by simp), List.append_assoc, List.cons_append]
    exact .grouped (expr_toksE hw (by simp) (by simp)) (fieldList_toksFields g gs)

theorem parseToks_toksQ (q : PQuery) (hw : WFE q.expr) : parseToks (toksQ q ++ [.eof]) = some (rpQ q) :=
  parseToks_iff.mpr (sentence_toksQ q hw)

/-- **Master round-trip theorem**: formatted text of a well-formed query parses to `rpQ q` -/
theorem parseQuery_fmtQuery (q : PQuery) (hq : WFQ q) : parseQuery (fmtQuery q) = some (rpQ q) := by
  rw [parseQuery, lexAll_fmtQuery q hq, parseToks_toksQ q hq.expr]

end Updog
