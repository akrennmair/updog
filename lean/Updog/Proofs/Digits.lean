/-
`natDigits n` (decimal text of `n` as bytes) consists of ASCII digits and `digitsVal` inverts it.
-/
import Updog.Model.Formatter
namespace Updog

/-! ### `ByteArray.toList` is the underlying list -/

theorem byteArray_toList_loop (bs : ByteArray) (i : Nat) (r : List UInt8) (hi : i ≤ bs.size) :
    ByteArray.toList.loop bs i r = r.reverse ++ bs.data.toList.drop i := by
  have hsz : bs.data.toList.length = bs.size := by simp [← ByteArray.size_data]
  induction h : bs.size - i generalizing i r with
  | zero =>
    rw [ByteArray.toList.loop]
    have : ¬ i < bs.size := by omega
    simp only [this, if_false]
    have : bs.data.toList.length ≤ i := by omega
    simp [List.drop_eq_nil_of_le this]
  | succ k ih =>
    rw [ByteArray.toList.loop]
    have hlt : i < bs.size := by omega
    simp only [hlt, if_true]
    rw [ih (i + 1) _ (by omega) (by omega)]
    have hlen : i < bs.data.toList.length := by omega
    rw [List.drop_eq_getElem_cons hlen]
    have : bs.get! i = bs.data.toList[i] := by
      show bs.data[i]! = _
      rw [getElem!_pos bs.data i (by simpa using hlen)]
      simp
    simp [this]

theorem byteArray_toList (bs : ByteArray) : bs.toList = bs.data.toList := by
  simp [ByteArray.toList, byteArray_toList_loop]

theorem list_toByteArray_toList (l : List UInt8) : l.toByteArray.toList = l := by
  rw [byteArray_toList]; simp

/-! ### decimal digits -/

/-- the byte of an ASCII character -/
def charByte (c : Char) : UInt8 := c.val.toUInt8

theorem utf8Size_of_isDigit {c : Char} (h : c.isDigit) : c.utf8Size = 1 := by
  simp only [Char.isDigit, Bool.and_eq_true, decide_eq_true_eq] at h
  have h2 : c.val ≤ 57 := h.2
  have : c.val ≤ 127 := Nat.le_trans (UInt32.le_iff_toNat_le.mp h2) (by decide) |> UInt32.le_iff_toNat_le.mpr
  simp [Char.utf8Size, this]

theorem flatMap_utf8EncodeChar_digits (l : List Char) (h : ∀ c ∈ l, c.isDigit) :
    l.flatMap String.utf8EncodeChar = l.map charByte := by
  induction l with
  | nil => rfl
  | cons c l ih =>
    simp only [List.flatMap_cons, List.map_cons]
    rw [ih (fun c hc => h c (List.mem_cons_of_mem _ hc)),
      String.utf8EncodeChar_eq_singleton (utf8Size_of_isDigit (h c List.mem_cons_self))]
    rfl

theorem natDigits_eq (n : Nat) : natDigits n = (Nat.toDigits 10 n).map charByte := by
  unfold natDigits
  rw [Nat.toString_eq_ofList_toDigits, String.toUTF8_eq_toByteArray, String.toByteArray_ofList]
  unfold List.utf8Encode
  rw [list_toByteArray_toList]
  exact flatMap_utf8EncodeChar_digits _ (fun c hc => Nat.isDigit_of_mem_toDigits (by decide) (by decide) hc)

theorem charByte_isDigit {c : Char} (h : c.isDigit) : isDigit (charByte c) = true := by
  simp only [Char.isDigit, Bool.and_eq_true, decide_eq_true_eq] at h
  obtain ⟨h1, h2⟩ := h
  have h1' : 48 ≤ c.val.toNat := UInt32.le_iff_toNat_le.mp h1
  have h2' : c.val.toNat ≤ 57 := UInt32.le_iff_toNat_le.mp h2
  have e : (charByte c).toNat = c.val.toNat := by
    simp only [charByte, UInt32.toNat_toUInt8]; omega
  simp only [isDigit, Bool.and_eq_true, decide_eq_true_eq]
  constructor
  · apply UInt8.le_iff_toNat_le.mpr
    rw [e]; exact h1'
  · apply UInt8.le_iff_toNat_le.mpr
    rw [e]; exact h2'

theorem charByte_toNat {c : Char} (h : c.isDigit) : (charByte c).toNat = c.toNat := by
  simp only [Char.isDigit, Bool.and_eq_true, decide_eq_true_eq] at h
  have h2' : c.val.toNat ≤ 57 := UInt32.le_iff_toNat_le.mp h.2
  show (charByte c).toNat = c.val.toNat
  simp only [charByte, UInt32.toNat_toUInt8]; omega

theorem natDigits_all_digit (n : Nat) : ∀ b ∈ natDigits n, isDigit b = true := by
  rw [natDigits_eq]
  intro b hb
  obtain ⟨c, hc, rfl⟩ := List.mem_map.mp hb
  exact charByte_isDigit (Nat.isDigit_of_mem_toDigits (by decide) (by decide) hc)

theorem natDigits_ne_nil (n : Nat) : natDigits n ≠ [] := by
  rw [natDigits_eq]; simp

theorem foldl_digits (l : List Char) (h : ∀ c ∈ l, c.isDigit) (init : Nat) :
    (l.map charByte).foldl (fun acc d => acc * 10 + (d.toNat - 48)) init = Nat.ofDigitChars 10 l init := by
  induction l generalizing init with
  | nil => simp
  | cons c l ih =>
    rw [List.map_cons, List.foldl_cons, Nat.ofDigitChars_cons,
      ih (fun c hc => h c (List.mem_cons_of_mem _ hc)), charByte_toNat (h c List.mem_cons_self)]
    congr 1
    simp [Nat.mul_comm]

theorem digitsVal_natDigits (n : Nat) : digitsVal (natDigits n) = n := by
  rw [natDigits_eq, digitsVal,
    foldl_digits _ (fun c hc => Nat.isDigit_of_mem_toDigits (by decide) (by decide) hc)]
  exact Nat.ofDigitChars_ten_toDigits

theorem decodePlaceholder_natDigits {n : Nat} (h : n ≤ 2147483647) :
    decodePlaceholder (natDigits n) = n := by
  unfold decodePlaceholder
  have hne : (natDigits n).isEmpty = false := by
    cases hd : natDigits n with
    | nil => exact absurd hd (natDigits_ne_nil n)
    | cons _ _ => rfl
  simp only [hne, digitsVal_natDigits]
  have : ¬ n > 2147483647 := by omega
  simp [this]

end Updog
