/-
`norm` preserves the meaning of an expression: for every argument list bound to the placeholders and
every row, the normalised tree is satisfied iff the original is (`sat` of Spec/Sat.lean through the
server's `toExpr` conversion); it also keeps the highest placeholder number.
-/
import Updog.Proofs.Norm
import Updog.Model.Rows
import Updog.Spec.Sat
namespace Updog

/-- does row `r` satisfy `e` once `args` are bound to its placeholders? -/
def sem (args : List Bytes) (r : Row) (e : PExpr) : Bool := sat r (toExpr (subst args e))

/-- `satAll` (`o = false`) / `satAny` (`o = true`) of a list of operands -/
def semCh (args : List Bytes) (r : Row) : Bool → List PExpr → Bool
  | false, es => satAll r (toExprs (substList args es))
  | true, es => satAny r (toExprs (substList args es))

def comb : Bool → Bool → Bool → Bool
  | false, a, b => a && b
  | true, a, b => a || b

section
variable (args : List Bytes) (r : Row)

theorem sem_mkOp (o : Bool) (es : List PExpr) : sem args r (mkOp o es) = semCh args r o es := by
  cases o <;> simp [sem, semCh, mkOp, subst, toExpr, sat]

theorem semCh_nil (o : Bool) : semCh args r o [] = !o := by
  cases o <;> simp [semCh, substList, toExprs, satAll, satAny]

theorem semCh_cons (o : Bool) (e : PExpr) (es : List PExpr) :
    semCh args r o (e :: es) = comb o (sem args r e) (semCh args r o es) := by
  cases o <;> simp [semCh, substList, toExprs, satAll, satAny, comb, sem]

theorem comb_unit (o a : Bool) : comb o a (!o) = a := by
  cases o <;> cases a <;> rfl

theorem comb_assoc (o a b c : Bool) : comb o (comb o a b) c = comb o a (comb o b c) := by
  cases o <;> cases a <;> cases b <;> cases c <;> rfl

theorem semCh_append (o : Bool) (xs ys : List PExpr) :
    semCh args r o (xs ++ ys) = comb o (semCh args r o xs) (semCh args r o ys) := by
  induction xs with
  | nil => cases o <;> simp [semCh_nil, comb]
  | cons x xs ih => rw [List.cons_append, semCh_cons, semCh_cons, ih, comb_assoc]

theorem semCh_single (o : Bool) (x : PExpr) : semCh args r o [x] = sem args r x := by
  rw [semCh_cons, semCh_nil, comb_unit]

theorem sem_rpLeaf (c v : Bytes) (ph : Nat) : sem args r (rpLeaf c v ph) = sem args r (.eq c v ph) := by
  unfold rpLeaf
  split
  · rename_i h; simp [sem, subst, h]
  · rename_i h; simp [sem, subst, h]

theorem sem_norm : (∀ e, sem args r (norm e) = sem args r e) ∧
    (∀ es, ∀ o, semCh args r o (normCh o es) = semCh args r o es) :=
  norm_preserves (sem args r) (semCh args r) (sem_rpLeaf args r)
    (fun e e' h => by simp only [sem, subst, toExpr, sat] at h ⊢; rw [h])
    (sem_mkOp args r) (semCh_single args r)
    (fun o xs xs' ys ys' h1 h2 => by rw [semCh_append, semCh_append, h1, h2])

end

/-! ### highest placeholder number -/

theorem maxPh_mkOp (o : Bool) (es : List PExpr) : maxPh (mkOp o es) = maxPhList es := by
  cases o <;> rw [mkOp, maxPh]

theorem maxPhList_append (xs ys : List PExpr) : maxPhList (xs ++ ys) = max (maxPhList xs) (maxPhList ys) := by
  induction xs with
  | nil => simp [maxPhList]
  | cons x xs ih => simp [maxPhList, ih, Nat.max_assoc]

theorem maxPh_norm : (∀ e, maxPh (norm e) = maxPh e) ∧ (∀ es, ∀ o, maxPhList (normCh o es) = maxPhList es) :=
  norm_preserves maxPh (fun _ => maxPhList)
    (fun c v ph => by rw [rpLeaf]; split <;> simp only [maxPh]; omega)
    (fun e e' h => by rw [maxPh, maxPh, h])
    maxPh_mkOp (fun _ x => by simp [maxPhList])
    (fun _ xs xs' ys ys' h1 h2 => by rw [maxPhList_append, maxPhList_append, h1, h2])

theorem maxPh_eq_of_norm_eq {e₁ e₂ : PExpr} (h : norm e₁ = norm e₂) : maxPh e₁ = maxPh e₂ := by
  rw [← maxPh_norm.1 e₁, h, maxPh_norm.1 e₂]

end Updog
