/-
The schema invariant of the writer: the value list recorded for a column holds exactly the values the
column was added with, each once, each with the value index `H (encodePair c v)`.
-/
import Updog.Proofs.Writer
namespace Updog

section
variable (H : Bytes → UInt64)

/-- a well-formed value list of column `c`, given the pairs `ps` added so far -/
structure ColOK (c : Bytes) (vs : List (Bytes × UInt64)) (ps : List (Bytes × Bytes)) : Prop where
  nodup : (vs.map (·.1)).Nodup
  mem : ∀ v, v ∈ vs.map (·.1) ↔ (c, v) ∈ ps
  hash : ∀ vh ∈ vs, vh.2 = H (encodePair c vh.1)

def SchemaOK (s : Schema) (ps : List (Bytes × Bytes)) : Prop :=
  ∀ c, match s.col c with
    | none => ∀ v, (c, v) ∉ ps
    | some vs => ColOK H c vs ps

theorem ColOK.of_none {c : Bytes} {ps : List (Bytes × Bytes)} (h : ∀ v, (c, v) ∉ ps) : ColOK H c [] ps :=
  ⟨by simp, by intro v; simp [h v], by simp⟩

theorem ColOK.addVal {c : Bytes} {vs : List (Bytes × UInt64)} {ps : List (Bytes × Bytes)}
    (h : ColOK H c vs ps) (v : Bytes) :
    ColOK H c (addVal vs v (H (encodePair c v))) (ps ++ [(c, v)]) := by
  unfold Updog.addVal
  by_cases hv : v ∈ vs.map (·.1)
  · have hany : (vs.any fun x => x.1 == v) = true := by
      simp only [List.mem_map] at hv
      obtain ⟨x, hx, hxv⟩ := hv
      exact List.any_eq_true.mpr ⟨x, hx, by simp [hxv]⟩
    rw [if_pos hany]
    refine ⟨h.nodup, ?_, h.hash⟩
    intro v'
    rw [h.mem v']
    simp only [List.mem_append, List.mem_singleton, Prod.mk.injEq, true_and]
    constructor
    · exact Or.inl
    · rintro (h1 | h1)
      · exact h1
      · subst h1; exact (h.mem v').mp hv
  · have hany : ¬ (vs.any fun x => x.1 == v) = true := by
      intro ha
      obtain ⟨x, hx, hxv⟩ := List.any_eq_true.mp ha
      exact hv (List.mem_map.mpr ⟨x, hx, by simpa using hxv⟩)
    rw [if_neg hany]
    refine ⟨?_, ?_, ?_⟩
    · rw [List.map_append, List.nodup_append]
      refine ⟨h.nodup, by simp, ?_⟩
      intro a ha b hb
      simp only [List.map_cons, List.map_nil, List.mem_singleton] at hb
      subst hb
      intro e; subst e; exact hv ha
    · intro v'
      simp only [List.map_append, List.mem_append, List.map_cons, List.map_nil, List.mem_singleton,
        Prod.mk.injEq, true_and]
      rw [h.mem v']
    · intro vh hvh
      simp only [List.mem_append, List.mem_singleton] at hvh
      rcases hvh with h1 | h1
      · exact h.hash vh h1
      · subst h1; rfl

theorem SchemaOK.add {s : Schema} {ps : List (Bytes × Bytes)} (hs : SchemaOK H s ps) (k v : Bytes) :
    SchemaOK H (s.add k v (H (encodePair k v))) (ps ++ [(k, v)]) := by
  intro c
  rw [Schema.col_add]
  by_cases hc : c = k
  · subst hc
    rw [if_pos rfl]
    have h0 := hs c
    cases hcol : s.col c with
    | none =>
      rw [hcol] at h0
      exact (ColOK.of_none H h0).addVal H v
    | some vs =>
      rw [hcol] at h0
      exact h0.addVal H v
  · rw [if_neg hc]
    have h0 := hs c
    have hne : ∀ v', (c, v') ≠ (k, v) := by
      intro v' e; exact hc (by simpa using (Prod.mk.inj e).1)
    cases hcol : s.col c with
    | none =>
      rw [hcol] at h0
      intro v' hm
      simp only [List.mem_append, List.mem_singleton] at hm
      rcases hm with h1 | h1
      · exact h0 v' h1
      · exact hne v' h1
    | some vs =>
      rw [hcol] at h0
      refine ⟨h0.nodup, ?_, h0.hash⟩
      intro v'
      rw [h0.mem v']
      simp only [List.mem_append, List.mem_singleton]
      constructor
      · exact Or.inl
      · rintro (h1 | h1)
        · exact h1
        · exact absurd h1 (hne v')

/-- the schema update performed for one pair -/
def addS (s : Schema) (kv : Bytes × Bytes) : Schema := s.add kv.1 kv.2 (H (encodePair kv.1 kv.2))

theorem SchemaOK.fold {s : Schema} {ps : List (Bytes × Bytes)} (hs : SchemaOK H s ps)
    (qs : List (Bytes × Bytes)) : SchemaOK H (qs.foldl (addS H) s) (ps ++ qs) :=
  foldl_snoc_inv qs (fun _ _ q _ h => h.add H q.1 q.2) hs

theorem addPair_fold_schema (k : Nat) (r : Row) (w : Writer) :
    (r.foldl (Writer.addPair H k) w).schema = r.foldl (addS H) w.schema := by
  induction r generalizing w with
  | nil => rfl
  | cons kv r ih => rw [List.foldl, ih]; rfl

theorem addRows_schema (rows : List Row) (w : Writer) :
    (Writer.addRows H w rows).schema = (pairsOf rows).foldl (addS H) w.schema := by
  induction rows generalizing w with
  | nil => rfl
  | cons r rows ih =>
    simp only [Writer.addRows, List.foldl] at ih ⊢
    rw [ih]
    simp only [Writer.addRow, addPair_fold_schema, pairsOf, List.flatMap_cons, id, List.foldl_append]

theorem schemaOK_addRows (rows : List Row) :
    SchemaOK H (Writer.addRows H {} rows).schema (pairsOf rows) := by
  rw [addRows_schema]
  have h0 : SchemaOK H ([] : Schema) [] := by intro c; simp [Schema.col]
  simpa using h0.fold H (pairsOf rows)

theorem schema_col_some (rows : List Row) (c : Bytes) (vs : List (Bytes × UInt64))
    (h : (Writer.addRows H {} rows).schema.col c = some vs) : ColOK H c vs (pairsOf rows) := by
  have := schemaOK_addRows H rows c
  rw [h] at this
  exact this

theorem schema_col_none_iff (rows : List Row) (c : Bytes) :
    (Writer.addRows H {} rows).schema.col c = none ↔ c ∉ columnsOf rows := by
  rw [← Option.not_isSome_iff_eq_none, schema_col_isSome H rows {} c, ← List.contains_iff_mem]
  rfl

theorem schema_col_exists (rows : List Row) (c : Bytes) (hc : c ∈ columnsOf rows) :
    ∃ vs, (Writer.addRows H {} rows).schema.col c = some vs := by
  cases hcol : (Writer.addRows H {} rows).schema.col c with
  | none => exact absurd hc ((schema_col_none_iff H rows c).mp hcol)
  | some vs => exact ⟨vs, rfl⟩

end
end Updog
