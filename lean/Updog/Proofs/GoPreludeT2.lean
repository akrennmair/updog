/-
Lemmas about the primitives of Updog/Basic/GoPreludeT2.lean (container/list, maps, counters).
-/
import Updog.Basic.GoPreludeT2
namespace Updog.Go

/-! ### lists with unique projections -/

theorem eq_of_nodup_map {α β : Type} (f : α → β) {l : List α} (hn : (l.map f).Nodup) {a b : α}
    (ha : a ∈ l) (hb : b ∈ l) (hab : f a = f b) : a = b := by
  induction l with
  | nil => cases ha
  | cons x t ih =>
    rw [List.map_cons, List.nodup_cons] at hn
    rcases List.mem_cons.1 ha with h1 | h1 <;> rcases List.mem_cons.1 hb with h2 | h2
    · rw [h1, h2]
    · exact absurd (by rw [← h1, hab]; exact List.mem_map_of_mem h2) hn.1
    · exact absurd (by rw [← h2, ← hab]; exact List.mem_map_of_mem h1) hn.1
    · exact ih hn.2 h1 h2

theorem find?_congr' {α : Type} {p q : α → Bool} : ∀ {l : List α}, (∀ a ∈ l, p a = q a) → l.find? p = l.find? q
  | [], _ => rfl
  | x :: t, h => by
    have hx := h x List.mem_cons_self
    have ht := find?_congr' (l := t) fun a ha => h a (List.mem_cons_of_mem _ ha)
    simp [List.find?_cons, hx, ht]

theorem find?_of_nodup_mem {α β : Type} [BEq β] [LawfulBEq β] (f : α → β) {l : List α} (hn : (l.map f).Nodup)
    {a : α} (ha : a ∈ l) : l.find? (fun x => f x == f a) = some a := by
  induction l with
  | nil => cases ha
  | cons x t ih =>
    rw [List.map_cons, List.nodup_cons] at hn
    rcases List.mem_cons.1 ha with rfl | ha
    · simp
    · have hne : f x ≠ f a := fun e => hn.1 (e ▸ List.mem_map_of_mem ha)
      have : (f x == f a) = false := by simpa using hne
      rw [List.find?_cons, this]
      exact ih hn.2 ha

/-! ### container/list -/

namespace LList
variable {α : Type}

/-- the identities of the elements are pairwise different -/
def IdsNodup (l : LList α) : Prop := (l.elems.map (·.1)).Nodup

section
variable {l : LList α} (hn : l.IdsNodup) {e : Elem} {v : α} (h : (e, v) ∈ l.elems)
include hn h

theorem find_id : l.elems.find? (·.1 == e) = some (e, v) :=
  find?_of_nodup_mem (fun p : Elem × α => p.1) hn h

theorem moveToFront_of_mem : l.moveToFront e = { l with elems := (e, v) :: l.elems.filter (·.1 != e) } := by
  simp [moveToFront, find_id hn h]

theorem value_of_mem [Inhabited α] : l.value e = v := by
  simp [value, find_id hn h]

end

@[simp] theorem value_head [Inhabited α] (e : Elem) (v : α) (t : List (Elem × α)) (n : Elem) :
    (LList.mk ((e, v) :: t) n).value e = v := by
  simp [value]

theorem setValue_head (e : Elem) (v w : α) (t : List (Elem × α)) (n : Elem) (ht : ∀ p ∈ t, p.1 ≠ e) :
    (LList.mk ((e, v) :: t) n).setValue e w = LList.mk ((e, w) :: t) n := by
  simp only [setValue, List.map_cons, beq_self_eq_true, if_true]
  congr 2
  rw [List.map_congr_left (g := id)]
  · simp
  · intro p hp
    have : (p.1 == e) = false := by simpa using ht p hp
    simp [this]

theorem filter_ne_not_mem (l : List (Elem × α)) (e : Elem) : ∀ p ∈ l.filter (·.1 != e), p.1 ≠ e := by
  intro p hp
  have := (List.mem_filter.1 hp).2
  simpa using this

theorem len_eq (l : LList α) : l.len = (l.elems.length : Int) := rfl

theorem len_pos_iff (l : LList α) : decide (l.len > (0 : Int)) = true ↔ l.elems ≠ [] := by
  obtain ⟨xs, n⟩ := l
  cases xs with
  | nil => simp [len]
  | cons a t => simp [len]

theorem back_of_ne_nil (l : LList α) (h : l.elems ≠ []) : l.back = (l.elems.getLast h).1 := by
  simp [back, List.getLast?_eq_some_getLast h]

theorem filter_last_aux (init : List (Elem × α)) (last : Elem × α) (hn : ((init ++ [last]).map (·.1)).Nodup) :
    (init ++ [last]).filter (·.1 != last.1) = init := by
  rw [List.map_append, List.nodup_append] at hn
  obtain ⟨_, _, hdis⟩ := hn
  rw [List.filter_append]
  have h1 : init.filter (·.1 != last.1) = init := by
    rw [List.filter_eq_self]
    intro p hp
    have := hdis p.1 (List.mem_map_of_mem hp) last.1 (by simp)
    simpa using this
  rw [h1]
  simp

theorem remove_back [Inhabited α] {l : LList α} (hn : l.IdsNodup) (h : l.elems ≠ []) :
    l.remove l.back = ({ l with elems := l.elems.dropLast }, (l.elems.getLast h).2) := by
  have hsplit := List.dropLast_concat_getLast h
  have hmem : l.elems.getLast h ∈ l.elems := List.getLast_mem h
  rw [back_of_ne_nil l h]
  have hv : l.value (l.elems.getLast h).1 = (l.elems.getLast h).2 :=
    value_of_mem hn (e := (l.elems.getLast h).1) (v := (l.elems.getLast h).2) hmem
  have hf := filter_last_aux l.elems.dropLast (l.elems.getLast h) (by rw [hsplit]; exact hn)
  rw [hsplit] at hf
  simp only [remove, hv, hf]

theorem dropLast_idsNodup {l : LList α} (hn : l.IdsNodup) : ({ l with elems := l.elems.dropLast } : LList α).IdsNodup :=
  List.Nodup.sublist ((List.dropLast_sublist l.elems).map _) hn

end LList

/-! ### maps -/

namespace GoMap
variable {K V : Type} [BEq K] [LawfulBEq K] [Inhabited V]

@[simp] theorem lookup_empty (k : K) : (empty : GoMap K V).lookup k = (default, false) := rfl

omit [Inhabited V] in
theorem find_filter_ne (kvs : List (K × V)) {k k' : K} (h : ¬ k' = k) :
    (kvs.filter (·.1 != k)).find? (·.1 == k') = kvs.find? (·.1 == k') := by
  rw [List.find?_filter]
  apply find?_congr'
  intro p _
  by_cases hp : p.1 = k'
  · have : p.1 ≠ k := fun e => h (hp ▸ e)
    simp [hp, h]
  · have : (p.1 == k') = false := by simpa using hp
    simp [this]

theorem lookup_insert_self (m : GoMap K V) (k : K) (v : V) : (m.insert k v).lookup k = (v, true) := by
  simp [lookup, insert]

theorem lookup_insert_of_ne (m : GoMap K V) (v : V) {k k' : K} (h : ¬ k' = k) :
    (m.insert k v).lookup k' = m.lookup k' := by
  have h' : (k == k') = false := beq_eq_false_iff_ne.2 fun e => h e.symm
  simp only [lookup, insert, List.find?_cons, h', find_filter_ne m.kvs h]

theorem lookup_delete_self (m : GoMap K V) (k : K) : (m.delete k).lookup k = (default, false) := by
  have : (m.kvs.filter (·.1 != k)).find? (·.1 == k) = none := by
    rw [List.find?_eq_none]
    intro p hp
    have := (List.mem_filter.1 hp).2
    simpa using this
  simp only [lookup, delete, this]

theorem lookup_delete_of_ne (m : GoMap K V) {k k' : K} (h : ¬ k' = k) :
    (m.delete k).lookup k' = m.lookup k' := by
  simp only [lookup, delete, find_filter_ne m.kvs h]

end GoMap

/-! ### counters -/

@[simp] theorem Counter.inc_none : Counter.inc none = none := rfl
@[simp] theorem Counter.inc_some (n : Nat) : Counter.inc (some n) = some (n + 1) := rfl
theorem Counter.isSome_inc (c : Counter) : (Counter.inc c).isSome = c.isSome := by cases c <;> rfl

/-- `if c != nil { c.Inc() }` is `inc` (which does nothing on nil) -/
theorem Counter.guarded_inc (c : Counter) : (if (!Counter.isNil c) = true then Counter.inc c else c) = Counter.inc c := by
  cases c <;> simp [Counter.isNil]

end Updog.Go
