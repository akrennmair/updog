/-
Byte strings as ordered strings and as numbers: `bytesLt` / `bytesLe` are core's lexicographic `<` / `≤` on
`List UInt8`, so their order laws are those of a linear order; the big-endian coders `be32` / `be64` against
`beDecode`; for equally long strings bytewise order is numeric order.
-/
import Updog.Basic.Bytes
namespace Updog

/-- comparing two-digit numbers in base `P` -/
theorem lex_lt_iff {P dx dy : Nat} (x y : Nat) (hx : dx < P) (hy : dy < P) :
    x * P + dx < y * P + dy ↔ x < y ∨ x = y ∧ dx < dy := by
  rcases Nat.lt_trichotomy x y with h | h | h
  · have := Nat.mul_le_mul_right P (Nat.succ_le_of_lt h)
    rw [Nat.succ_mul] at this; omega
  · subst h; omega
  · have := Nat.mul_le_mul_right P (Nat.succ_le_of_lt h)
    rw [Nat.succ_mul] at this; omega

theorem bytesLt_iff {a b : Bytes} : bytesLt a b = true ↔ a < b := by
  induction a generalizing b with
  | nil => cases b <;> simp [bytesLt]
  | cons x xs ih =>
    cases b with
    | nil => simp [bytesLt]
    | cons y ys =>
      rw [bytesLt, List.cons_lt_cons_iff]
      by_cases hxy : x < y
      · simp [hxy]
      · by_cases hyx : y < x
        · have hne : x ≠ y := fun e => hxy (e ▸ hyx)
          simp [hxy, hyx, hne]
        · have e : x = y := UInt8.le_antisymm (UInt8.not_lt.mp hyx) (UInt8.not_lt.mp hxy)
          simp [e, ih]

theorem bytesLe_iff_le {a b : Bytes} : bytesLe a b = true ↔ a ≤ b := by
  rw [bytesLe, Bool.not_eq_true', ← Bool.not_eq_true, bytesLt_iff]
  exact List.not_lt

theorem bytesLt_irrefl (a : Bytes) : bytesLt a a = false :=
  Bool.eq_false_iff.mpr fun h => List.lt_irrefl a (bytesLt_iff.mp h)

theorem bytesLt_trans {a b c : Bytes} (h1 : bytesLt a b = true) (h2 : bytesLt b c = true) :
    bytesLt a c = true :=
  bytesLt_iff.mpr (List.lt_trans (bytesLt_iff.mp h1) (bytesLt_iff.mp h2))

theorem bytesLt_asymm {a b : Bytes} (h : bytesLt a b = true) : bytesLt b a = false :=
  Bool.eq_false_iff.mpr fun h' => List.lt_asymm (bytesLt_iff.mp h) (bytesLt_iff.mp h')

theorem bytesLt_ne {a b : Bytes} (h : bytesLt a b = true) : a ≠ b := by
  intro e; subst e; rw [bytesLt_irrefl] at h; exact Bool.noConfusion h

theorem bytesLe_refl (a : Bytes) : bytesLe a a = true := bytesLe_iff_le.mpr (Std.le_refl a)

theorem bytesLe_total (a b : Bytes) : (bytesLe a b || bytesLe b a) = true := by
  rw [Bool.or_eq_true, bytesLe_iff_le, bytesLe_iff_le]; exact Std.le_total

theorem bytesLe_trans {a b c : Bytes} (h1 : bytesLe a b = true) (h2 : bytesLe b c = true) :
    bytesLe a c = true :=
  bytesLe_iff_le.mpr (Std.le_trans (bytesLe_iff_le.mp h1) (bytesLe_iff_le.mp h2))

theorem bytesLe_antisymm {a b : Bytes} (h1 : bytesLe a b = true) (h2 : bytesLe b a = true) : a = b :=
  Std.le_antisymm (bytesLe_iff_le.mp h1) (bytesLe_iff_le.mp h2)

theorem bytesLt_of_le_of_ne {a b : Bytes} (h : bytesLe a b = true) (hne : a ≠ b) : bytesLt a b = true :=
  bytesLt_iff.mpr (Std.lt_of_le_of_ne (bytesLe_iff_le.mp h) hne)

theorem bytesLt_total {a b : Bytes} (h : a ≠ b) : bytesLt a b = true ∨ bytesLt b a = true :=
  (Std.le_total (a := a) (b := b)).imp (fun h' => bytesLt_iff.mpr (Std.lt_of_le_of_ne h' h))
    (fun h' => bytesLt_iff.mpr (Std.lt_of_le_of_ne h' h.symm))

theorem bytesLt_cons (x y : UInt8) (xs ys : Bytes) :
    bytesLt (x :: xs) (y :: ys) = (decide (x.toNat < y.toNat) || (decide (x.toNat = y.toNat) && bytesLt xs ys)) := by
  simp only [bytesLt, UInt8.lt_iff_toNat_lt]
  by_cases h1 : x.toNat < y.toNat
  · simp [h1]
  · by_cases h2 : y.toNat < x.toNat
    · have : ¬ x.toNat = y.toNat := by omega
      simp [h1, h2, this]
    · have : x.toNat = y.toNat := by omega
      simp [this]

theorem bytesLt_cotrans (c a b : Bytes) (h : bytesLt c a = true) : bytesLt b a = true ∨ bytesLt c b = true := by
  cases hb : bytesLt b a
  · exact .inr (bytesLt_iff.mpr (Std.lt_of_lt_of_le (bytesLt_iff.mp h) (bytesLe_iff_le.mp (by rw [bytesLe, hb]; rfl))))
  · exact .inl rfl

theorem beDecode_foldl (xs : Bytes) (acc : Nat) :
    xs.foldl (fun acc x => acc * 256 + x.toNat) acc = acc * 256 ^ xs.length + beDecode xs := by
  induction xs generalizing acc with
  | nil => simp [beDecode]
  | cons x xs ih =>
    simp only [List.foldl_cons, beDecode, List.length_cons]
    rw [ih, ih (0 * 256 + x.toNat)]
    simp only [Nat.zero_mul, Nat.zero_add, Nat.pow_succ, Nat.add_mul]
    rw [Nat.mul_assoc, Nat.mul_comm 256, Nat.add_assoc]

theorem beDecode_nil : beDecode [] = 0 := rfl

theorem beDecode_cons (x : UInt8) (xs : Bytes) :
    beDecode (x :: xs) = x.toNat * 256 ^ xs.length + beDecode xs := by
  simp only [beDecode, List.foldl_cons]
  rw [beDecode_foldl]; simp [beDecode]

theorem beDecode_append (xs ys : Bytes) :
    beDecode (xs ++ ys) = beDecode xs * 256 ^ ys.length + beDecode ys := by
  simp only [beDecode, List.foldl_append]
  rw [beDecode_foldl]; simp [beDecode]

theorem beDecode_lt (xs : Bytes) : beDecode xs < 256 ^ xs.length := by
  induction xs with
  | nil => simp [beDecode]
  | cons x xs ih =>
    rw [beDecode_cons, List.length_cons, Nat.pow_succ]
    have hx : x.toNat < 256 := x.toNat_lt
    have : x.toNat * 256 ^ xs.length + 256 ^ xs.length ≤ 256 * 256 ^ xs.length := by
      rw [← Nat.succ_mul]; exact Nat.mul_le_mul_right _ hx
    rw [Nat.mul_comm (256 ^ xs.length)]
    omega

theorem bytesLt_eq_decode_lt (xs ys : Bytes) (hl : xs.length = ys.length) :
    bytesLt xs ys = decide (beDecode xs < beDecode ys) := by
  induction xs generalizing ys with
  | nil =>
    cases ys with
    | nil => rfl
    | cons y ys => cases hl
  | cons x xs ih =>
    cases ys with
    | nil => cases hl
    | cons y ys =>
      have hl' : xs.length = ys.length := Nat.succ.inj hl
      rw [bytesLt_cons, ih ys hl', beDecode_cons, beDecode_cons, hl', Bool.eq_iff_iff]
      simp only [Bool.or_eq_true, Bool.and_eq_true, decide_eq_true_eq]
      exact (lex_lt_iff _ _ (hl' ▸ beDecode_lt xs) (beDecode_lt ys)).symm

theorem be32_length (n : Nat) : (be32 n).length = 4 := rfl
theorem be64_length (n : Nat) : (be64 n).length = 8 := rfl

/-- the four bytes are the base-256 digits of `n % 256^4` (`Nat.mod_pow_succ`), and `beDecode` is their Horner sum -/
theorem be32_decode (n : Nat) : beDecode (be32 n) = n % 4294967296 := by
  rw [show (4294967296 : Nat) = 256 ^ 4 from rfl, Nat.mod_pow_succ, Nat.mod_pow_succ, Nat.mod_pow_succ]
  simp only [Nat.reducePow, be32, beDecode, List.foldl_cons, List.foldl_nil,
    Nat.toUInt8_eq, UInt8.toNat_ofNat', Nat.mod_mod]
  generalize n / 16777216 % 256 = a, n / 65536 % 256 = b, n / 256 % 256 = c, n % 256 = d
  omega

theorem be32_roundtrip (n : Nat) (h : n < 2 ^ 32) : beDecode (be32 n) = n := by
  rw [be32_decode]; exact Nat.mod_eq_of_lt h

theorem be64_decode (n : Nat) : beDecode (be64 n) = n % 18446744073709551616 := by
  rw [be64, beDecode_append, be32_decode, be32_decode, be32_length, Nat.mod_mod, Nat.mod_mod,
    show (18446744073709551616 : Nat) = 4294967296 * 4294967296 from rfl, Nat.mod_mul, Nat.mul_comm, Nat.add_comm]

theorem be64_roundtrip (n : Nat) (h : n < 2 ^ 64) : beDecode (be64 n) = n := by
  rw [be64_decode]; exact Nat.mod_eq_of_lt h

end Updog
