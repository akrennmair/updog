/-
Helper lemmas for Props/C05Reopen.lean: the generated `AddRow` iterated over a list of rows, what the reader's
abstraction makes of the file the generated writer leaves, and "opening does not change the file".
-/
import Updog.Proofs.GenFlushData
import Updog.Proofs.Counter32
import Updog.Props.Gen.Open
import Updog.Props.Gen.Writer
namespace Updog.GeneratedEq
open Updog.Go.T3

/-! ### the generated `AddRow`, row after row -/

section
variable (H : Bytes → UInt64)

/-- call the generated `AddRow` for every row in turn -/
def genAddRows : Heap × IndexWriter → List Row → Heap × IndexWriter
  | st, [] => st
  | st, r :: rs => genAddRows ((Gen.indexWriterAddRow H st.1 st.2 r).1, (Gen.indexWriterAddRow H st.1 st.2 r).2.1) rs

/-- the ids (and errors) the successive calls return -/
def genAddRowsIds : Heap × IndexWriter → List Row → List (UInt32 × Error)
  | _, [] => []
  | st, r :: rs =>
    (Gen.indexWriterAddRow H st.1 st.2 r).2.2 ::
      genAddRowsIds ((Gen.indexWriterAddRow H st.1 st.2 r).1, (Gen.indexWriterAddRow H st.1 st.2 r).2.1) rs

theorem genAddRows_spec (rows : List Row) (hp : Heap) (idx : IndexWriter) (wf : WriterWF H hp idx)
    (hroom : idx.nextRowID.toNat + rows.length < 2 ^ 32) :
    absWriter (genAddRows H (hp, idx) rows).1 (genAddRows H (hp, idx) rows).2 = Writer.addRows H (absWriter hp idx) rows ∧
    WriterWF H (genAddRows H (hp, idx) rows).1 (genAddRows H (hp, idx) rows).2 ∧
    (genAddRowsIds H (hp, idx) rows).map (fun p => (p.1.toNat, p.2)) =
      (Writer.addRowsIds H (absWriter hp idx) rows).map (fun i => (i, nilError)) := by
  induction rows generalizing hp idx with
  | nil => exact ⟨rfl, wf, rfl⟩
  | cons r rs ih =>
    simp only [List.length_cons] at hroom
    have h1 : idx.nextRowID.toNat + 1 < 2 ^ 32 := by omega
    obtain ⟨e1, e2, e3, e4, _, _⟩ := indexWriterAddRow_eq H hp idx r wf h1
    have hnext : (Gen.indexWriterAddRow H hp idx r).2.1.nextRowID.toNat = idx.nextRowID.toNat + 1 := by
      have := congrArg Writer.next e1
      simpa [absWriter, Writer.addRow] using this
    obtain ⟨i1, i2, i3⟩ := ih _ _ e4 (by rw [hnext]; omega)
    refine ⟨?_, i2, ?_⟩
    · show absWriter (genAddRows H _ rs).1 (genAddRows H _ rs).2 = _
      rw [i1, e1]; rfl
    · simp only [genAddRowsIds, Writer.addRowsIds, List.map_cons]
      rw [i3, e1]
      congr 1

end

/-! ### the reader's view of a complete file -/

/-- on a complete file written into an empty bucket, with coders that round-trip, the model `Index` the reader's
    getters induce (`Image.toIndex` of `imageOfData`) looks bitmaps up exactly like the writer's value map -/
theorem fileData_toIndex (X : Ext) (hroar : ∀ b, X.roaringFromBuffer (X.roaringToBytes b) = some b)
    (vs : ValMap) (hn : KeysNodup vs) (s : SchemaVal) (n : UInt32) (sch : Schema) (nx : Nat) :
    (imageOfData X (fileData X [] vs s n)).toIndex sch nx = { schema := sch, next := nx, getCol := vs.get } := by
  obtain ⟨_, wk, _, _, hv⟩ := fileData_spec X vs hn s n
  simp only [Image.toIndex, Index.mk.injEq, true_and]
  funext h
  rw [get_imageOfData X _ wk h, hv h]
  cases vs.get h with
  | none => rfl
  | some b => simp [hroar b]

/-! ### opening reads, it does not write -/

theorem open_committed (X : Ext) (i n : Nat) (c : Buckets) (cs : List (List PutRec)) (hp : Heap) :
    (Gen.openIndexFromBoltDatabase X (idle i n c cs) hp (some i) []).1.committed = c ∧
    (Gen.openIndexFromBoltDatabase X (idle i n c cs) hp (some i) []).1.commits = cs := by
  have hv := open_view X i n c cs hp []
  simp only at hv
  unfold idle
  by_cases hok : headerOK X c = true
  · rw [if_pos hok] at hv
    obtain ⟨d, sb, s, cb, _, _, _, _, _, hr⟩ := hv
    rw [hr]
    simp [openTail, forRange]
  · rw [if_neg hok] at hv
    obtain ⟨_, _, _, e4⟩ := hv
    rw [e4]
    exact ⟨rfl, rfl⟩

/-- what a caller can observe of the returned `*Index` besides the handle: decoded schema and row counter -/
def header (ix : Go.T3.Index) : Option SchemaVal × UInt32 := (ix.schema, ix.nextRowID)

/-- the outcome of opening depends on the file content only — not on the handle, the transaction counter, the commit
    history or the heap -/
theorem open_depends_on_file_only (X : Ext) (c : Buckets) (i n : Nat) (cs : List (List PutRec)) (hp : Heap)
    (i' n' : Nat) (cs' : List (List PutRec)) (hp' : Heap) :
    isErr (Gen.openIndexFromBoltDatabase X (idle i n c cs) hp (some i) []).2.2.2
      = isErr (Gen.openIndexFromBoltDatabase X (idle i' n' c cs') hp' (some i') []).2.2.2 ∧
    (Gen.openIndexFromBoltDatabase X (idle i n c cs) hp (some i) []).2.2.1.map header
      = (Gen.openIndexFromBoltDatabase X (idle i' n' c cs') hp' (some i') []).2.2.1.map header := by
  have hv := open_view X i n c cs hp []
  have hv' := open_view X i' n' c cs' hp' []
  simp only at hv hv'
  unfold idle
  by_cases hok : headerOK X c = true
  · rw [if_pos hok] at hv hv'
    obtain ⟨d, sb, s, cb, g1, g2, g3, g4, _, hr⟩ := hv
    obtain ⟨d', sb', s', cb', f1, f2, f3, f4, _, hr'⟩ := hv'
    rw [g1] at f1; injection f1 with f1; subst f1
    rw [g2] at f2; injection f2 with f2; subst f2
    rw [g3] at f3; injection f3 with f3; subst f3
    rw [g4] at f4; injection f4 with f4; subst f4
    rw [hr, hr']
    simp [openTail, forRange, header, Gen.newOnDemandColGetter, ColGetter.isNil, nilError]
  · rw [if_neg hok] at hv hv'
    obtain ⟨e1, e2, _, _⟩ := hv
    obtain ⟨e1', e2', _, _⟩ := hv'
    rw [e2, e2']
    exact ⟨by simp only [isErr]; rw [e1, e1'], rfl⟩

end Updog.GeneratedEq
