/-
Helper lemmas for the history-level recency theorem of C07 (Props/C07Recency.lean):
the last-use order of a history, defined without the cache, and `Tracks`, the invariant of `Lru.run` that ties the
cache to the history that led to it.
-/
import Updog.Proofs.Lru
namespace Updog

def LruOp.key : LruOp → Nat
  | .get k => k
  | .put k _ _ => k

/-- keep the FIRST occurrence of every element -/
def firstOcc : List Nat → List Nat
  | [] => []
  | a :: t => a :: (firstOcc t).filter (· != a)

/-- **last-use order** of a history, defined without any cache: the keys the history mentions, each once, the key of
    the latest operation first (read the history backwards and keep the first occurrence of every key) -/
def recency (ops : List LruOp) : List Nat := firstOcc (ops.map LruOp.key).reverse

/-- position (from the start of the history) of the last operation on key `k`, +1; 0 if `k` is never used -/
def lastUse (ops : List LruOp) (k : Nat) : Nat :=
  match ops with
  | [] => 0
  | op :: rest => if lastUse rest k ≠ 0 then lastUse rest k + 1 else if op.key = k then 1 else 0

/-- the last operation on key `k` in the history is a `Put` -/
def lastIsPut : List LruOp → Nat → Bool
  | [], _ => false
  | op :: rest, k => if lastUse rest k ≠ 0 then lastIsPut rest k else (op.key == k && op.isPut)

def Lru.isResident (c : Lru) (k : Nat) : Bool := c.items.any (·.key == k)

theorem snoc_induction {α : Type} {P : List α → Prop} (nil : P []) (snoc : ∀ l a, P l → P (l ++ [a])) :
    ∀ l, P l := by
  intro l
  have h : P l.reverse.reverse := by
    induction l.reverse with
    | nil => exact nil
    | cons a t ih => simpa using snoc _ a ih
  simpa using h

theorem mem_firstOcc (l : List Nat) (x : Nat) : x ∈ firstOcc l ↔ x ∈ l := by
  induction l with
  | nil => simp [firstOcc]
  | cons a t ih =>
    simp only [firstOcc, List.mem_cons, List.mem_filter, ih, bne_iff_ne, ne_eq]
    by_cases e : x = a <;> simp [e]

theorem nodup_firstOcc (l : List Nat) : (firstOcc l).Nodup := by
  induction l with
  | nil => simp [firstOcc]
  | cons a t ih =>
    simp only [firstOcc, List.nodup_cons, List.mem_filter, bne_self_eq_false, Bool.false_eq_true, and_false,
      not_false_eq_true, true_and]
    exact ih.sublist List.filter_sublist

theorem recency_nil : recency [] = [] := rfl

/-- the defining recursion, read forwards: the latest operation's key moves to the front -/
theorem recency_snoc (ops : List LruOp) (op : LruOp) :
    recency (ops ++ [op]) = op.key :: (recency ops).filter (· != op.key) := by
  simp [recency, firstOcc]

theorem recency_nodup (ops : List LruOp) : (recency ops).Nodup := nodup_firstOcc _

theorem mem_recency (ops : List LruOp) (k : Nat) : k ∈ recency ops ↔ ∃ op ∈ ops, op.key = k := by
  simp [recency, mem_firstOcc]

theorem lastUse_snoc (ops : List LruOp) (op : LruOp) (k : Nat) :
    lastUse (ops ++ [op]) k = if op.key = k then ops.length + 1 else lastUse ops k := by
  induction ops with
  | nil => simp [lastUse]
  | cons a t ih =>
    simp only [List.cons_append, lastUse, ih, List.length_cons]
    by_cases e : op.key = k
    · simp only [e, if_true]
      rw [if_pos (by omega)]
    · simp only [e, if_false]

theorem lastIsPut_snoc (ops : List LruOp) (op : LruOp) (k : Nat) :
    lastIsPut (ops ++ [op]) k = if op.key = k then op.isPut else lastIsPut ops k := by
  induction ops with
  | nil => by_cases e : op.key = k <;> simp [lastIsPut, lastUse, e]
  | cons a t ih =>
    simp only [List.cons_append, lastIsPut, ih, lastUse_snoc]
    by_cases e : op.key = k
    · simp only [e, if_true]
      rw [if_pos (by omega)]
    · simp only [e, if_false]

theorem lastUse_le (ops : List LruOp) (k : Nat) : lastUse ops k ≤ ops.length := by
  induction ops using snoc_induction with
  | nil => exact Nat.le_refl 0
  | snoc ops op ih =>
    rw [lastUse_snoc, List.length_append]
    split
    · exact Nat.le_refl _
    · exact Nat.le_succ_of_le ih

theorem lastUse_pos_iff (ops : List LruOp) (k : Nat) : 0 < lastUse ops k ↔ k ∈ recency ops := by
  induction ops using snoc_induction with
  | nil => exact ⟨fun h => absurd h (Nat.lt_irrefl 0), fun h => nomatch h⟩
  | snoc ops op ih =>
    rw [lastUse_snoc, recency_snoc, List.mem_cons, List.mem_filter, ← ih]
    by_cases e : op.key = k
    · simp [e]
    · simp [e, Ne.symm e]

/-- `recency` really is the order of last use: it is sorted by strictly decreasing position of the last use -/
theorem recency_sorted (ops : List LruOp) :
    (recency ops).Pairwise fun a b => lastUse ops b < lastUse ops a := by
  induction ops using snoc_induction with
  | nil => simp [recency_nil]
  | snoc ops op ih =>
    rw [recency_snoc, List.pairwise_cons]
    constructor
    · intro b hb
      have hne : ¬ op.key = b := fun e => bne_iff_ne.1 (List.mem_filter.1 hb).2 e.symm
      rw [lastUse_snoc, lastUse_snoc, if_neg hne, if_pos rfl]
      exact Nat.lt_succ_of_le (lastUse_le ops b)
    · refine (ih.sublist List.filter_sublist).imp_of_mem ?_
      intro a b ha hb hab
      have ha' : ¬ op.key = a := fun e => bne_iff_ne.1 (List.mem_filter.1 ha).2 e.symm
      have hb' : ¬ op.key = b := fun e => bne_iff_ne.1 (List.mem_filter.1 hb).2 e.symm
      rw [lastUse_snoc, lastUse_snoc, if_neg ha', if_neg hb']
      exact hab

theorem sublist_eq_filter {l r : List Nat} (h : l.Sublist r) (hn : r.Nodup) (p : Nat → Bool)
    (hp : ∀ x, p x = true ↔ x ∈ l) : l = r.filter p := by
  induction h generalizing p with
  | slnil => rfl
  | @cons l r a h ih =>
    rw [List.nodup_cons] at hn
    have ha : ¬ p a = true := fun m => hn.1 (h.subset ((hp a).1 m))
    rw [List.filter_cons, if_neg ha]
    exact ih hn.2 p hp
  | @cons_cons l r a h ih =>
    rw [List.nodup_cons] at hn
    rw [List.filter_cons, if_pos ((hp a).2 List.mem_cons_self)]
    congr 1
    -- on `r`, which does not contain `a`, `p` decides membership in `l`
    have : r.filter p = r.filter fun x => decide (x ∈ l) := by
      apply List.filter_congr
      intro x hx
      have hxa : x ≠ a := fun e => hn.1 (e ▸ hx)
      rw [Bool.eq_iff_iff, hp x, List.mem_cons, decide_eq_true_iff]
      exact ⟨fun h => h.resolve_left hxa, Or.inr⟩
    rw [this]
    exact ih hn.2 _ fun x => decide_eq_true_iff

/-- in a list sorted by decreasing `f`, a prefix contains everything ranked above one of its members -/
theorem prefix_closed {l' l : List Nat} (f : Nat → Nat) (hp : l' <+: l)
    (hs : l.Pairwise fun a b => f b < f a) (a b : Nat) (hb : b ∈ l') (ha : a ∈ l) (hab : f b < f a) : a ∈ l' := by
  obtain ⟨s, rfl⟩ := hp
  rcases List.mem_append.1 ha with h | h
  · exact h
  · have := (List.pairwise_append.1 hs).2.2 b hb a h
    omega

theorem prefix_head {α : Type} {l' t : List α} {a : α} (hp : l' <+: a :: t) (hne : l' ≠ []) : a ∈ l' := by
  cases l' with
  | nil => exact absurd rfl hne
  | cons x xs => rw [(List.cons_prefix_cons.1 hp).1]; exact List.mem_cons_self

theorem isResident_iff (c : Lru) (k : Nat) : c.isResident k = true ↔ k ∈ c.items.map (·.key) := by
  simp only [Lru.isResident, List.any_eq_true, List.mem_map, beq_iff_eq]

theorem map_key_filter (items : List Item) (k : Nat) :
    (items.filter (·.key != k)).map (·.key) = (items.map (·.key)).filter (· != k) :=
  (List.filter_map (f := fun x : Item => x.key) (p := (· != k))).symm

theorem mem_putList_keys (c : Lru) (q bm size k : Nat) :
    k ∈ (putList c q bm size).map (·.key) ↔ q = k ∨ k ∈ c.items.map (·.key) ∧ k ≠ q := by
  rw [putList, List.map_cons, List.mem_cons, map_key_filter, List.mem_filter, bne_iff_ne, eq_comm]

theorem mem_get_keys (c : Lru) (q k : Nat) : k ∈ (c.get q).1.items.map (·.key) ↔ k ∈ c.items.map (·.key) := by
  cases hfind : c.items.find? (·.key == q) with
  | none => rw [get_miss c q hfind]
  | some it =>
    obtain ⟨hk, hm⟩ := find_key hfind
    rw [get_hit c q it hfind]
    show k ∈ (it :: c.items.filter (·.key != q)).map (·.key) ↔ _
    rw [List.map_cons, List.mem_cons, map_key_filter, List.mem_filter, bne_iff_ne, hk]
    constructor
    · rintro (rfl | h)
      · exact hk ▸ List.mem_map_of_mem hm
      · exact h.1
    · intro h
      by_cases e : k = q
      · exact Or.inl e
      · exact Or.inr ⟨h, e⟩

section
variable (c : Lru) (hist : List LruOp) (hsub : (c.items.map (·.key)).Sublist (recency hist))
include hsub

theorem putList_recency (k bm size : Nat) :
    ((putList c k bm size).map (·.key)).Sublist (recency (hist ++ [.put k bm size])) := by
  rw [recency_snoc]
  simp only [putList, List.map_cons, LruOp.key, map_key_filter]
  exact (hsub.filter _).cons_cons _

theorem putList_sorted (k bm size : Nat) :
    ((putList c k bm size).map (·.key)).Pairwise fun a b =>
      lastUse (hist ++ [.put k bm size]) b < lastUse (hist ++ [.put k bm size]) a :=
  (recency_sorted _).sublist (putList_recency c hist hsub k bm size)

theorem step_recency (op : LruOp) :
    ((c.step op).1.items.map (·.key)).Sublist (recency (hist ++ [op])) := by
  cases op with
  | put k bm size => exact ((put_prefix c k bm size).sublist.map _).trans (putList_recency c hist hsub k bm size)
  | get k =>
    rw [recency_snoc]
    have hf : ((c.items.filter (·.key != k)).map (·.key)).Sublist ((recency hist).filter (· != k)) := by
      rw [map_key_filter]; exact hsub.filter _
    cases hfind : c.items.find? (·.key == k) with
    | none =>
      rw [filter_of_find_none hfind] at hf
      simp only [Lru.step, get_miss c k hfind]
      exact hf.cons _
    | some it =>
      simp only [Lru.step, get_hit c k it hfind, List.map_cons, (find_key hfind).1]
      exact hf.cons_cons _

/-- the resident keys are upward closed: every key whose last use is a `Put` later than the last use of a resident key
    is resident -/
def UpClosed (c : Lru) (hist : List LruOp) : Prop :=
  ∀ k' ∈ c.items.map (·.key), ∀ k, lastUse hist k' < lastUse hist k → lastIsPut hist k = true →
    k ∈ c.items.map (·.key)

theorem step_upClosed (op : LruOp) (h : UpClosed c hist) :
    UpClosed (c.step op).1 (hist ++ [op]) := by
  intro k' hk' k hlt hput
  have hlt' := hlt
  rw [lastUse_snoc, lastUse_snoc] at hlt
  rw [lastIsPut_snoc] at hput
  -- nothing is more recent than the key just used, so it is not `k'`
  have e' : ¬ op.key = k' := by
    intro e'
    have h1 : lastUse (hist ++ [op]) k' = hist.length + 1 := by rw [lastUse_snoc, if_pos e']
    have h2 := lastUse_le (hist ++ [op]) k
    rw [List.length_append, List.length_singleton] at h2
    omega
  rw [if_neg e'] at hlt
  cases op with
  | get q =>
    have e : ¬ (LruOp.get q).key = k := fun e => by rw [if_pos e] at hput; cases hput
    rw [if_neg e] at hlt hput
    exact (mem_get_keys c q k).2 (h k' ((mem_get_keys c q k').1 hk') k hlt hput)
  | put q bm size =>
    have hpre := (put_prefix c q bm size).map (·.key)
    by_cases e : (LruOp.put q bm size).key = k
    · -- the key just put heads the new list; the survivors are a non-empty prefix of it
      exact (show q = k from e) ▸ prefix_head hpre (List.ne_nil_of_mem hk')
    · rw [if_neg e] at hlt hput
      -- `k'` was resident before, so `k` was too and is in the new list, ranked above `k'`: the prefix has it
      have hk'0 := ((mem_putList_keys c q bm size k').1 (hpre.subset hk')).resolve_left e'
      have hkin := (mem_putList_keys c q bm size k).2 (Or.inr ⟨h k' hk'0.1 k hlt hput, fun e2 => e e2.symm⟩)
      exact prefix_closed _ hpre (putList_sorted c hist hsub q bm size) k k' hk' hkin hlt'

end

/-- what the history `hist` leaves in the cache `c` -/
structure Tracks (c : Lru) (hist : List LruOp) : Prop where
  /-- the resident keys, front to back, are a sublist of the last-use order -/
  sub : (c.items.map (·.key)).Sublist (recency hist)
  item : ResidentItem c hist
  up : UpClosed c hist

theorem tracks_run (max ovh : Nat) (ops : List LruOp) : Tracks ((Lru.empty max ovh).run ops).1 ops := by
  have h0 : Tracks (Lru.empty max ovh) [] := ⟨List.Sublist.slnil, empty_residentItem max ovh, fun _ h => nomatch h⟩
  exact ops.nil_append ▸ run_induction
    (fun c hist op h => ⟨step_recency c hist h.sub op, step_residentItem c hist op h.item, step_upClosed c hist h.sub op h.up⟩)
    _ [] ops h0

end Updog
