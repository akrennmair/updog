/-
Helper lemmas for C18 (permutation invariance and the boundary examples):
* renaming the rows of a dataset by an explicit permutation of the row ids,
* the specification (`specCount`, `specSchema`, `specGroups`, `specExecute`) and the hypotheses of C01/C02 do not
  depend on the order of the rows,
* the written (insertion ordered) schema of two permuted datasets: same columns, same value lists up to order,
* a round-robin schedule of two goroutines, and the exact sizes of the committed / pending bucket for rows with one
  pair each.
-/
import Updog.Proofs.C18Big
import Updog.Props.C02
import Updog.Props.C01Writers
namespace Updog

/-! ### renaming the row ids -/

/-- the dataset whose row `i` is row `p[i]` of `rows` (`p` a permutation of the row ids `0 … rows.length-1`) -/
def permRows (p : List Nat) (rows : List Row) : List Row := p.map fun i => (rows[i]?).getD []

theorem permRows_length (p : List Nat) (rows : List Row) : (permRows p rows).length = p.length := by
  simp [permRows]

theorem map_getD_range (rows : List Row) : (List.range rows.length).map (fun i => (rows[i]?).getD []) = rows := by
  apply List.ext_getElem?
  intro i
  by_cases hi : i < rows.length
  · simp [hi]
  · rw [List.getElem?_eq_none (by simpa using hi), List.getElem?_eq_none (by omega)]

theorem permRows_perm (p : List Nat) (rows : List Row) (hp : p.Perm (List.range rows.length)) :
    (permRows p rows).Perm rows := by
  have := hp.map fun i => (rows[i]?).getD []
  rwa [map_getD_range] at this

theorem permRows_getElem? (p : List Nat) (rows : List Row) (i : Nat) (hi : i < p.length) :
    (permRows p rows)[i]? = some ((rows[p[i]]?).getD []) := by
  simp [permRows, hi]

section
variable (H : Bytes → UInt64)

theorem rowHas_permRows (p : List Nat) (rows : List Row) (h : UInt64) (i : Nat) (hi : i < p.length) :
    rowHas H (permRows p rows) h i = rowHas H rows h p[i] := by
  unfold rowHas
  rw [permRows_getElem? p rows i hi]
  cases rows[p[i]]? <;> simp

/-! ### the specification does not depend on the order of the rows -/

theorem columnsOf_perm {rows₁ rows₂ : List Row} (hp : rows₁.Perm rows₂) : (columnsOf rows₁).Perm (columnsOf rows₂) :=
  hp.flatMap_right _

theorem pairsOf_perm {rows₁ rows₂ : List Row} (hp : rows₁.Perm rows₂) : (pairsOf rows₁).Perm (pairsOf rows₂) :=
  hp.flatMap_right _

theorem hashIn_perm {rows₁ rows₂ : List Row} (hp : rows₁.Perm rows₂) (h : UInt64) :
    hashIn H rows₁ h = hashIn H rows₂ h := by
  unfold hashIn
  rw [Bool.eq_iff_iff, List.any_eq_true, List.any_eq_true]
  constructor
  · rintro ⟨r, hr, x⟩; exact ⟨r, hp.mem_iff.mp hr, x⟩
  · rintro ⟨r, hr, x⟩; exact ⟨r, hp.mem_iff.mpr hr, x⟩

theorem specCount_perm {rows₁ rows₂ : List Row} (hp : rows₁.Perm rows₂) (e : Expr) :
    specCount rows₁ e = specCount rows₂ e :=
  (hp.filter _).length_eq

theorem groupCount_perm {rows₁ rows₂ : List Row} (hp : rows₁.Perm rows₂) (e : Expr) (t : Fields) :
    groupCount rows₁ e t = groupCount rows₂ e t :=
  (hp.filter _).length_eq

theorem sortedDistinct_perm {rows₁ rows₂ : List Row} (hp : rows₁.Perm rows₂) (c : Bytes) :
    sortedDistinct rows₁ c = sortedDistinct rows₂ c := by
  apply StrictSorted.eq_of_mem_iff (sortedDistinct_strictSorted rows₁ c) (sortedDistinct_strictSorted rows₂ c)
  intro x
  rw [mem_sortedDistinct, mem_sortedDistinct]
  exact (pairsOf_perm hp).mem_iff

theorem sortedColumns_perm {rows₁ rows₂ : List Row} (hp : rows₁.Perm rows₂) :
    (columnsOf rows₁).eraseDups.mergeSort (fun a b => bytesLe a b)
      = (columnsOf rows₂).eraseDups.mergeSort (fun a b => bytesLe a b) := by
  apply StrictSorted.eq_of_mem_iff (strictSorted_mergeSort (nodup_eraseDups _))
    (strictSorted_mergeSort (nodup_eraseDups _))
  intro x
  rw [List.mem_mergeSort, List.mem_mergeSort, List.mem_eraseDups, List.mem_eraseDups]
  exact (columnsOf_perm hp).mem_iff

theorem specSchema_perm {rows₁ rows₂ : List Row} (hp : rows₁.Perm rows₂) : specSchema rows₁ = specSchema rows₂ := by
  unfold specSchema
  rw [sortedColumns_perm hp]
  apply List.map_congr_left
  intro c _
  rw [sortedDistinct_perm hp]

theorem specGroups_perm {rows₁ rows₂ : List Row} (hp : rows₁.Perm rows₂) (e : Expr) (cols : List Bytes) :
    specGroups rows₁ e cols = specGroups rows₂ e cols := by
  unfold specGroups
  have h1 : (fun c => !(columnsOf rows₁).contains c) = fun c => !(columnsOf rows₂).contains c := by
    funext c; rw [(columnsOf_perm hp).contains_eq]
  have h2 : (fun c => (c, sortedDistinct rows₁ c)) = fun c => (c, sortedDistinct rows₂ c) := by
    funext c; rw [sortedDistinct_perm hp]
  have h3 : (fun t => let n := groupCount rows₁ e t; if n = 0 then none else some (t, n))
      = fun t => let n := groupCount rows₂ e t; if n = 0 then none else some (t, n) := by
    funext t; simp only [groupCount_perm hp]
  rw [h1, h2, h3]

theorem specExecute_perm {rows₁ rows₂ : List Row} (hp : rows₁.Perm rows₂) (q : Query) :
    specExecute rows₁ q = specExecute rows₂ q := by
  unfold specExecute
  have h1 : (fun c => !(columnsOf rows₁).contains c) = fun c => !(columnsOf rows₂).contains c := by
    funext c; rw [(columnsOf_perm hp).contains_eq]
  rw [h1, specGroups_perm hp, specCount_perm hp]

theorem noCollision_perm {rows₁ rows₂ : List Row} (hp : rows₁.Perm rows₂) (qs : List (Bytes × Bytes))
    (h : NoCollision H rows₁ qs) : NoCollision H rows₂ qs :=
  fun p hp' q hq => h p ((pairsOf_perm hp).mem_iff.mpr hp') q hq

theorem dataNoCollision_perm {rows₁ rows₂ : List Row} (hp : rows₁.Perm rows₂) (h : DataNoCollision H rows₁) :
    DataNoCollision H rows₂ :=
  fun p hp' q hq => h p ((pairsOf_perm hp).mem_iff.mpr hp') q ((pairsOf_perm hp).mem_iff.mpr hq)

/-- **The total count does not depend on the order of the rows**: under the hypotheses of `C01.count_correct` for
    `rows₁`, the index written from any permutation of them counts the rows of `rows₁` that satisfy `e`. -/
theorem count_correct_perm {rows₁ rows₂ : List Row} (hp : rows₁.Perm rows₂) (e : Expr)
    (hcols : ∀ c ∈ e.columns, c ∈ columnsOf rows₁) (hwf : e.arityPos = true) (hinj : NoCollision H rows₁ e.pairs) :
    execute H (Writer.addRows H {} rows₂).toIndex ⟨e, []⟩ = some ⟨specCount rows₁ e, []⟩ := by
  rw [specCount_perm hp]
  exact C01.count_correct H rows₂ e (fun c hc => (columnsOf_perm hp).mem_iff.mp (hcols c hc)) hwf
    (noCollision_perm H hp _ hinj)

/-- … and neither does the whole answer (hypotheses of `C02.groupBy_eq_spec` for `rows₁`) -/
theorem groupBy_eq_spec_perm {rows₁ rows₂ : List Row} (hp : rows₁.Perm rows₂) (e : Expr) (cols : List Bytes)
    (hcols : ∀ c ∈ e.columns, c ∈ columnsOf rows₁) (hwf : e.arityPos = true) (hinj : NoCollision H rows₁ e.pairs)
    (hD : DataNoCollision H rows₁) (hg : ∀ c ∈ cols, c ∈ columnsOf rows₁) :
    execute H (Writer.addRows H {} rows₂).toIndex ⟨e, cols⟩ = specExecute rows₁ ⟨e, cols⟩ := by
  rw [specExecute_perm hp]
  exact C02.groupBy_eq_spec H rows₂ e cols (fun c hc => (columnsOf_perm hp).mem_iff.mp (hcols c hc)) hwf
    (noCollision_perm H hp _ hinj) (dataNoCollision_perm H hp hD) (fun c hc => (columnsOf_perm hp).mem_iff.mp (hg c hc))

/-! ### the written schema of permuted datasets -/

theorem schema_col_isSome_perm {rows₁ rows₂ : List Row} (hp : rows₁.Perm rows₂) (c : Bytes) :
    ((Writer.addRows H {} rows₁).schema.col c).isSome = ((Writer.addRows H {} rows₂).schema.col c).isSome := by
  rw [schema_col_isSome, schema_col_isSome, (columnsOf_perm hp).contains_eq]

theorem nodup_of_map {α β} (f : α → β) (l : List α) (h : (l.map f).Nodup) : l.Nodup := by
  have := List.pairwise_map.mp h
  exact this.imp fun hne e => hne (congrArg f e)

theorem schema_col_perm {rows₁ rows₂ : List Row} (hp : rows₁.Perm rows₂) (c : Bytes)
    (vs₁ vs₂ : List (Bytes × UInt64)) (h₁ : (Writer.addRows H {} rows₁).schema.col c = some vs₁)
    (h₂ : (Writer.addRows H {} rows₂).schema.col c = some vs₂) : vs₁.Perm vs₂ := by
  have ok₁ := schema_col_some H rows₁ c vs₁ h₁
  have ok₂ := schema_col_some H rows₂ c vs₂ h₂
  have key : ∀ (rs rs' : List Row) (ws ws' : List (Bytes × UInt64)), ColOK H c ws (pairsOf rs) →
      ColOK H c ws' (pairsOf rs') → (∀ x, x ∈ pairsOf rs ↔ x ∈ pairsOf rs') → ∀ x, x ∈ ws → x ∈ ws' := by
    intro rs rs' ws ws' k k' hm x hx
    have h1 : x.1 ∈ ws.map (·.1) := List.mem_map.mpr ⟨x, hx, rfl⟩
    have h2 : x.1 ∈ ws'.map (·.1) := (k'.mem x.1).mpr ((hm _).mp ((k.mem x.1).mp h1))
    obtain ⟨y, hy, e⟩ := List.mem_map.mp h2
    have : y = x := by
      apply Prod.ext e
      rw [k'.hash y hy, k.hash x hx, e]
    rw [← this]; exact hy
  rw [List.perm_ext_iff_of_nodup (nodup_of_map _ _ ok₁.nodup) (nodup_of_map _ _ ok₂.nodup)]
  intro x
  exact ⟨key rows₁ rows₂ vs₁ vs₂ ok₁ ok₂ (fun _ => (pairsOf_perm hp).mem_iff) x,
    key rows₂ rows₁ vs₂ vs₁ ok₂ ok₁ (fun _ => (pairsOf_perm hp).mem_iff.symm) x⟩

theorem schema_keys_perm {rows₁ rows₂ : List Row} (hp : rows₁.Perm rows₂) :
    ((Writer.addRows H {} rows₁).schema.map (·.1)).Perm ((Writer.addRows H {} rows₂).schema.map (·.1)) := by
  rw [List.perm_ext_iff_of_nodup (C05.schema_keys_nodup H rows₁) (C05.schema_keys_nodup H rows₂)]
  intro c
  rw [C05.mem_schema_keys, C05.mem_schema_keys]
  exact (columnsOf_perm hp).mem_iff

/-! ### rows with one pair each: the exact sizes of the committed and the pending bucket -/

/-- the key of the next row is not in the bucket yet: all keys there carry smaller row ids -/
theorem BInv.fresh {w : BigWriter} {rows : List Row} (hw : BInv H w rows) (hlen : rows.length < 2 ^ 32) (h : UInt64) :
    tempKey h.toNat w.next ∉ w.temp := by
  intro hm
  obtain ⟨h', j', g1, g2⟩ := (hw.temp _).mp hm
  have b := rowHas_lt H rows h' j' g1
  have := (tempKey_inj _ _ _ _ h.toNat_lt h'.toNat_lt (by rw [hw.next]; omega) (by omega) g2).2
  rw [hw.next] at this
  omega

theorem big_temp_length_singletons (rows : List Row) (hs : ∀ r ∈ rows, ∃ kv, r = [kv]) (hlen : rows.length ≤ 2 ^ 32) :
    (BigWriter.addRows H {} rows).temp.length = rows.length :=
  (foldl_snoc_inv (P := fun w xs => BInv H w xs ∧ (xs.length ≤ 2 ^ 32 → w.temp.length = xs.length)) rows
    (fun w xs r hr ⟨hw, hl⟩ => ⟨hw.addRow H r, fun hx => by
      obtain ⟨kv, rfl⟩ := hs r hr
      rw [List.length_append, List.length_singleton] at hx ⊢
      show (insertKey w.temp _).length = _
      rw [insertKey, if_neg (mt List.contains_iff_mem.mp (hw.fresh H (by omega) _)), List.length_append,
        hl (by omega)]
      rfl⟩)
    (xs := []) ⟨BInv.init H, fun _ => rfl⟩).2 hlen

theorem TxSim.sizes_singletons {st : BigWriterTx} {rows : List Row} (sim : TxSim H st rows)
    (hs : ∀ r ∈ rows, ∃ kv, r = [kv]) (hlen : rows.length ≤ 2 ^ 32) :
    st.committed.length = committedRows rows.length ∧
    st.pending.length = rows.length - committedRows rows.length := by
  have hc := committedRows_le rows.length
  have h1 : st.committed.length = committedRows rows.length := by
    rw [sim.committed, big_temp_length_singletons H _ (fun r hr => hs r (List.mem_of_mem_take hr))
      (by rw [List.length_take]; omega), List.length_take]
    omega
  have h2 : (st.committed ++ st.pending).length = rows.length := by
    have : st.committed ++ st.pending = (BigWriter.addRows H {} rows).temp := congrArg BigWriter.temp sim.big
    rw [this, big_temp_length_singletons H rows hs hlen]
  rw [List.length_append] at h2
  exact ⟨h1, by omega⟩

end

/-! ### a round-robin schedule of two goroutines -/

namespace C18

/-- `n` rounds in which goroutine 0 and then goroutine 1 run one call -/
def rrSched : Nat → List Nat
  | 0 => []
  | n + 1 => 0 :: 1 :: rrSched n

/-- the calls `rrSched n` executes when goroutine 0 adds copies of `a` and goroutine 1 copies of `b` -/
def rrCalls (a b : Row) : Nat → List (Nat × Row)
  | 0 => []
  | n + 1 => (0, a) :: (1, b) :: rrCalls a b n

theorem rrCalls_length (a b : Row) (n : Nat) : (rrCalls a b n).length = 2 * n := by
  induction n with
  | zero => rfl
  | succ n ih => simp only [rrCalls, List.length_cons, ih]; omega

theorem rrCalls_rows (a b : Row) (n : Nat) : ∀ r ∈ (rrCalls a b n).map (·.2), r = a ∨ r = b := by
  induction n with
  | zero => simp [rrCalls]
  | succ n ih =>
    intro r hr
    simp only [rrCalls, List.map_cons, List.mem_cons] at hr
    rcases hr with h | h | h
    · exact .inl h
    · exact .inr h
    · exact ih r h

theorem interleave_rr (a b : Row) (n : Nat) :
    interleave (rrSched n) [List.replicate n a, List.replicate n b] = (rrCalls a b n, [[], []]) := by
  induction n with
  | zero => rfl
  | succ n ih =>
    simp only [rrSched, rrCalls, List.replicate_succ, interleave, List.getElem?_cons_zero,
      List.set_cons_zero, List.getElem?_cons_succ, List.set_cons_succ, ih]

/-- an odd number of calls: goroutine 0 runs one call first -/
theorem interleave_rr_odd (a b : Row) (n : Nat) :
    interleave (0 :: rrSched n) [a :: List.replicate n a, List.replicate n b]
      = ((0, a) :: rrCalls a b n, [[], []]) := by
  simp only [interleave, List.getElem?_cons_zero, List.set_cons_zero, interleave_rr]

/-- `n` calls whose rows are copies of two one-pair rows: ids, commit count, sizes of the committed / pending bucket -/
theorem sizes_two_rows (H : Bytes → UInt64) (a b : Row) (hA : ∃ kv, a = [kv]) (hB : ∃ kv, b = [kv])
    (calls : List (Nat × Row)) (hrows : ∀ r ∈ calls.map (·.2), r = a ∨ r = b) (n : Nat) (hl : calls.length = n)
    (hn : n ≤ 2 ^ 32) :
    calls.length = n ∧ (runCallsBigTx H {} calls).1 = List.range n ∧
    (runCallsBigTx H {} calls).2.commits = commitCount n ∧
    (runCallsBigTx H {} calls).2.committed.length = committedRows n ∧
    (runCallsBigTx H {} calls).2.pending.length = n - committedRows n := by
  subst hl
  have sim := txSim_runCalls H calls
  have hs : ∀ r ∈ calls.map (·.2), ∃ kv, r = [kv] := fun r hr => (hrows r hr).elim (· ▸ hA) (· ▸ hB)
  have hz := sim.sizes_singletons H hs (by rwa [List.length_map])
  have hc := sim.commits
  rw [List.length_map] at hz hc
  exact ⟨rfl, runCallsBigTx_ids_fresh H calls, hc, hz.1, hz.2⟩

end C18
end Updog
