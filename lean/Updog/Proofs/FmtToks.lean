/-
Token-level view of the formatter and the lexer lemma:
`lexAll (fmtExpr e ++ rest) = toksE e ++ lexAll rest` for well-formed trees.
-/
import Updog.Proofs.Quote
import Updog.Proofs.Digits
namespace Updog

/-! ### well-formedness -/

/-- a column / group-by name the lexer reads back as one `field` token -/
def validIdent : Bytes → Bool
  | [] => false
  | h :: t => isAlpha h && t.all isFieldChar

mutual
/-- well-formed expression: valid column names, non-empty AND/OR, placeholder numbers in int32 range
    (`ph = 0` means a literal value, which may be any byte string) -/
def WFE : PExpr → Prop
  | .eq c _ ph => validIdent c = true ∧ ph ≤ 2147483647
  | .not e => WFE e
  | .and es => es ≠ [] ∧ WFL es
  | .or es => es ≠ [] ∧ WFL es
def WFL : List PExpr → Prop
  | [] => True
  | e :: es => WFE e ∧ WFL es
end

structure WFQ (q : PQuery) : Prop where
  expr : WFE q.expr
  fields : ∀ f ∈ q.groupBy, validIdent f = true

/-! ### AND and OR as one operator with a parameter -/

def sepTok : Bool → Tok | false => .and | true => .or
def sepBytes : Bool → Bytes | false => [32, 38, 32] | true => [32, 124, 32]
/-- `isOp false` = is an AND node, `isOp true` = is an OR node -/
def isOp : Bool → PExpr → Bool | false, e => isAnd e | true, e => isOr e
def mkOp : Bool → List PExpr → PExpr | false, es => .and es | true, es => .or es

theorem WFE_mkOp (o : Bool) (es : List PExpr) : WFE (mkOp o es) ↔ es ≠ [] ∧ WFL es := by
  cases o <;> simp [mkOp, WFE]

/-- Induction on `PExpr` together with its operand lists; AND and OR are one case. -/
theorem PExpr.induction {P : PExpr → Prop} {Q : List PExpr → Prop}
    (eq : ∀ c v ph, P (.eq c v ph)) (not : ∀ e, P e → P (.not e))
    (op : ∀ o es, Q es → P (mkOp o es))
    (nil : Q []) (cons : ∀ e es, P e → Q es → Q (e :: es)) : (∀ e, P e) ∧ (∀ es, Q es) :=
  ⟨fun e => PExpr.rec (motive_1 := P) (motive_2 := Q) eq not (op false) (op true) nil cons e,
   fun es => PExpr.rec_1 (motive_1 := P) (motive_2 := Q) eq not (op false) (op true) nil cons es⟩

/-- `fmtAnd` / `fmtOr` as one function -/
def fmtCh (o : Bool) : List PExpr → Bytes
  | [] => []
  | [e] => parens (isOp (!o) e) (fmtExpr e)
  | e :: es => parens (isOp (!o) e) (fmtExpr e) ++ sepBytes o ++ fmtCh o es

theorem fmtCh_single (o : Bool) (e : PExpr) : fmtCh o [e] = parens (isOp (!o) e) (fmtExpr e) := rfl
theorem fmtCh_cons2 (o : Bool) (e e' : PExpr) (es : List PExpr) :
    fmtCh o (e :: e' :: es) = parens (isOp (!o) e) (fmtExpr e) ++ sepBytes o ++ fmtCh o (e' :: es) := rfl

theorem fmtAnd_eq (es : List PExpr) : fmtAnd es = fmtCh false es := by
  induction es with
  | nil => rfl
  | cons e es ih =>
    cases es with
    | nil => rfl
    | cons e' es => rw [fmtAnd, ih, fmtCh_cons2]; rfl; simp

theorem fmtOr_eq (es : List PExpr) : fmtOr es = fmtCh true es := by
  induction es with
  | nil => rfl
  | cons e es ih =>
    cases es with
    | nil => rfl
    | cons e' es => rw [fmtOr, ih, fmtCh_cons2]; rfl; simp

theorem fmtExpr_mkOp (o : Bool) (es : List PExpr) : fmtExpr (mkOp o es) = fmtCh o es := by
  cases o
  · rw [mkOp, fmtExpr, fmtAnd_eq]
  · rw [mkOp, fmtExpr, fmtOr_eq]

/-! ### token-level formatter -/

def ptoks (b : Bool) (ts : List Tok) : List Tok := if b then .lparen :: ts ++ [.rparen] else ts

def leafTok (v : Bytes) (ph : Nat) : Tok :=
  if ph > 0 then .placeholder (natDigits ph) else .value (escape v)

mutual
/-- the tokens of `fmtExpr e` -/
def toksE : PExpr → List Tok
  | .eq c v ph => [.field c, .eq, leafTok v ph]
  | .not e => .not :: ptoks (isAnd e || isOr e) (toksE e)
  | .and es => toksCh false es
  | .or es => toksCh true es
/-- the tokens of `fmtCh o es` -/
def toksCh (o : Bool) : List PExpr → List Tok
  | [] => []
  | [e] => ptoks (isOp (!o) e) (toksE e)
  | e :: es => ptoks (isOp (!o) e) (toksE e) ++ sepTok o :: toksCh o es
end

theorem toksCh_single (o : Bool) (e : PExpr) : toksCh o [e] = ptoks (isOp (!o) e) (toksE e) := by
  rw [toksCh]
theorem toksCh_cons2 (o : Bool) (e e' : PExpr) (es : List PExpr) :
    toksCh o (e :: e' :: es) = ptoks (isOp (!o) e) (toksE e) ++ sepTok o :: toksCh o (e' :: es) := by
  rw [toksCh]; simp

theorem toksE_mkOp (o : Bool) (es : List PExpr) : toksE (mkOp o es) = toksCh o es := by
  cases o <;> rw [mkOp, toksE]

def toksFields : List Bytes → List Tok
  | [] => []
  | [f] => [.field f]
  | f :: fs => .field f :: .comma :: toksFields fs

/-- the tokens of `fmtQuery q` (without the final `eof`) -/
def toksQ (q : PQuery) : List Tok :=
  toksE q.expr ++ (if q.groupBy.isEmpty then [] else .semi :: toksFields q.groupBy)

/-! ### lexemes as the formatter prints them -/

theorem lexAll_identField {c rest : Bytes} (hc : validIdent c = true)
    (hr : ∀ x, rest.head? = some x → isFieldChar x = false) :
    lexAll (c ++ rest) = .field c :: lexAll rest := by
  cases c with
  | nil => cases hc
  | cons h t =>
    rw [validIdent, Bool.and_eq_true, List.all_eq_true] at hc
    exact lexAll_field hc.1 hc.2 hr

theorem lexAll_quoteValue (v : Bytes) {rest : Bytes} (hr : rest.head? ≠ some 34) :
    lexAll (quoteValue v ++ rest) = .value (escape v) :: lexAll rest := by
  rw [quoteValue_eq, List.append_assoc]
  exact lexAll_value (strBody_escape v) hr

theorem lexAll_blank (r : Bytes) : lexAll (32 :: r) = lexAll r := lexAll_cons_space rfl r

theorem lexAll_sep (o : Bool) (r : Bytes) : lexAll (sepBytes o ++ r) = sepTok o :: lexAll r := by
  cases o
  · exact (lexAll_blank _).trans ((lexAll_and _).trans (congrArg _ (lexAll_blank r)))
  · exact (lexAll_blank _).trans ((lexAll_or _).trans (congrArg _ (lexAll_blank r)))

/-! ### the lexer inverts the formatter on well-formed trees -/

/-- what may follow a formatted expression: end of input or a space -/
def Sep (rest : Bytes) : Prop := rest = [] ∨ ∃ r, rest = 32 :: r

theorem Sep.cons32 (r : Bytes) : Sep (32 :: r) := Or.inr ⟨r, rfl⟩
theorem Sep.nil : Sep [] := Or.inl rfl

theorem Sep.head {rest : Bytes} (h : Sep rest) {x : UInt8} (hx : rest.head? = some x) : x = 32 := by
  rcases h with rfl | ⟨r, rfl⟩
  · cases hx
  · cases hx; rfl

theorem Sep.notField {rest : Bytes} (h : Sep rest) : ∀ x r, rest = x :: r → isFieldChar x = false := by
  intro x r hx
  rw [h.head (x := x) (by rw [hx]; rfl)]; rfl

theorem sep_sepBytes (o : Bool) (r : Bytes) : Sep (sepBytes o ++ r) := by
  cases o <;> exact Sep.cons32 _

/-- the lexing statement for one formatted piece -/
def LexOK (bs : Bytes) (ts : List Tok) : Prop :=
  ∀ rest, Sep rest → lexAll (bs ++ rest) = ts ++ lexAll rest

theorem LexOK.parens {bs : Bytes} {ts : List Tok} (h : LexOK bs ts) (b : Bool) :
    LexOK (parens b bs) (ptoks b ts) := by
  intro rest hr
  cases b with
  | false => exact h rest hr
  | true =>
    simp only [Updog.parens, ptoks, if_true, List.cons_append, List.nil_append, List.append_assoc]
    rw [lexAll_lparen, lexAll_blank, h _ (Sep.cons32 _), lexAll_blank, lexAll_rparen]

theorem lexOK_leaf (c v : Bytes) (ph : Nat) (hc : validIdent c = true) :
    LexOK (fmtExpr (.eq c v ph)) (toksE (.eq c v ph)) := by
  intro rest hr
  have hid : ∀ t, lexAll (c ++ 32 :: 61 :: 32 :: t) = .field c :: .eq :: lexAll t := fun t => by
    rw [lexAll_identField hc (fun x hx => by cases hx; rfl), lexAll_blank, lexAll_eq, lexAll_blank]
  simp only [fmtExpr, toksE, leafTok]
  split
  · simp only [List.append_assoc, List.cons_append, List.nil_append]
    rw [hid, ← List.cons_append,
      lexAll_placeholder (natDigits_all_digit ph) (fun x hx => by rw [hr.head hx]; rfl)]
  · simp only [List.append_assoc, List.cons_append, List.nil_append]
    rw [hid, lexAll_quoteValue v (fun hx => by cases hr.head hx)]

theorem lexOK_not (e : PExpr) (h : LexOK (fmtExpr e) (toksE e)) :
    LexOK (fmtExpr (.not e)) (toksE (.not e)) := by
  intro rest hr
  simp only [fmtExpr, toksE, List.cons_append, List.nil_append]
  rw [lexAll_not, lexAll_blank, h.parens _ rest hr]

theorem lexOK_cons (e : PExpr) (es : List PExpr) (h : LexOK (fmtExpr e) (toksE e))
    (hs : ∀ o, LexOK (fmtCh o es) (toksCh o es)) (o : Bool) :
    LexOK (fmtCh o (e :: es)) (toksCh o (e :: es)) := by
  cases es with
  | nil => rw [fmtCh_single, toksCh_single]; exact h.parens _
  | cons e' es =>
    intro rest hr
    rw [fmtCh_cons2, toksCh_cons2]
    simp only [List.append_assoc]
    rw [h.parens _ _ (sep_sepBytes _ _), lexAll_sep, hs o rest hr]
    simp

theorem lexOK_expr : (∀ e, WFE e → LexOK (fmtExpr e) (toksE e)) ∧
    (∀ es, WFL es → ∀ o, LexOK (fmtCh o es) (toksCh o es)) := by
  refine PExpr.induction ?_ ?_ ?_ ?_ ?_
  · exact fun c v ph hw => lexOK_leaf c v ph hw.1
  · exact fun e ih hw => lexOK_not e (ih hw)
  · intro o es ih hw
    rw [fmtExpr_mkOp, toksE_mkOp]
    exact ih ((WFE_mkOp o es).mp hw).2 o
  · exact fun _ o rest _ => by rw [fmtCh, toksCh]; rfl
  · exact fun e es ihe ihs hw o => lexOK_cons e es (ihe hw.1) (ihs hw.2) o

theorem lexAll_joinFields (fs : List Bytes) (h : ∀ f ∈ fs, validIdent f = true) :
    lexAll (joinFields fs) = toksFields fs ++ [.eof] := by
  induction fs with
  | nil => exact lexAll_nil
  | cons f fs ih =>
    cases fs with
    | nil =>
      have := lexAll_identField (rest := []) (h f List.mem_cons_self) (fun x hx => by cases hx)
      rwa [List.append_nil, lexAll_nil] at this
    | cons f' fs =>
      have ih' := ih (fun g hg => h g (List.mem_cons_of_mem _ hg))
      rw [joinFields, toksFields]
      · simp only [List.append_assoc, List.cons_append, List.nil_append]
        rw [lexAll_identField (h f List.mem_cons_self) (fun x hx => by cases hx; rfl),
          lexAll_comma, lexAll_blank, ih']
      · simp
      · simp

theorem lexAll_fmtQuery (q : PQuery) (hq : WFQ q) : lexAll (fmtQuery q) = toksQ q ++ [.eof] := by
  unfold fmtQuery toksQ
  cases hg : q.groupBy with
  | nil =>
    have := lexOK_expr.1 q.expr hq.expr [] Sep.nil
    simpa [lexAll_nil] using this
  | cons f fs =>
    have hf := lexAll_joinFields (f :: fs) (by rw [← hg]; exact hq.fields)
    simp only [List.isEmpty_cons, Bool.false_eq_true, if_false, List.append_assoc, List.cons_append,
      List.nil_append]
    rw [lexOK_expr.1 q.expr hq.expr _ (Sep.cons32 _), lexAll_blank, lexAll_semi, lexAll_blank, hf]

end Updog
