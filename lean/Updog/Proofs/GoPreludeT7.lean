/-
Lemmas about the primitives of `Updog/Basic/GoPreludeT7.lean`: `os.OpenFile` against the POSIX model of
`Updog/Model/OpenFlags.lean`, and `bbolt.Open` for the two option sets the code base uses.
-/
import Updog.GeneratedFns
import Updog.Proofs.GoPrelude
import Updog.Proofs.GoPreludeT3
import Updog.Model.OpenFlags
namespace Updog.Go.T7
open Updog.Go.T3

/-! ### files -/

theorem filesGet_set_same (fs : List (Bytes × Node)) (p : Bytes) (n : Node) : filesGet (filesSet fs p n) p = some n := by
  induction fs with
  | nil => simp [filesSet, filesGet]
  | cons e rest ih =>
    obtain ⟨q, m⟩ := e
    by_cases h : (q == p) = true
    · simp [filesSet, filesGet, h]
    · have h' : (q == p) = false := by simpa using h
      simp [filesSet, filesGet, h', ih]

theorem filesGet_set_other (fs : List (Bytes × Node)) (p q : Bytes) (n : Node) (h : p ≠ q) :
    filesGet (filesSet fs p n) q = filesGet fs q := by
  induction fs with
  | nil =>
    have : (p == q) = false := by simpa using h
    simp [filesSet, filesGet, this]
  | cons e rest ih =>
    obtain ⟨r, m⟩ := e
    by_cases hr : (r == p) = true
    · have e1 : r = p := by simpa using hr
      subst e1
      have : (r == q) = false := by simpa using h
      simp [filesSet, filesGet, this]
    · have hr' : (r == p) = false := by simpa using hr
      by_cases hq : (r == q) = true
      · simp [filesSet, filesGet, hr', hq]
      · have hq' : (r == q) = false := by simpa using hq
        simp [filesSet, filesGet, hr', hq', ih]

theorem Fs.get_set_same (fs : Fs) (p : Bytes) (n : Node) : (fs.set p n).get p = some n := filesGet_set_same _ _ _

theorem Fs.get_set_other (fs : Fs) (p q : Bytes) (n : Node) (h : p ≠ q) : (fs.set p n).get q = fs.get q :=
  filesGet_set_other _ _ _ _ h

theorem Fs.get_next (fs : Fs) (k : Nat) (p : Bytes) : ({ fs with next := k } : Fs).get p = fs.get p := rfl

/-! ### `os.OpenFile` is `posixOpen` of Model/OpenFlags.lean -/

theorem hasFlag_eq (flags f : Nat) : hasFlag flags f = Updog.hasFlag flags f := rfl

/-- **`os.OpenFile` of the prelude = `posixOpen` of the model**: it returns a descriptor exactly when `posixOpen` succeeds,
    and the path exists afterwards exactly when `posixOpen` says so; an existing file is never replaced. -/
theorem osOpenFile_posixOpen (fs : Fs) (path : Bytes) (flags mode : Nat) :
    (osOpenFile fs path flags mode).2 = (posixOpen (fs.get path).isSome flags).1 ∧
    ((osOpenFile fs path flags mode).1.get path).isSome = (posixOpen (fs.get path).isSome flags).2.1 ∧
    (∀ n, fs.get path = some n → (osOpenFile fs path flags mode).1 = fs) ∧
    (∀ q, q ≠ path → (osOpenFile fs path flags mode).1.get q = fs.get q) := by
  have e1 : Go.O_CREATE = Updog.O_CREAT := rfl
  have e2 : Go.O_EXCL = Updog.O_EXCL := rfl
  unfold osOpenFile posixOpen
  simp only [hasFlag_eq, e1, e2]
  cases hg : fs.get path with
  | some n =>
    simp only [Option.isSome_some, if_true]
    cases hc : (Updog.hasFlag flags Updog.O_CREAT && Updog.hasFlag flags Updog.O_EXCL) with
    | true => simp [hg]
    | false => simp [hg]
  | none =>
    simp only [Option.isSome_none, Bool.false_eq_true, if_false]
    cases hc : Updog.hasFlag flags Updog.O_CREAT with
    | true =>
      simp only [if_true, Fs.get_set_same, Option.isSome_some, true_and]
      refine ⟨?_, ?_⟩
      · intro n h; cases h
      · intro q hq; exact Fs.get_set_other _ _ _ _ (Ne.symm hq)
    | false => simp [hg]

theorem osOpenFile_fail (fs : Fs) (path : Bytes) (flags mode : Nat) (h : (osOpenFile fs path flags mode).2 = false) :
    (osOpenFile fs path flags mode).1 = fs := by
  unfold osOpenFile at h ⊢
  cases hg : fs.get path with
  | some n =>
    simp only [hg] at h ⊢
    split <;> simp_all
  | none =>
    simp only [hg] at h ⊢
    split <;> simp_all

/-! ### the flag words bbolt ends up with -/

/-- **`openfile.OpenFile` regenerated = the model's flag rewriting** (and = the two literals `Gen.excl` / `Gen.noCreate`
    translated separately): `FailIfFileExists` wins over `FailIfFileDoesntExist`; neither: `os.OpenFile` itself. -/
theorem openFile_eq (o : OpenFileOptions) (flags : Nat) :
    Gen.openFile o flags =
      if o.FailIfFileExists then failIfExistsFlags flags
      else if o.FailIfFileDoesntExist then mustExistFlags flags
      else flags := by
  unfold Gen.openFile
  cases o.FailIfFileExists <;> cases o.FailIfFileDoesntExist <;>
    simp [failIfExistsFlags, mustExistFlags, Go.andNot_eq, osOpenFileFn, Go.or] <;> rfl

theorem openFile_excl (flags : Nat) : Gen.openFile { FailIfFileExists := true } flags = Gen.excl flags := rfl
theorem openFile_noCreate (flags : Nat) : Gen.openFile { FailIfFileDoesntExist := true } flags = Gen.noCreate flags := rfl

/-- the flag word of the writers: `O_RDWR|O_CREATE|O_EXCL` -/
theorem writer_flags : Gen.openFile { FailIfFileExists := true } (Go.or O_RDWR Go.O_CREATE) = failIfExistsFlags boltWriteFlags := by
  rw [openFile_eq]; rfl

/-- the flag word of `OpenIndex`: `O_RDONLY` with `O_CREATE` cleared -/
theorem reader_flags : Gen.openFile { FailIfFileDoesntExist := true } O_RDONLY = mustExistFlags boltReadOnlyFlags := by
  rw [openFile_eq]; rfl

/-! ### `bbolt.Open` -/

/-- the record `bbolt.Open` leaves behind when it fails: closed, nothing committed, no transaction -/
def deadBolt (h : Nat) : Bolt := { id := h, closed := true }

/-- a freshly opened handle on content `c` -/
def freshBolt (h : Nat) (c : Buckets) : Bolt := { id := h, committed := c }

/-- the flag word `bbolt.Open` hands to `open(2)` -/
def openFlags (o : BoltOptions) : Nat :=
  (o.OpenFile.getD osOpenFileFn) (if o.ReadOnly then boltReadOnlyFlags else boltWriteFlags)

theorem boltOpen_flags (fs : Fs) (path : Bytes) (mode : Nat) (o : BoltOptions) :
    boltOpen fs path mode o =
      match osOpenFile { fs with next := fs.next + 1 } path (openFlags o) mode with
      | (fs', false) => (fs', deadBolt fs.next, none, errOpen)
      | (fs', true) =>
        match fs'.get path with
        | none => (fs', deadBolt fs.next, none, errOpen)
        | some node =>
          if flockBlocked o.ReadOnly node.locks then (fs', deadBolt fs.next, none, errWouldBlock)
          else
            match node.content with
            | .garbage => (fs', deadBolt fs.next, none, errInvalid)
            | .empty =>
              if o.ReadOnly then (fs', deadBolt fs.next, none, errInvalid)
              else (fs'.set path { node with content := .bolt [] }, freshBolt fs.next [], some fs.next, none)
            | .bolt c => (fs', freshBolt fs.next c, some fs.next, none) := by
  unfold boltOpen openFlags deadBolt freshBolt
  cases o.OpenFile <;> cases o.ReadOnly <;> rfl

/-- **`bbolt.Open` fails before it touches anything when `open(2)` fails** (`posixOpen` of Model/OpenFlags.lean on the
    flag word it ends up with): no descriptor, no lock, directory unchanged; only a handle identity is used up. -/
theorem boltOpen_open_fails (fs : Fs) (path : Bytes) (mode : Nat) (o : BoltOptions)
    (h : (posixOpen (fs.get path).isSome (openFlags o)).1 = false) :
    boltOpen fs path mode o = ({ fs with next := fs.next + 1 }, deadBolt fs.next, none, errOpen) := by
  rw [boltOpen_flags]
  have p1 := (osOpenFile_posixOpen { fs with next := fs.next + 1 } path (openFlags o) mode).1
  rw [Fs.get_next, h] at p1
  have p2 := osOpenFile_fail _ _ _ _ p1
  generalize osOpenFile { fs with next := fs.next + 1 } path (openFlags o) mode = r at p1 p2
  obtain ⟨fs', ok⟩ := r
  simp only at p1 p2
  subst p1 p2
  rfl

/-- **the read-only open of `OpenIndex`** (`ReadOnly: true`, `FailIfFileDoesntExist`): by the state of the path.
    The directory is never changed. -/
theorem boltOpen_reader (fs : Fs) (path : Bytes) (mode : Nat) :
    boltOpen fs path mode { ReadOnly := true, OpenFile := some (Gen.openFile { FailIfFileDoesntExist := true }) } =
      match fs.get path with
      | none => ({ fs with next := fs.next + 1 }, deadBolt fs.next, none, errOpen)
      | some n =>
        if n.locks.any (fun ex => ex) then ({ fs with next := fs.next + 1 }, deadBolt fs.next, none, errWouldBlock)
        else match n.content with
          | .bolt c => ({ fs with next := fs.next + 1 }, freshBolt fs.next c, some fs.next, none)
          | .empty => ({ fs with next := fs.next + 1 }, deadBolt fs.next, none, errInvalid)
          | .garbage => ({ fs with next := fs.next + 1 }, deadBolt fs.next, none, errInvalid) := by
  have hflag : Gen.openFile { FailIfFileDoesntExist := true } O_RDONLY = 0 := by rw [reader_flags]; rfl
  unfold boltOpen
  simp only [if_true, hflag, osOpenFile, Fs.get_next]
  have h0 : hasFlag 0 Go.O_CREATE = false := rfl
  cases hg : fs.get path with
  | none => simp [h0, deadBolt]
  | some n =>
    simp only [h0, Bool.false_and, Bool.false_eq_true, if_false, Fs.get_next, hg, flockBlocked, if_true]
    by_cases hl : (n.locks.any fun ex => ex) = true
    · simp [hl, deadBolt]
    · have hl' : (n.locks.any fun ex => ex) = false := by simpa using hl
      simp only [hl', Bool.false_eq_true, if_false]
      cases n.content <;> simp [deadBolt, freshBolt]

/-- **the exclusive create of the writers** (`FailIfFileExists`): any existing entry — index, garbage, empty, locked or
    not — makes it fail with nothing touched; an absent path is created and initialised as an empty bolt file. -/
theorem boltOpen_writer (fs : Fs) (path : Bytes) (mode : Nat) :
    boltOpen fs path mode { OpenFile := some (Gen.openFile { FailIfFileExists := true }) } =
      match fs.get path with
      | some _ => ({ fs with next := fs.next + 1 }, deadBolt fs.next, none, errOpen)
      | none => (({ fs with next := fs.next + 1 } : Fs).set path { content := .bolt [] }, freshBolt fs.next [], some fs.next, none) := by
  have hflag : Gen.openFile { FailIfFileExists := true } (Go.or O_RDWR Go.O_CREATE) = 194 := by rw [writer_flags]; rfl
  have h1 : hasFlag 194 Go.O_CREATE = true := by decide
  have h2 : hasFlag 194 Go.O_EXCL = true := by decide
  unfold boltOpen
  simp only [Bool.false_eq_true, if_false, hflag, osOpenFile, Fs.get_next, h1, h2, Bool.and_self, if_true]
  cases hg : fs.get path with
  | some n => simp [deadBolt]
  | none =>
    simp only [Fs.get_set_same, flockBlocked, Bool.false_eq_true, if_false, List.isEmpty_nil, Bool.not_true]
    simp only [freshBolt, Fs.set]
    congr 1
    simp only [Fs.mk.injEq, and_true]
    -- setting the same path twice
    generalize fs.files = l
    induction l with
    | nil => simp [filesSet]
    | cons e rest ih =>
      obtain ⟨q, m⟩ := e
      by_cases hq : (q == path) = true
      · simp [filesSet, hq]
      · have hq' : (q == path) = false := by simpa using hq
        simp [filesSet, hq', ih]

end Updog.Go.T7
